/-! List theory shared by the models: every model's insertion function is core's `List.merge [a]` (so its sort is
`insertionSort`) and every model's lookup is core's `List.lookup`; what core lacks about the two is here. -/
namespace Replicat
open List

section sort
variable {α : Type} {le : α → α → Bool}

def insertionSort (le : α → α → Bool) (l : List α) : List α := l.foldr (fun a s => merge [a] s le) []

theorem merge_singleton_cons (le : α → α → Bool) (a b : α) (l : List α) :
    merge [a] (b :: l) le = if le a b then a :: b :: l else b :: merge [a] l le := by
  rw [cons_merge_cons, nil_merge]

theorem insertionSort_cons (le : α → α → Bool) (a : α) (l : List α) :
    insertionSort le (a :: l) = merge [a] (insertionSort le l) le := rfl

theorem perm_insertionSort (le : α → α → Bool) (l : List α) : insertionSort le l ~ l := by
  induction l with
  | nil => exact Perm.refl _
  | cons a l ih => exact (merge_perm_append le).trans (ih.cons a)

theorem mem_insertionSort {a : α} {l : List α} : a ∈ insertionSort le l ↔ a ∈ l :=
  (perm_insertionSort le l).mem_iff

/-- `le` need only compare `a` with the members of `l`: a strict order on keys does, when the key of `a` is not in `l` -/
theorem pairwise_merge_singleton (trans : ∀ a b c, le a b = true → le b c = true → le a c = true) {a : α} {l : List α}
    (hc : ∀ b ∈ l, le a b = true ∨ le b a = true) (h : l.Pairwise (fun x y => le x y = true)) :
    (merge [a] l le).Pairwise (fun x y => le x y = true) := by
  induction l with
  | nil => exact (merge_right [a]).symm ▸ pairwise_singleton _ _
  | cons b l ih =>
    have hb := pairwise_cons.mp h
    rw [merge_singleton_cons]
    split
    · rename_i hab
      refine pairwise_cons.mpr ⟨fun c hc' => ?_, h⟩
      rcases mem_cons.mp hc' with rfl | hcl
      · exact hab
      · exact trans _ _ _ hab (hb.1 c hcl)
    · rename_i hab
      refine pairwise_cons.mpr ⟨fun c hc' => ?_, ih (fun c hcl => hc c (mem_cons_of_mem _ hcl)) hb.2⟩
      rcases mem_merge.mp hc' with hca | hcl
      · exact mem_singleton.mp hca ▸ (hc b mem_cons_self).resolve_left hab
      · exact hb.1 c hcl

theorem pairwise_insertionSort (trans : ∀ a b c, le a b = true → le b c = true → le a c = true) {l : List α}
    (hc : l.Pairwise (fun a b => le a b = true ∨ le b a = true)) : (insertionSort le l).Pairwise (fun x y => le x y = true) := by
  induction l with
  | nil => exact Pairwise.nil
  | cons a l ih =>
    have ha := pairwise_cons.mp hc
    exact pairwise_merge_singleton trans (fun b hb => ha.1 b (mem_insertionSort.mp hb)) (ih ha.2)

theorem insertionSort_of_pairwise {l : List α} (h : l.Pairwise (fun x y => le x y = true)) : insertionSort le l = l := by
  induction l with
  | nil => rfl
  | cons a l ih =>
    have ha := pairwise_cons.mp h
    rw [insertionSort_cons, ih ha.2]
    exact merge_of_le (fun x y hx hy => mem_singleton.mp hx ▸ ha.1 y hy)

end sort

theorem snoc_induction {α : Type} {motive : List α → Prop} (nil : motive [])
    (snoc : ∀ l a, motive l → motive (l ++ [a])) (l : List α) : motive l := by
  rw [← reverse_reverse l]
  induction l.reverse with
  | nil => exact nil
  | cons a r ih =>
    rw [reverse_cons]
    exact snoc _ a ih

theorem exists_mem_map {α β : Type} {f : α → β} {l : List α} {P : β → Prop} : (∃ y ∈ l.map f, P y) ↔ ∃ x ∈ l, P (f x) :=
  ⟨fun ⟨_, hy, h⟩ => let ⟨x, hx, e⟩ := mem_map.mp hy; ⟨x, hx, e ▸ h⟩, fun ⟨x, hx, h⟩ => ⟨f x, mem_map_of_mem hx, h⟩⟩

theorem takeWhile_eq_filter_of_prefixClosed {α : Type} (p : α → Bool) (l : List α)
    (h : l.Pairwise (fun a b => p b = true → p a = true)) : l.takeWhile p = l.filter p := by
  induction l with
  | nil => rfl
  | cons a l ih =>
    rw [pairwise_cons] at h
    by_cases hp : p a = true
    · rw [takeWhile_cons_of_pos hp, filter_cons_of_pos hp, ih h.2]
    · rw [takeWhile_cons_of_neg hp, filter_cons_of_neg hp]
      symm
      rw [filter_eq_nil_iff]
      intro x hx hpx
      exact hp (h.1 x hx hpx)

section assoc
variable {α β : Type} [BEq α] [LawfulBEq α]

theorem mem_of_lookup_eq_some {l : List (α × β)} {k : α} {v : β} (h : l.lookup k = some v) : (k, v) ∈ l := by
  obtain ⟨l₁, l₂, rfl, _⟩ := lookup_eq_some_iff.mp h
  exact mem_append_right _ mem_cons_self

theorem lookup_isSome_iff_mem_keys {l : List (α × β)} {k : α} : (l.lookup k).isSome = true ↔ k ∈ l.map (·.1) := by
  rw [lookup_isSome_iff, mem_map]
  exact exists_congr fun e => and_congr_right fun _ => beq_iff_eq.trans eq_comm

theorem lookup_eq_some_of_mem {l : List (α × β)} (hn : (l.map (·.1)).Nodup) {k : α} {v : β} (h : (k, v) ∈ l) :
    l.lookup k = some v := by
  obtain ⟨l₁, l₂, rfl⟩ := append_of_mem h
  rw [map_append, map_cons, nodup_append] at hn
  exact lookup_eq_some_iff.mpr
    ⟨l₁, l₂, rfl, fun p hp => bne_iff_ne.mpr (hn.2.2 p.1 (mem_map_of_mem hp) k mem_cons_self).symm⟩

variable [DecidableEq α]

theorem lookup_cons_eq_ite (e : α × β) (l : List (α × β)) (k : α) :
    (e :: l).lookup k = if e.1 = k then some e.2 else l.lookup k := by
  obtain ⟨a, b⟩ := e
  rw [lookup_cons]
  by_cases h : a = k
  · rw [if_pos h, h, beq_self_eq_true]
  · rw [if_neg h, beq_false_of_ne (Ne.symm h)]

theorem find?_key_eq_lookup (l : List (α × β)) (k : α) : (l.find? (fun e => e.1 == k)).map (·.2) = l.lookup k := by
  induction l with
  | nil => rfl
  | cons e l ih =>
    rw [find?_cons, lookup_cons_eq_ite]
    by_cases h : e.1 = k
    · rw [if_pos h, beq_iff_eq.mpr h]
      rfl
    · rw [if_neg h, beq_eq_false_iff_ne.mpr h]
      exact ih

theorem lookup_filter_key (p : α → Bool) (l : List (α × β)) (k : α) :
    (l.filter (fun e => p e.1)).lookup k = if p k = true then l.lookup k else none := by
  induction l with
  | nil => exact (ite_self _).symm
  | cons e l ih =>
    rw [lookup_cons_eq_ite]
    by_cases hp : p e.1 = true
    · rw [filter_cons_of_pos (p := fun e : α × β => p e.1) hp, lookup_cons_eq_ite, ih]
      by_cases he : e.1 = k
      · rw [if_pos he, if_pos he, if_pos (he ▸ hp)]
      · rw [if_neg he, if_neg he]
    · rw [filter_cons_of_neg (p := fun e : α × β => p e.1) hp, ih]
      by_cases he : e.1 = k
      · rw [if_pos he, if_neg (he ▸ hp), if_neg (he ▸ hp)]
      · rw [if_neg he]

end assoc

end Replicat
