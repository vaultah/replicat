import ReplicatModel.Paging
/-! Helper lemmas for C13: the listing loops against conformant services. -/
namespace Replicat.Paging
open Replicat

/-! ## bridge to the generated constants (what the code compares against = what the protocol sends) -/
theorem gen_tagTruncated : Gen.s3TagTruncated = tagIsTruncated := by decide
theorem gen_tagToken : Gen.s3TagToken = tagNextToken := by decide
theorem gen_tagKey : Gen.s3TagKey = tagKey := by decide
theorem gen_stopText : Gen.s3StopText.toList = "false".toList := by decide
theorem gen_startsTruncated : Gen.s3LoopStartsTruncated = true := by decide
theorem tags_distinct : tagIsTruncated ≠ tagNextToken ∧ tagIsTruncated ≠ tagKey ∧ tagNextToken ≠ tagKey := by decide

theorem pageKeys_cons (e : Elem) (p : List Elem) :
    pageKeys (e :: p) = if e.1 = tagKey then e.2 :: pageKeys p else pageKeys p := by
  unfold pageKeys
  rw [List.filter_cons]
  by_cases h : e.1 = tagKey
  · rw [if_pos h, if_pos (decide_eq_true h), List.map_cons]
  · rw [if_neg h, if_neg (by rw [decide_eq_false h]; exact Bool.false_ne_true)]

theorem pageFinal_cons (e : Elem) (p : List Elem) :
    pageFinal (e :: p) = (decide (e.1 = tagIsTruncated ∧ e.2 = "false".toList) || pageFinal p) := rfl

theorem s3Event_eq (st : S3State) (acc : List Name) (e : Elem) :
    s3Event (st, acc) e =
      if e.1 = tagIsTruncated ∧ e.2 = "false".toList then (⟨false, st.token⟩, acc)
      else if e.1 = tagNextToken then (⟨st.truncated, some e.2⟩, acc)
      else if e.1 = tagKey then (st, acc ++ [e.2])
      else (st, acc) := by
  unfold s3Event
  rw [gen_tagTruncated, gen_tagToken, gen_tagKey, gen_stopText]

theorem fold_page (p : List Elem) (st : S3State) (acc : List Name) :
    p.foldl s3Event (st, acc) =
      (⟨st.truncated && !pageFinal p, match pageToken p with | some t => some t | none => st.token⟩, acc ++ pageKeys p) := by
  induction p generalizing st acc with
  | nil =>
    show (st, acc) = (⟨st.truncated && !false, st.token⟩, acc ++ [])
    rw [Bool.not_false, Bool.and_true, List.append_nil]
  | cons e p ih =>
    rw [List.foldl_cons, pageKeys_cons, pageFinal_cons, pageToken, s3Event_eq]
    obtain ⟨h1, h2, h3⟩ := tags_distinct
    by_cases ha : e.1 = tagIsTruncated ∧ e.2 = "false".toList
    · have hk : ¬ e.1 = tagKey := by rw [ha.1]; exact h2
      have ht : ¬ e.1 = tagNextToken := by rw [ha.1]; exact h1
      rw [if_pos ha, ih, if_neg hk, if_neg ht, decide_eq_true ha]
      cases pageToken p <;> simp only [Bool.false_and, Bool.true_or, Bool.not_true, Bool.and_false]
    · rw [if_neg ha, decide_eq_false ha]
      by_cases ht : e.1 = tagNextToken
      · have hk : ¬ e.1 = tagKey := by rw [ht]; exact h3
        rw [if_pos ht, ih, if_neg hk, if_pos ht]
        cases pageToken p <;> simp only [Bool.false_or]
      · rw [if_neg ht, if_neg ht]
        by_cases hk : e.1 = tagKey
        · rw [if_pos hk, ih, if_pos hk]
          cases pageToken p <;> simp only [List.append_assoc, List.cons_append, List.nil_append, Bool.false_or]
        · rw [if_neg hk, ih, if_neg hk]
          cases pageToken p <;> simp only [Bool.false_or]

theorem s3Loop_stopped (respond : Option Name → List Elem) (fuel : Nat) (tok : Option Name) :
    s3Loop respond fuel ⟨false, tok⟩ = some [] ∧ s3Requests respond fuel ⟨false, tok⟩ = 0 := by
  cases fuel <;> exact ⟨rfl, rfl⟩

/-- the S3 loop against a conformant service: complete, in order, and fuel is not the reason for stopping -/
theorem s3Loop_conf (respond : Option Name → List Elem) (tok : Option Name) (ks : List Name) (n : Nat)
    (hc : S3Conf respond tok ks n) (fuel : Nat) (hf : n ≤ fuel) :
    s3Loop respond fuel ⟨true, tok⟩ = some ks ∧ s3Requests respond fuel ⟨true, tok⟩ = n := by
  induction hc generalizing fuel with
  | last tok h =>
    obtain ⟨f, rfl⟩ : ∃ f, fuel = f + 1 := ⟨fuel - 1, by omega⟩
    simp only [s3Loop, s3Requests, if_true, fold_page, h, Bool.not_true, Bool.and_false, List.nil_append]
    rw [(s3Loop_stopped _ _ _).1, (s3Loop_stopped _ _ _).2]
    exact ⟨congrArg some (List.append_nil _), rfl⟩
  | more tok t rest n h htok hr ih =>
    obtain ⟨f, rfl⟩ : ∃ f, fuel = f + 1 := ⟨fuel - 1, by omega⟩
    simp only [s3Loop, s3Requests, if_true, fold_page, h, htok, Bool.not_false, Bool.and_true, List.nil_append]
    obtain ⟨h1, h2⟩ := ih f (by omega)
    rw [h1, h2]
    exact ⟨rfl, Nat.add_comm 1 n⟩

theorem S3Conf.pages_pos {respond : Option Name → List Elem} {tok ks n} (h : S3Conf respond tok ks n) : 1 ≤ n := by
  cases h <;> omega

theorem b2Loop_conf (respond : Option Name → B2Page) (start : Option Name) (ks : List Name) (n : Nat)
    (hc : B2Conf respond start ks n) (fuel : Nat) (hf : n ≤ fuel) :
    b2Loop respond fuel start = some ks ∧ b2Requests respond fuel start = n := by
  induction hc generalizing fuel with
  | last start h =>
    obtain ⟨f, rfl⟩ : ∃ f, fuel = f + 1 := ⟨fuel - 1, by omega⟩
    simp [b2Loop, b2Requests, h]
  | more start s rest n h hr ih =>
    obtain ⟨f, rfl⟩ : ∃ f, fuel = f + 1 := ⟨fuel - 1, by omega⟩
    obtain ⟨h1, h2⟩ := ih f (by omega)
    simp [b2Loop, b2Requests, h, h1, h2, Nat.add_comm]

theorem pageKeys_append (a b : List Elem) : pageKeys (a ++ b) = pageKeys a ++ pageKeys b := by
  unfold pageKeys
  rw [List.filter_append, List.map_append]

theorem pageFinal_append (a b : List Elem) : pageFinal (a ++ b) = (pageFinal a || pageFinal b) :=
  List.any_append

theorem pageToken_append (a b : List Elem) :
    pageToken (a ++ b) = match pageToken b with | some t => some t | none => pageToken a := by
  induction a with
  | nil =>
    rw [List.nil_append]
    cases pageToken b <;> rfl
  | cons e a ih =>
    rw [List.cons_append, pageToken, pageToken, ih]
    cases pageToken b <;> rfl

theorem pageKeys_keys (l : List Name) : pageKeys (l.map (fun k => (tagKey, k))) = l := by
  induction l with
  | nil => rfl
  | cons k l ih => rw [List.map_cons, pageKeys_cons, if_pos rfl, ih]

theorem pageFinal_keys (l : List Name) : pageFinal (l.map (fun k => (tagKey, k))) = false := by
  induction l with
  | nil => rfl
  | cons k l ih =>
    rw [List.map_cons, pageFinal_cons, ih, decide_eq_false fun h => tags_distinct.2.1 h.1.symm]
    rfl

theorem pageToken_keys (l : List Name) : pageToken (l.map (fun k => (tagKey, k))) = none := by
  induction l with
  | nil => rfl
  | cons k l ih => rw [List.map_cons, pageToken, ih, if_neg fun h => tags_distinct.2.2 h.symm]

theorem pageKeys_single (tag : String) (x : Name) : pageKeys [(tag, x)] = if tag = tagKey then [x] else [] :=
  pageKeys_cons (tag, x) []

theorem pageFinal_single (tag : String) (x : Name) :
    pageFinal [(tag, x)] = decide (tag = tagIsTruncated ∧ x = "false".toList) :=
  Bool.or_false _

theorem pageToken_single (tag : String) (x : Name) : pageToken [(tag, x)] = if tag = tagNextToken then some x else none := rfl

theorem s3Serve_end (ps : Nat) (keys : List Name) (tok : Option Name) (h : ¬ tokOff tok + ps < keys.length) :
    pageFinal (s3Serve ps keys tok) = true ∧ pageKeys (s3Serve ps keys tok) = (keys.drop (tokOff tok)).take ps := by
  unfold s3Serve
  simp only [decide_eq_false h, Bool.false_eq_true, if_false, List.append_nil]
  rw [pageFinal_append, pageFinal_single, pageKeys_append, pageKeys_single, pageKeys_keys, if_neg tags_distinct.2.1]
  exact ⟨rfl, rfl⟩

theorem s3Serve_more (ps : Nat) (keys : List Name) (tok : Option Name) (h : tokOff tok + ps < keys.length) :
    pageFinal (s3Serve ps keys tok) = false ∧ pageToken (s3Serve ps keys tok) = some (offToken (tokOff tok + ps)) ∧
      pageKeys (s3Serve ps keys tok) = (keys.drop (tokOff tok)).take ps := by
  unfold s3Serve
  simp only [decide_eq_true h, if_true]
  rw [pageFinal_append, pageFinal_append, pageFinal_keys, pageFinal_single, pageFinal_single, pageToken_append, pageToken_single,
    pageKeys_append, pageKeys_append, pageKeys_keys, pageKeys_single, pageKeys_single, if_neg tags_distinct.2.1,
    if_neg tags_distinct.2.2, if_pos rfl, decide_eq_false fun e => absurd e.2 (by decide),
    decide_eq_false fun e => tags_distinct.1 e.1.symm]
  exact ⟨rfl, rfl, List.append_nil _⟩

theorem tokOff_offToken (n : Nat) : tokOff (some (offToken n)) = n := List.length_replicate

theorem s3Serve_last (ps : Nat) (keys : List Name) (tok : Option Name) (h : ¬ tokOff tok + ps < keys.length) :
    S3Conf (s3Serve ps keys) tok (keys.drop (tokOff tok)) 1 := by
  obtain ⟨hfin, hkeys⟩ := s3Serve_end ps keys tok h
  have := S3Conf.last (respond := s3Serve ps keys) tok hfin
  rw [hkeys] at this
  rwa [List.take_of_length_le (by rw [List.length_drop]; omega)] at this

/-- from any offset the page-size service is conformant and needs at most `remaining + 1` pages -/
theorem s3Serve_conf_from (ps : Nat) (hps : 1 ≤ ps) (keys : List Name) :
    ∀ (m : Nat) (tok : Option Name), keys.length - tokOff tok ≤ m →
      ∃ n, n ≤ m + 1 ∧ S3Conf (s3Serve ps keys) tok (keys.drop (tokOff tok)) n := by
  intro m
  induction m with
  | zero => exact fun tok hm => ⟨1, Nat.le_refl _, s3Serve_last ps keys tok (by omega)⟩
  | succ m ih =>
    intro tok hm
    by_cases hmore : tokOff tok + ps < keys.length
    · obtain ⟨n, hn, hc⟩ := ih (some (offToken (tokOff tok + ps))) (by rw [tokOff_offToken]; omega)
      obtain ⟨hfin, htok, hkeys⟩ := s3Serve_more ps keys tok hmore
      refine ⟨n + 1, by omega, ?_⟩
      have := S3Conf.more (respond := s3Serve ps keys) tok _ _ n hfin htok hc
      rw [hkeys, tokOff_offToken] at this
      rwa [← List.drop_drop, List.take_append_drop] at this
    · exact ⟨1, by omega, s3Serve_last ps keys tok hmore⟩

theorem dropWhile_ne_getElem (l : List Name) (h : l.Nodup) (k : Nat) (hk : k < l.length) :
    l.dropWhile (· ≠ l[k]) = l.drop k := by
  induction l generalizing k with
  | nil => cases hk
  | cons a l ih =>
    cases k with
    | zero => simp
    | succ k =>
      simp only [List.nodup_cons] at h
      have hk' : k < l.length := Nat.lt_of_succ_lt_succ hk
      have hne : a ≠ l[k] := fun e => h.1 (e ▸ List.getElem_mem hk')
      rw [List.getElem_cons_succ, List.drop_succ_cons, List.dropWhile_cons, if_pos (decide_eq_true hne)]
      exact ih h.2 k hk'

theorem b2Serve_at (ps : Nat) (names : List Name) (h : names.Nodup) (k : Nat) (hk : k < names.length) :
    b2Serve ps names (some names[k]) = ⟨(names.drop k).take ps, (names.drop (k + ps)).head?⟩ := by
  unfold b2Serve
  simp only [dropWhile_ne_getElem names h k hk, List.drop_drop]

theorem b2Serve_last (ps : Nat) (names : List Name) (k : Nat) (start : Option Name)
    (hat : b2Serve ps names start = ⟨(names.drop k).take ps, (names.drop (k + ps)).head?⟩) (h : ¬ k + ps < names.length) :
    B2Conf (b2Serve ps names) start (names.drop k) 1 := by
  have hnext : (b2Serve ps names start).next = none := by
    rw [hat, List.drop_eq_nil_of_le (i := k + ps) (by omega)]
    rfl
  have := B2Conf.last (respond := b2Serve ps names) start hnext
  rw [hat, List.take_of_length_le (by rw [List.length_drop]; omega)] at this
  exact this

/-- `none` is answered with the page at offset 0, the `k`-th name with the page at offset `k` -/
theorem b2Serve_conf_from (ps : Nat) (hps : 1 ≤ ps) (names : List Name) (h : names.Nodup) :
    ∀ (m k : Nat) (start : Option Name),
      b2Serve ps names start = ⟨(names.drop k).take ps, (names.drop (k + ps)).head?⟩ → names.length - k ≤ m →
      ∃ n, n ≤ m + 1 ∧ B2Conf (b2Serve ps names) start (names.drop k) n := by
  intro m
  induction m with
  | zero => exact fun k start hat hm => ⟨1, Nat.le_refl _, b2Serve_last ps names k start hat (by omega)⟩
  | succ m ih =>
    intro k start hat hm
    by_cases hmore : k + ps < names.length
    · obtain ⟨n, hn, hc⟩ := ih (k + ps) (some names[k + ps]) (b2Serve_at ps names h _ hmore) (by omega)
      refine ⟨n + 1, by omega, ?_⟩
      have hnext : (b2Serve ps names start).next = some names[k + ps] := by
        rw [hat]
        exact (List.head?_drop ..).trans (List.getElem?_eq_getElem hmore)
      have := B2Conf.more (respond := b2Serve ps names) start _ _ n hnext hc
      rw [hat] at this
      rwa [← List.drop_drop, List.take_append_drop] at this
    · exact ⟨1, by omega, b2Serve_last ps names k start hat hmore⟩

theorem s3List_serve (ps : Nat) (hps : 1 ≤ ps) (keys : List Name) :
    s3List (s3Serve ps keys) (keys.length + 1) = some keys := by
  obtain ⟨n, hn, hc⟩ := s3Serve_conf_from ps hps keys keys.length none (Nat.le_refl _)
  unfold s3List
  rw [gen_startsTruncated]
  exact (s3Loop_conf _ none keys n hc _ hn).1

theorem b2List_serve (ps : Nat) (hps : 1 ≤ ps) (names : List Name) (h : names.Nodup) :
    b2List (b2Serve ps names) (names.length + 1) = some names := by
  obtain ⟨n, hn, hc⟩ :=
    b2Serve_conf_from ps hps names h names.length 0 none (by rw [Nat.zero_add]; rfl) (Nat.le_refl _)
  exact (b2Loop_conf _ none names n hc _ hn).1

end Replicat.Paging
