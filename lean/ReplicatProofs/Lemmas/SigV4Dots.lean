import ReplicatProofs.Lemmas.SigV4
/-! C16: dot segments of the quoted path are exactly the dot segments of the name (so the D8 hypothesis can be stated on names).
Quoting with `/` safe commutes with splitting at `/`, and a quoted segment is `.` / `..` only if the segment is, because `quote`
can be undone. -/
namespace Replicat.SigV4

theorem splitSlash_ne_nil (s : Bytes) : splitSlash s ≠ [] := by
  fun_cases splitSlash s
  all_goals exact List.cons_ne_nil _ _

theorem splitSlash_slash (t : Bytes) : splitSlash (0x2F :: t) = [] :: splitSlash t := by
  rw [splitSlash]
  rfl

theorem splitSlash_cons_of_ne (b : UInt8) (t hd : Bytes) (tl : List Bytes) (hb : (b == 0x2F) = false)
    (ht : splitSlash t = hd :: tl) : splitSlash (b :: t) = (b :: hd) :: tl := by
  rw [splitSlash, hb, ht]
  rfl

theorem splitSlash_append_noslash (l t : Bytes) (h : ∀ b ∈ l, (b == 0x2F) = false) (hd : Bytes) (tl : List Bytes)
    (ht : splitSlash t = hd :: tl) : splitSlash (l ++ t) = (l ++ hd) :: tl := by
  induction l with
  | nil => exact ht
  | cons a l ih =>
    exact splitSlash_cons_of_ne a _ _ tl (h a List.mem_cons_self) (ih fun b hb => h b (List.mem_cons_of_mem _ hb))

theorem splitSlash_pyQuote (safe : Bytes) (h2F : safe.contains 0x2F = true) (s : Bytes) :
    splitSlash (pyQuote safe s) = (splitSlash s).map (pyQuote safe) := by
  fun_induction splitSlash s with
  | case1 => rfl
  | case2 b rest hb ih =>
    obtain rfl : b = 0x2F := of_decide_eq_true hb
    rw [pyQuote, List.flatMap_cons, pyQuoteByte_of_safe _ _ h2F, List.singleton_append, splitSlash_slash, List.map_cons]
    exact congrArg ([] :: ·) ih
  | case3 b rest hb hnil ih => exact absurd hnil (splitSlash_ne_nil rest)
  | case4 b rest hb hd tl hsp ih =>
    -- no byte of the encoding of `b` is `/`: neither `b` itself, nor `%`, nor a hex digit
    have hno : ∀ x ∈ pyQuoteByte safe b, (x == 0x2F) = false := by
      intro x hx
      apply decide_eq_false
      rintro rfl
      exact hb (decide_eq_true (mem_pyQuoteByte hx (by decide) (by decide)).1.symm)
    rw [hsp] at ih
    exact splitSlash_append_noslash _ _ hno _ _ ih

theorem pyQuote_beq_of_unreserved (safe : Bytes) (h25 : isLiteral safe 0x25 = false) (s d : Bytes) (hd : allUnreserved d = true) :
    (pyQuote safe s == d) = (s == d) := by
  rw [Bool.eq_iff_iff, beq_iff_eq, beq_iff_eq]
  constructor
  · intro h
    have hdec := congrArg (pctDecode false) h
    rwa [← pyQuote_of_unreserved safe d hd, pctDecode_pyQuote false safe h25 (fun h => nomatch h),
      pctDecode_pyQuote false safe h25 (fun h => nomatch h)] at hdec
  · rintro rfl
    exact pyQuote_of_unreserved safe s hd

theorem hasDotSegment_pyQuote (safe : Bytes) (h2F : safe.contains 0x2F = true) (h25 : isLiteral safe 0x25 = false) (p : Bytes) :
    hasDotSegment (pyQuote safe p) = hasDotSegment p := by
  unfold hasDotSegment
  rw [splitSlash_pyQuote safe h2F, List.any_map]
  congr 1
  funext seg
  rw [Function.comp, pyQuote_beq_of_unreserved safe h25 seg dot rfl, pyQuote_beq_of_unreserved safe h25 seg dotdot rfl]

end Replicat.SigV4
