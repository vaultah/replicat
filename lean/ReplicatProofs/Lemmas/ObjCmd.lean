import ReplicatModel.ObjCmd
import ReplicatProofs.Lemmas.LocalFS
/-! Helper lemmas for the object-level commands (`ObjCmd.lean`; theorems in the section `objcmd` of `Properties/C13.lean`), and
`StoreModel`, on which the history theorems of C13 (section `models`) are built. -/
namespace Replicat.ObjCmd
open Replicat Replicat.Store Replicat.Paging
open Replicat.LocalFS (Seg Path relPath validName validPath validSeg Universe ancestors)

/-- an adapter model together with its abstraction, invariant, region of operations and refinement proof -/
structure StoreModel (σ : Type) where
  step : σ → Op → σ × Ret
  abs : σ → Spec
  inv : σ → Prop
  ok : Op → Prop
  refines : ∀ s op, inv s → ok op → inv (step s op).1 ∧ SpecStep (abs s) op (abs (step s op).1) (step s op).2

/-- every operation the object commands can issue on object `n` lies in the region of the model -/
def StoreModel.OkName {σ : Type} (M : StoreModel σ) (n : Name) : Prop :=
  M.ok (.exists_ n) ∧ M.ok (.delete n) ∧ (∀ d c, 1 ≤ c → M.ok (.uploadStream n d c)) ∧
    (∀ c sink, 1 ≤ c → M.ok (.downloadStream n c sink))

theorem StoreModel.run_spec {σ : Type} (M : StoreModel σ) {s : σ} (hi : M.inv s) (ops : List Op) (hok : ∀ op ∈ ops, M.ok op) :
    M.inv (runHistory M.step s ops).1 ∧
      SpecRun (M.abs s) ops (M.abs (runHistory M.step s ops).1) (runHistory M.step s ops).2 := by
  induction ops generalizing s with
  | nil => exact ⟨hi, SpecRun.nil _⟩
  | cons op ops ih =>
    obtain ⟨h1, h2⟩ := M.refines s op hi (hok op List.mem_cons_self)
    obtain ⟨h3, h4⟩ := ih h1 (fun o ho => hok o (List.mem_cons_of_mem _ ho))
    exact ⟨h3, SpecRun.cons h2 h4⟩

section chain
variable {σ : Type}

/-- `tr` is what `step` does and returns, call after call, from `s` to `s'` -/
def Chain (step : σ → Op → σ × Ret) : σ → List (Op × Ret) → σ → Prop
  | s, [], s' => s' = s
  | s, (op, r) :: tr, s' => (step s op).2 = r ∧ Chain step (step s op).1 tr s'

theorem Chain.nil (step : σ → Op → σ × Ret) (s : σ) : Chain step s [] s := rfl

theorem Chain.one (step : σ → Op → σ × Ret) (s : σ) (op : Op) : Chain step s [(op, (step s op).2)] (step s op).1 := ⟨rfl, rfl⟩

theorem Chain.append {step : σ → Op → σ × Ret} {s s1 s2 : σ} {t1 t2 : List (Op × Ret)}
    (h1 : Chain step s t1 s1) (h2 : Chain step s1 t2 s2) : Chain step s (t1 ++ t2) s2 := by
  induction t1 generalizing s with
  | nil => cases h1; exact h2
  | cons e t1 ih => exact ⟨h1.1, ih h1.2⟩

theorem Chain.cons {step : σ → Op → σ × Ret} {s s2 : σ} {t2 : List (Op × Ret)} (op : Op)
    (h2 : Chain step (step s op).1 t2 s2) : Chain step s ((op, (step s op).2) :: t2) s2 := ⟨rfl, h2⟩

theorem Chain.runHistory {step : σ → Op → σ × Ret} {s s' : σ} {tr : List (Op × Ret)} (h : Chain step s tr s') :
    runHistory step s (tr.map (·.1)) = (s', tr.map (·.2)) := by
  induction tr generalizing s with
  | nil => cases h; rfl
  | cons e tr ih => rw [List.map_cons, Store.runHistory, ih h.2, List.map_cons, h.1]

theorem Chain.specRun (M : StoreModel σ) {s s' : σ} {tr : List (Op × Ret)} (hi : M.inv s) (hok : ∀ e ∈ tr, M.ok e.1)
    (h : Chain M.step s tr s') : M.inv s' ∧ SpecRun (M.abs s) (tr.map (·.1)) (M.abs s') (tr.map (·.2)) := by
  have hr := M.run_spec hi (tr.map (·.1)) (fun op hop => by
    obtain ⟨e, he, rfl⟩ := List.mem_map.mp hop
    exact hok e he)
  rwa [h.runHistory] at hr
end chain

section cmdchain
variable {σ : Type} (step : σ → Op → σ × Ret)

theorem uploadOne_chain (skip : Bool) (chunk : Nat) (s : σ) (n : Name) (d : Bytes) :
    Chain step s (uploadOne step skip chunk s n d).2.1 (uploadOne step skip chunk s n d).1 := by
  fun_cases uploadOne step skip chunk s n d
  · exact ⟨rfl, rfl⟩
  · exact ⟨rfl, rfl, rfl⟩
  · exact ⟨rfl, rfl⟩
  · exact ⟨rfl, rfl⟩
  · exact ⟨rfl, rfl⟩

theorem uploadLoop_chain (skip : Bool) (chunk : Nat) (s : σ) (l : List (Name × Bytes)) :
    Chain step s (uploadLoop step skip chunk s l).2.1 (uploadLoop step skip chunk s l).1 := by
  fun_induction uploadLoop step skip chunk s l
  · rfl
  · exact uploadOne_chain step skip chunk _ _ _
  · next ih => exact (uploadOne_chain step skip chunk _ _ _).append ih

theorem downloadOne_chain (skip : Bool) (chunk : Nat) (s : σ) (dir : Tree) (n : Name) :
    Chain step s (downloadOne step skip chunk s dir n).2.2.1 (downloadOne step skip chunk s dir n).1 := by
  fun_cases downloadOne step skip chunk s dir n
  · rfl
  · rfl
  · rfl
  · rfl
  · exact ⟨rfl, rfl⟩
  · exact ⟨rfl, rfl⟩
  · exact ⟨rfl, rfl⟩

theorem downloadLoop_chain (skip : Bool) (chunk : Nat) (s : σ) (dir : Tree) (l : List Name) :
    Chain step s (downloadLoop step skip chunk s dir l).2.2.1 (downloadLoop step skip chunk s dir l).1 := by
  fun_induction downloadLoop step skip chunk s dir l
  · rfl
  · exact downloadOne_chain step skip chunk _ _ _
  · next ih => exact (downloadOne_chain step skip chunk _ _ _).append ih

theorem deleteLoop_chain (useCache : Bool) (s : σ) (cache : Tree) (l : List Name) :
    Chain step s (deleteLoop step useCache s cache l).2.2.1 (deleteLoop step useCache s cache l).1 := by
  fun_induction deleteLoop step useCache s cache l
  · rfl
  · exact ⟨rfl, rfl⟩
  · exact ⟨rfl, rfl⟩
  · next ih => exact ⟨rfl, ih⟩

/-- **every command is a composition of backend steps**: the recorded calls, replayed with `step`, lead from the state before
the command to the state after it and return what was recorded -/
theorem cmd_chain (concurrent : Nat) (c : Cmd) (s : σ) (loc : Tree) :
    Chain step s (c.run step concurrent s loc).tr (c.run step concurrent s loc).st := by
  cases c with
  | upload cwd dirs paths rl skip =>
    rw [Cmd.run]
    fun_cases uploadObjects step concurrent cwd dirs paths rl skip s loc
    · rfl
    · rfl
    · rfl
    · exact uploadLoop_chain step _ _ _ _
  | download pfx keep rl skip =>
    rw [Cmd.run]
    fun_cases downloadObjects step concurrent pfx keep rl skip s loc
    · exact ⟨rfl, rfl⟩
    · exact ⟨rfl, rfl⟩
    · exact ⟨rfl, downloadLoop_chain step _ _ _ _ _⟩
    · exact ⟨rfl, rfl⟩
    · exact ⟨rfl, rfl⟩
  | list pfx keep => exact ⟨rfl, rfl⟩
  | delete names confirm answer useCache =>
    rw [Cmd.run]
    fun_cases deleteObjects step names confirm answer useCache s loc
    · exact deleteLoop_chain step _ _ _ _
    · rfl
end cmdchain

theorem mem_dedupFirst {α : Type} [DecidableEq α] (l : List α) (a : α) : a ∈ dedupFirst l ↔ a ∈ l := by
  induction l with
  | nil => rfl
  | cons x xs ih =>
    simp only [dedupFirst, List.mem_cons, List.mem_filter, ih, decide_eq_true_eq]
    by_cases hx : a = x <;> simp [hx]

theorem nodup_dedupFirst {α : Type} [DecidableEq α] (l : List α) : (dedupFirst l).Nodup := by
  induction l with
  | nil => simp [dedupFirst]
  | cons x xs ih =>
    simp only [dedupFirst, List.nodup_cons, List.mem_filter, decide_eq_true_eq]
    exact ⟨fun h => h.2 rfl, ih.filter _⟩

theorem properPrefix_iff (p q : Path) : properPrefix p q = true ↔ p <+: q ∧ p ≠ q := by
  simp [properPrefix, List.isPrefixOf_iff_prefix]

theorem Tree.get_put (t : Tree) (p q : Path) (d : Bytes) : (t.put p d).get q = if q = p then some d else t.get q :=
  alookup_ainsert t p q d

theorem Tree.get_erase (t : Tree) (p q : Path) : (t.erase p).get q = if q = p then none else t.get q :=
  alookup_aerase t p q

theorem Tree.mem_keys_iff (t : Tree) (p : Path) : p ∈ t.keys ↔ (t.get p).isSome = true := mem_keys_iff_alookup t p

theorem Tree.keys_put_subset (t : Tree) (p : Path) (d : Bytes) : ∀ q ∈ (t.put p d).keys, q = p ∨ q ∈ t.keys :=
  fun _ hq => (List.mem_cons.mp hq).imp_right fun h => (keys_aerase_sublist t p).subset h

theorem Tree.keys_erase_subset (t : Tree) (p : Path) : ∀ q ∈ (t.erase p).keys, q ∈ t.keys :=
  fun _ hq => (keys_aerase_sublist t p).subset hq

theorem Tree.nodup_put (t : Tree) (p : Path) (d : Bytes) (h : t.keys.Nodup) : (t.put p d).keys.Nodup := nodup_keys_ainsert t p d h

theorem properPrefix_of_universe {U : Path → Prop} (hU : Universe U) {p q : Path} (hp : U p) (hq : U q) :
    properPrefix p q = false := by
  cases h : properPrefix p q with
  | false => rfl
  | true =>
    obtain ⟨h1, h2⟩ := (properPrefix_iff p q).mp h
    have hne := ((LocalFS.validPath_iff p).mp (hU.valid p hp)).1
    exact absurd ((LocalFS.mem_ancestors p q).mpr ⟨hne, h1, h2⟩) (hU.prefixFree p q hp hq)

theorem Tree.not_blocked_not_isDir {U : Path → Prop} (hU : Universe U) {t : Tree} (ht : ∀ q ∈ t.keys, U q) {p : Path}
    (hp : U p) : t.blocked p = false ∧ t.isDir p = false :=
  ⟨List.any_eq_false.mpr fun q hq => ne_true_of_eq_false (properPrefix_of_universe hU (ht q hq) hp),
    List.any_eq_false.mpr fun q hq => ne_true_of_eq_false (properPrefix_of_universe hU hp (ht q hq))⟩

theorem flattenOne_mem {t : Tree} {dirs : List Path} {p : Path} {l : List Path} (h : flattenOne t dirs p = .ok l) :
    ∀ f ∈ l, (t.get f).isSome = true := by
  revert l
  fun_cases flattenOne t dirs p
  · rintro l ⟨⟩ f hf
    exact (Tree.mem_keys_iff t f).mp (List.mem_filter.mp hf).1
  · rintro l ⟨⟩ f hf
    cases hf
  · next h3 =>
    rintro l ⟨⟩ f hf
    rw [List.mem_singleton.mp hf]
    exact h3
  · rintro l ⟨⟩

theorem flatten_mem {t : Tree} {dirs : List Path} {paths : List Path} {l : List Path} (h : flatten t dirs paths = .ok l) :
    ∀ f ∈ l, (t.get f).isSome = true := by
  fun_induction flatten t dirs paths generalizing l
  · cases h
    exact fun f hf => nomatch hf
  · cases h
  · cases h
  · next ha _ hb ih =>
    cases h
    exact fun f hf => (List.mem_append.mp hf).elim (flattenOne_mem ha f) (ih hb f)

theorem dropCommon_append (cwd rel : Path) : dropCommon (cwd ++ rel) cwd = rel := by
  induction cwd with
  | nil => cases rel <;> rfl
  | cons a cwd ih => simp [dropCommon, ih]

/-- the name of a file under the working directory is its relative path in POSIX form -/
theorem objectName_under (cwd rel : Path) (h : rel ≠ []) : objectName cwd (cwd ++ rel) = joinSlash rel := by
  simp [objectName, dropCommon_append, h]

theorem hasDotSegment_of_validName {n : Name} (hv : validName n = true) : hasDotSegment n = false := by
  simp only [hasDotSegment, List.any_eq_false, decide_eq_true_eq]
  intro s hs
  have := (LocalFS.validSeg_iff s).mp (((LocalFS.validPath_iff _).mp hv).2 s hs)
  exact fun h => h.elim this.2.2.1 this.2.2.2

theorem gen_chunk_consts : 1 ≤ Gen.streamChunk ∧ 1 ≤ Gen.objcmdChunkFloor := by decide

theorem chunkSize_pos (concurrent : Nat) (hc : 1 ≤ concurrent) (rl : Option Nat) (hrl : rl ≠ some 0) :
    ∃ c, chunkSize concurrent rl = some c ∧ 1 ≤ c := by
  cases rl with
  | none => exact ⟨_, rfl, gen_chunk_consts.1⟩
  | some r =>
    have h1 : ¬ concurrent = 0 := by omega
    have h2 : ¬ r = 0 := fun e => hrl (by rw [e])
    refine ⟨max (r / (concurrent * Gen.rateDivisor)) Gen.objcmdChunkFloor, by simp only [chunkSize, h1, h2, or_self, if_false], ?_⟩
    exact Nat.le_trans gen_chunk_consts.2 (Nat.le_max_right _ _)

theorem items_mem {cwd : Path} {t : Tree} {files : List Path} {n : Name} {d : Bytes} :
    (n, d) ∈ items cwd t files ↔ ∃ f ∈ files, t.get f = some d ∧ n = objectName cwd f := by
  simp only [items, List.mem_filterMap, Option.map_eq_some_iff, Prod.mk.injEq]
  constructor
  · rintro ⟨f, hf, d', hd, hn, rfl⟩; exact ⟨f, hf, hd, hn.symm⟩
  · rintro ⟨f, hf, hd, rfl⟩; exact ⟨f, hf, d, hd, rfl, rfl⟩

theorem items_names {cwd : Path} {t : Tree} {files : List Path} (h : ∀ f ∈ files, (t.get f).isSome = true) :
    (items cwd t files).map (·.1) = files.map (objectName cwd) := by
  induction files with
  | nil => rfl
  | cons f fs ih =>
    obtain ⟨d, hd⟩ := Option.isSome_iff_exists.mp (h f (by simp))
    simp only [items, List.filterMap_cons, hd, Option.map_some, List.map_cons]
    congr 1
    exact ih (fun g hg => h g (List.mem_cons_of_mem _ hg))

/-- what a sequence of uploads does to the map -/
def upSpec (skip : Bool) : Spec → List (Name × Bytes) → Spec
  | m, [] => m
  | m, (n, d) :: rest => upSpec skip (if skip = true ∧ (m n).isSome = true then m else m.put n d) rest

theorem upStep_ne (skip : Bool) (m : Spec) (k : Name) (d : Bytes) {n : Name} (h : n ≠ k) :
    (if skip = true ∧ (m k).isSome = true then m else m.put k d) n = m n := by
  split
  · rfl
  · exact if_neg h

theorem upSpec_not_mem (skip : Bool) (m : Spec) (l : List (Name × Bytes)) (n : Name) (h : n ∉ l.map (·.1)) :
    upSpec skip m l n = m n := by
  induction l generalizing m with
  | nil => rfl
  | cons e l ih =>
    rw [List.map_cons, List.mem_cons, not_or] at h
    rw [upSpec, ih _ h.2]
    exact upStep_ne skip m e.1 e.2 h.1

theorem upSpec_skip_keeps (m : Spec) (l : List (Name × Bytes)) (n : Name) (h : (m n).isSome = true) :
    upSpec true m l n = m n := by
  induction l generalizing m with
  | nil => rfl
  | cons e l ih =>
    by_cases hk : n = e.1
    · rw [upSpec, if_pos ⟨rfl, hk ▸ h⟩]
      exact ih m h
    · have e' := upStep_ne true m e.1 e.2 hk
      rw [upSpec, ih _ (e' ▸ h), e']

theorem upSpec_apply_mem (skip : Bool) (m : Spec) {l : List (Name × Bytes)} (hnd : (l.map (·.1)).Nodup) {n : Name} {d : Bytes}
    (hm : (n, d) ∈ l) : upSpec skip m l n = if skip = true ∧ (m n).isSome = true then m n else some d := by
  induction l generalizing m with
  | nil => cases hm
  | cons e l ih =>
    rw [List.map_cons, List.nodup_cons] at hnd
    rw [upSpec]
    rcases List.mem_cons.mp hm with rfl | h1
    · rw [upSpec_not_mem _ _ _ _ hnd.1]
      split
      · rfl
      · exact if_pos rfl
    · have hne : n ≠ e.1 := fun e' => hnd.1 (e' ▸ List.mem_map_of_mem (f := (·.1)) h1)
      rw [ih _ hnd.2 h1, upStep_ne skip m e.1 e.2 hne]

theorem upSpec_mem (skip : Bool) (m : Spec) (l : List (Name × Bytes)) (hnd : (l.map (·.1)).Nodup) (n : Name) (d : Bytes)
    (hm : (n, d) ∈ l) (h : skip = false ∨ m n = none) : upSpec skip m l n = some d := by
  rw [upSpec_apply_mem skip m hnd hm, if_neg]
  rintro ⟨h1, h2⟩
  rcases h with h | h
  · rw [h] at h1
    cases h1
  · rw [h] at h2
    cases h2

section upload
variable {σ : Type} (M : StoreModel σ)

theorem uploadOne_spec (skip : Bool) (chunk : Nat) (s : σ) (n : Name) (d : Bytes) (hi : M.inv s)
    (hok : M.ok (.exists_ n) ∧ M.ok (.uploadStream n d chunk)) :
    ∃ s' tr, uploadOne M.step skip chunk s n d = (s', tr, none) ∧ M.inv s' ∧
      M.abs s' = if skip = true ∧ (M.abs s n).isSome = true then M.abs s else (M.abs s).put n d := by
  unfold uploadOne
  cases skip with
  | false =>
    obtain ⟨h1, h2, h3⟩ := M.refines s _ hi hok.2
    simp only [Bool.false_eq_true, if_false, false_and, h3, retUnit]
    exact ⟨_, _, rfl, h1, h2⟩
  | true =>
    obtain ⟨e1, e2, e3⟩ := M.refines s _ hi hok.1
    simp only [if_true, true_and, e3]
    cases (M.abs s n).isSome with
    | true => exact ⟨_, _, rfl, e1, e2⟩
    | false =>
      obtain ⟨h1, h2, h3⟩ := M.refines _ _ e1 hok.2
      simp only [h3, retUnit, Bool.false_eq_true, if_false]
      exact ⟨_, _, rfl, h1, by rw [h2, e2]⟩

theorem uploadLoop_spec (skip : Bool) (chunk : Nat) (l : List (Name × Bytes))
    (hok : ∀ e ∈ l, M.ok (.exists_ e.1) ∧ M.ok (.uploadStream e.1 e.2 chunk)) (s : σ) (hi : M.inv s) :
    ∃ s' tr, uploadLoop M.step skip chunk s l = (s', tr, none) ∧ M.inv s' ∧ M.abs s' = upSpec skip (M.abs s) l := by
  induction l generalizing s with
  | nil => exact ⟨s, [], rfl, hi, rfl⟩
  | cons e l ih =>
    obtain ⟨n, d⟩ := e
    obtain ⟨s1, t1, e1, i1, a1⟩ := uploadOne_spec M skip chunk s n d hi (hok _ List.mem_cons_self)
    obtain ⟨s2, t2, e2, i2, a2⟩ := ih (fun e he => hok e (List.mem_cons_of_mem _ he)) s1 i1
    refine ⟨s2, t1 ++ t2, ?_, i2, ?_⟩
    · simp only [uploadLoop, e1, e2]
    · rw [a2, a1]
      rfl
end upload

/-- what a sequence of downloads does to the target directory, the store holding `m` -/
def downSpec (skip : Bool) (m : Spec) : Tree → List Name → Tree
  | dir, [] => dir
  | dir, n :: rest =>
    downSpec skip m
      (match m n with
        | some d => if skip = true ∧ (dir.get (splitSlash n)).isSome = true then dir else dir.put (splitSlash n) d
        | none => dir) rest

theorem downSpec_induction {P : Tree → Prop} (skip : Bool) (m : Spec) (l : List Name)
    (hput : ∀ dir, ∀ n ∈ l, ∀ d, P dir → P (dir.put (splitSlash n) d)) (dir : Tree) (hd : P dir) :
    P (downSpec skip m dir l) := by
  induction l generalizing dir with
  | nil => exact hd
  | cons n l ih =>
    apply ih (fun dir k hk => hput dir k (List.mem_cons_of_mem _ hk))
    split
    · split
      · exact hd
      · exact hput dir n List.mem_cons_self _ hd
    · exact hd

theorem downSpec_keys {U : Path → Prop} (skip : Bool) (m : Spec) (l : List Name) (hl : ∀ n ∈ l, U (splitSlash n)) (dir : Tree)
    (hd : ∀ q ∈ dir.keys, U q) : ∀ q ∈ (downSpec skip m dir l).keys, U q :=
  downSpec_induction (P := fun t => ∀ q ∈ t.keys, U q) skip m l
    (fun dir n hn d h q hq => (Tree.keys_put_subset dir _ d q hq).elim (fun e => e ▸ hl n hn) (h q)) dir hd

theorem downSpec_nodup (skip : Bool) (m : Spec) (l : List Name) (dir : Tree) (hd : dir.keys.Nodup) :
    (downSpec skip m dir l).keys.Nodup :=
  downSpec_induction (P := fun t => t.keys.Nodup) skip m l (fun dir _ _ d h => Tree.nodup_put dir _ d h) dir hd

/-- closed form: a selected object's file holds the object (or, with `skip`, what was there); every other file is untouched -/
theorem downSpec_get (skip : Bool) (m : Spec) (l : List Name) (hlive : ∀ n ∈ l, (m n).isSome = true) (dir : Tree) (q : Path) :
    (downSpec skip m dir l).get q =
      if q ∈ l.map splitSlash then (if skip = true ∧ (dir.get q).isSome = true then dir.get q else m (joinSlash q)) else dir.get q := by
  induction l generalizing dir with
  | nil => simp [downSpec]
  | cons n l ih =>
    obtain ⟨d, hd⟩ := Option.isSome_iff_exists.mp (hlive n (by simp))
    have hjoin : m (joinSlash (splitSlash n)) = some d := by rw [LocalFS.joinSlash_splitSlash]; exact hd
    simp only [downSpec, hd]
    rw [ih (fun k hk => hlive k (List.mem_cons_of_mem _ hk))]
    simp only [List.map_cons, List.mem_cons]
    by_cases hq : q = splitSlash n
    · subst hq
      by_cases hc : skip = true ∧ (dir.get (splitSlash n)).isSome = true
      · simp only [hc, and_self, if_true, true_or]
        split <;> rfl
      · simp only [hc, if_false, true_or, if_true, Tree.get_put, hjoin]
        split
        · split <;> rfl
        · rfl
    · have hget : (if skip = true ∧ (dir.get (splitSlash n)).isSome = true then dir else dir.put (splitSlash n) d).get q = dir.get q := by
        split
        · rfl
        · rw [Tree.get_put]; simp [hq]
      simp only [hq, false_or, hget]

section download
variable {σ : Type} (M : StoreModel σ)

theorem downloadOne_spec {U : Path → Prop} (hU : Universe U) (skip : Bool) (chunk : Nat) (s : σ) (hi : M.inv s) (dir : Tree)
    (hdir : ∀ q ∈ dir.keys, U q) (n : Name) (hv : validName n = true) (hu : U (splitSlash n))
    (hok : M.ok (.downloadStream n chunk [])) (d : Bytes) (hlive : M.abs s n = some d) :
    ∃ s' tr, downloadOne M.step skip chunk s dir n =
        (s', (if skip = true ∧ (dir.get (splitSlash n)).isSome = true then dir else dir.put (splitSlash n) d), tr, none) ∧
      M.inv s' ∧ M.abs s' = M.abs s := by
  unfold downloadOne
  simp only [LocalFS.relPath_valid hv, Tree.not_blocked_not_isDir hU hdir hu, LocalFS.splitSlash_ne_nil n,
    Bool.false_eq_true, if_false, false_or, or_false]
  by_cases hc : skip = true ∧ (dir.get (splitSlash n)).isSome = true
  · simp only [if_pos hc]
    exact ⟨s, [], rfl, hi, rfl⟩
  · obtain ⟨h1, h2, h3⟩ := M.refines s _ hi hok
    rw [hlive] at h3
    simp only [if_neg hc, h3]
    exact ⟨_, _, rfl, h1, h2⟩

theorem downloadLoop_spec {U : Path → Prop} (hU : Universe U) (skip : Bool) (chunk : Nat) (l : List Name) (s : σ) (hi : M.inv s)
    (hl : ∀ n ∈ l, validName n = true ∧ U (splitSlash n) ∧ M.ok (.downloadStream n chunk []) ∧ (M.abs s n).isSome = true)
    (dir : Tree) (hdir : ∀ q ∈ dir.keys, U q) :
    ∃ s' tr, downloadLoop M.step skip chunk s dir l = (s', downSpec skip (M.abs s) dir l, tr, none) ∧
      M.inv s' ∧ M.abs s' = M.abs s := by
  induction l generalizing s dir with
  | nil => exact ⟨s, [], rfl, hi, rfl⟩
  | cons n l ih =>
    obtain ⟨hv, hu, hok, hlive⟩ := hl n List.mem_cons_self
    obtain ⟨d, hd⟩ := Option.isSome_iff_exists.mp hlive
    obtain ⟨s1, t1, e1, i1, a1⟩ := downloadOne_spec M hU skip chunk s hi dir hdir n hv hu hok d hd
    have hdir1 : ∀ q ∈ (if skip = true ∧ (dir.get (splitSlash n)).isSome = true then dir else dir.put (splitSlash n) d).keys,
        U q := by
      split
      · exact hdir
      · exact fun q hq => (Tree.keys_put_subset dir _ d q hq).elim (fun e => e ▸ hu) (hdir q)
    obtain ⟨s2, t2, e2, i2, a2⟩ := ih s1 i1 (fun k hk => a1 ▸ hl k (List.mem_cons_of_mem _ hk)) _ hdir1
    refine ⟨s2, t1 ++ t2, ?_, i2, a2.trans a1⟩
    simp only [downloadLoop, e1, e2, downSpec, hd, a1]
end download

def delAll : Spec → List Name → Spec
  | m, [] => m
  | m, n :: rest => delAll (m.del n) rest

theorem delAll_apply (m : Spec) (l : List Name) (n : Name) : delAll m l n = if n ∈ l then none else m n := by
  induction l generalizing m with
  | nil => simp [delAll]
  | cons k l ih =>
    simp only [delAll, ih, List.mem_cons, Spec.del]
    by_cases h1 : n ∈ l
    · simp [h1]
    · by_cases h2 : n = k <;> simp [h1, h2]

def eraseAll : Tree → List Path → Tree
  | t, [] => t
  | t, p :: rest => eraseAll (t.erase p) rest

theorem eraseAll_get (t : Tree) (l : List Path) (q : Path) : (eraseAll t l).get q = if q ∈ l then none else t.get q := by
  induction l generalizing t with
  | nil => simp [eraseAll]
  | cons p l ih =>
    simp only [eraseAll, ih, List.mem_cons, Tree.get_erase]
    by_cases h1 : q ∈ l
    · simp [h1]
    · by_cases h2 : q = p <;> simp [h1, h2]

theorem eraseAll_keys (t : Tree) (l : List Path) : ∀ q ∈ (eraseAll t l).keys, q ∈ t.keys := by
  induction l generalizing t with
  | nil => exact fun _ h => h
  | cons p l ih => exact fun q hq => Tree.keys_erase_subset t p q (ih _ q hq)

theorem evict_spec {U : Path → Prop} (hU : Universe U) (cache : Tree) (hc : ∀ q ∈ cache.keys, U q) (n : Name)
    (hv : validName n = true) (hu : U (splitSlash n)) : evict cache n = (cache.erase (splitSlash n), none) := by
  unfold evict
  simp only [LocalFS.relPath_valid hv, Tree.not_blocked_not_isDir hU hc hu, LocalFS.splitSlash_ne_nil n,
    Bool.false_eq_true, or_self, if_false]

section delete
variable {σ : Type} (M : StoreModel σ)

theorem deleteLoop_spec {U : Path → Prop} (hU : Universe U) (useCache : Bool) (l : List Name) (hok : ∀ n ∈ l, M.ok (.delete n))
    (hn : useCache = true → ∀ n ∈ l, validName n = true ∧ U (splitSlash n)) (s : σ) (hi : M.inv s) (cache : Tree)
    (hc : useCache = true → ∀ q ∈ cache.keys, U q) :
    ∃ s' tr, deleteLoop M.step useCache s cache l =
        (s', (if useCache = true then eraseAll cache (l.map splitSlash) else cache), tr, none) ∧
      M.inv s' ∧ M.abs s' = delAll (M.abs s) l := by
  induction l generalizing s cache with
  | nil => exact ⟨s, [], by cases useCache <;> rfl, hi, rfl⟩
  | cons n l ih =>
    obtain ⟨h1, h2, h3⟩ := M.refines s _ hi (hok n List.mem_cons_self)
    have hok' : ∀ k ∈ l, M.ok (.delete k) := fun k hk => hok k (List.mem_cons_of_mem _ hk)
    have hn' : useCache = true → ∀ k ∈ l, validName k = true ∧ U (splitSlash k) := fun hu k hk => hn hu k (List.mem_cons_of_mem _ hk)
    cases useCache with
    | false =>
      obtain ⟨s2, t2, e2, i2, a2⟩ := ih hok' hn' _ h1 cache hc
      refine ⟨s2, (.delete n, .unit) :: t2, ?_, i2, by rw [a2, h2]; rfl⟩
      simp only [deleteLoop, h3, retUnit, Bool.false_eq_true, if_false, e2]
    | true =>
      obtain ⟨hv, hu⟩ := hn rfl n List.mem_cons_self
      obtain ⟨s2, t2, e2, i2, a2⟩ := ih hok' hn' _ h1 (cache.erase (splitSlash n))
        (fun _ q hq => hc rfl q (Tree.keys_erase_subset _ _ q hq))
      refine ⟨s2, (.delete n, .unit) :: t2, ?_, i2, by rw [a2, h2]; rfl⟩
      simp only [deleteLoop, h3, retUnit, if_true, evict_spec hU cache (hc rfl) n hv hu, e2, List.map_cons, eraseAll]
end delete

section commands
variable {σ : Type} (M : StoreModel σ)

theorem uploadObjects_spec (concurrent : Nat) (hconc : 1 ≤ concurrent) (cwd : Path) (dirs paths : List Path) (rl : Option Nat)
    (hrl : rl ≠ some 0) (skip : Bool) (s : σ) (hinv : M.inv s) (t : Tree) (fl : List Path) (hfl : flatten t dirs paths = .ok fl)
    (hok : ∀ f ∈ fl, M.OkName (objectName cwd f)) :
    ∃ st tr, uploadObjects M.step concurrent cwd dirs paths rl skip s t =
        ⟨st, t, tr, .ok (if dedupFirst fl = [] then .none else .files (dedupFirst fl))⟩ ∧
      M.inv st ∧ M.abs st = upSpec skip (M.abs s) (items cwd t (dedupFirst fl)) := by
  obtain ⟨chunk, hchunk, hc1⟩ := chunkSize_pos concurrent hconc rl hrl
  unfold uploadObjects
  simp only [hfl]
  by_cases he : dedupFirst fl = []
  · simp only [he, if_true]
    exact ⟨s, [], rfl, hinv, rfl⟩
  · have hitems : ∀ e ∈ items cwd t (dedupFirst fl), M.ok (.exists_ e.1) ∧ M.ok (.uploadStream e.1 e.2 chunk) := by
      rintro ⟨n, d⟩ he'
      obtain ⟨f, hf, _, rfl⟩ := items_mem.mp he'
      obtain ⟨o1, _, o3, _⟩ := hok f ((mem_dedupFirst fl f).mp hf)
      exact ⟨o1, o3 d chunk hc1⟩
    obtain ⟨st, tr, e, k2, k3⟩ := uploadLoop_spec M skip chunk _ hitems s hinv
    simp only [he, if_false, hchunk, e]
    exact ⟨st, tr, rfl, k2, k3⟩

theorem downloadObjects_spec {U : Path → Prop} (hU : Universe U) (concurrent : Nat) (hconc : 1 ≤ concurrent) (pfx : Name)
    (keep : Name → Bool) (rl : Option Nat) (hrl : rl ≠ some 0) (skip : Bool) (s : σ) (hinv : M.inv s) (dir : Tree)
    (hdir : ∀ q ∈ dir.keys, U q) (hlist : M.ok (.list pfx))
    (hsel : ∀ n, (M.abs s n).isSome = true → pfx <+: n → keep n = true → validName n = true ∧ U (splitSlash n) ∧ M.OkName n) :
    ∃ (l : List Name) (st : σ) (tr : List (Op × Ret)),
      l.Nodup ∧ (∀ n, n ∈ l ↔ (M.abs s n).isSome = true ∧ pfx <+: n ∧ keep n = true) ∧
      downloadObjects M.step concurrent pfx keep rl skip s dir =
        ⟨st, downSpec skip (M.abs s) dir l, tr, .ok (if l = [] then .none else .names l)⟩ ∧
      M.inv st ∧ M.abs st = M.abs s := by
  obtain ⟨chunk, hchunk, hc1⟩ := chunkSize_pos concurrent hconc rl hrl
  obtain ⟨i1, a1, ns, hns, hnd, hmem⟩ := M.refines s _ hinv hlist
  have hmem' : ∀ n, n ∈ ns.filter keep ↔ (M.abs s n).isSome = true ∧ pfx <+: n ∧ keep n = true := by
    intro n
    simp only [List.mem_filter, hmem n, and_assoc]
  unfold downloadObjects
  simp only [hns]
  by_cases he : ns.filter keep = []
  · simp only [he, if_true]
    exact ⟨[], _, _, List.nodup_nil, he ▸ hmem', rfl, i1, a1⟩
  · have hl : ∀ n ∈ ns.filter keep, validName n = true ∧ U (splitSlash n) ∧ M.ok (.downloadStream n chunk []) ∧
        (M.abs (M.step s (.list pfx)).1 n).isSome = true := by
      intro n hn
      obtain ⟨h1, h2, h3⟩ := (hmem' n).mp hn
      obtain ⟨v, u, _, _, _, o4⟩ := hsel n h1 h2 h3
      exact ⟨v, u, o4 chunk [] hc1, a1 ▸ h1⟩
    obtain ⟨st, tr, e, k2, k3⟩ := downloadLoop_spec M hU skip chunk _ _ i1 hl dir hdir
    refine ⟨ns.filter keep, st, (.list pfx, .names ns) :: tr, hnd.filter _, hmem', ?_, k2, k3.trans a1⟩
    simp only [he, if_false, hchunk, e, a1]

theorem listObjects_spec (pfx : Name) (keep : Name → Bool) (s : σ) (hinv : M.inv s) (loc : Tree) (hlist : M.ok (.list pfx)) :
    ∃ (l : List Name) (st : σ) (tr : List (Op × Ret)),
      l.Nodup ∧ (∀ n, n ∈ l ↔ (M.abs s n).isSome = true ∧ pfx <+: n ∧ keep n = true) ∧
      listObjects M.step pfx keep s loc = ⟨st, loc, tr, .ok (.names l)⟩ ∧ M.inv st ∧ M.abs st = M.abs s := by
  obtain ⟨i1, a1, ns, hns, hnd, hmem⟩ := M.refines s _ hinv hlist
  refine ⟨ns.filter keep, _, [(.list pfx, .names ns)], hnd.filter _, fun n => ?_, ?_, i1, a1⟩
  · simp only [List.mem_filter, hmem n, and_assoc]
  · simp only [listObjects, hns]

theorem deleteObjects_spec {U : Path → Prop} (hU : Universe U) (names : List Name) (confirm : Bool) (answer : List Char)
    (useCache : Bool) (s : σ) (hinv : M.inv s) (cache : Tree) (hok : ∀ n ∈ names, M.ok (.delete n))
    (hn : useCache = true → ∀ n ∈ names, validName n = true ∧ U (splitSlash n))
    (hc : useCache = true → ∀ q ∈ cache.keys, U q) :
    ∃ st loc tr, deleteObjects M.step names confirm answer useCache s cache = ⟨st, loc, tr, .ok .none⟩ ∧ M.inv st ∧
      (∀ n, M.abs st n = if proceeds confirm answer = true ∧ n ∈ names then none else M.abs s n) ∧
      (∀ q, loc.get q = if proceeds confirm answer = true ∧ useCache = true ∧ q ∈ names.map splitSlash then none else cache.get q) ∧
      (∀ q ∈ loc.keys, q ∈ cache.keys) := by
  unfold deleteObjects
  cases proceeds confirm answer with
  | false =>
    simp only [Bool.false_eq_true, if_false, false_and]
    exact ⟨s, cache, [], rfl, hinv, fun _ => rfl, fun _ => rfl, fun _ h => h⟩
  | true =>
    obtain ⟨st, tr, e, k2, k3⟩ := deleteLoop_spec M hU useCache names hok hn s hinv cache hc
    simp only [if_true, e, true_and]
    refine ⟨st, _, tr, rfl, k2, fun n => by rw [k3, delAll_apply], ?_⟩
    cases useCache with
    | false => exact ⟨fun q => by simp only [Bool.false_eq_true, if_false, false_and], fun _ hq => hq⟩
    | true => exact ⟨fun q => by simp only [if_true, eraseAll_get, true_and], eraseAll_keys _ _⟩
end commands

/-! ## interleavings of the upload tasks (map level; the scheduler is `runSchedule` of `ObjCmd.lean`) -/

/-- what every reachable configuration satisfies, relative to the map `m0` the command started from -/
structure Good (skip : Bool) (m0 : Spec) (items : List (Name × Bytes)) (m : Spec) (ts : List Task) : Prop where
  names : ts.map (·.name) = items.map (·.1)
  mem : ∀ t ∈ ts, (t.name, t.data) ∈ items
  other : ∀ n, n ∉ items.map (·.1) → m n = m0 n
  phase : ∀ t ∈ ts, match t.phase with
    | .todo => m t.name = m0 t.name
    | .pending => skip = true ∧ (m0 t.name).isSome = false ∧ m t.name = m0 t.name
    | .done => m t.name = if skip = true ∧ (m0 t.name).isSome = true then m0 t.name else some t.data

theorem good_init (skip : Bool) (m0 : Spec) (items : List (Name × Bytes)) : Good skip m0 items m0 (initTasks items) := by
  refine ⟨by simp [initTasks], ?_, fun _ _ => rfl, ?_⟩
  · intro t ht
    obtain ⟨e, he, rfl⟩ := List.mem_map.mp ht
    exact he
  · intro t ht
    obtain ⟨e, he, rfl⟩ := List.mem_map.mp ht
    rfl

theorem advance_frame (skip : Bool) (m : Spec) (t : Task) :
    (advance skip m t).2.name = t.name ∧ (advance skip m t).2.data = t.data ∧ ∀ k, k ≠ t.name → (advance skip m t).1 k = m k := by
  have hput : ∀ k, k ≠ t.name → m.put t.name t.data k = m k := fun _ hk => if_neg hk
  fun_cases advance skip m t
  · exact ⟨rfl, rfl, fun _ _ => rfl⟩
  · exact ⟨rfl, rfl, fun _ _ => rfl⟩
  · exact ⟨rfl, rfl, hput⟩
  · exact ⟨rfl, rfl, hput⟩
  · exact ⟨rfl, rfl, fun _ _ => rfl⟩

theorem good_step (skip : Bool) (m0 : Spec) (items : List (Name × Bytes)) (m : Spec) (ts : List Task) (n : Name)
    (h : Good skip m0 items m ts) : Good skip m0 items (stepTask skip m ts n).1 (stepTask skip m ts n).2 := by
  unfold stepTask
  cases hf : ts.find? (fun t => decide (t.name = n)) with
  | none => exact h
  | some t =>
    have ht : t ∈ ts := List.mem_of_find?_eq_some hf
    have htn : t.name = n := by simpa using List.find?_some hf
    obtain ⟨an, ad, ao⟩ := advance_frame skip m t
    simp only
    refine ⟨?_, ?_, ?_, ?_⟩
    · rw [← h.names, List.map_map]
      refine List.map_congr_left fun u _ => ?_
      by_cases hu : u.name = n <;> simp [hu, an, htn]
    · intro u hu
      obtain ⟨v, hv, rfl⟩ := List.mem_map.mp hu
      by_cases hvn : v.name = n
      · simp only [hvn, if_true, an, ad]; exact h.mem t ht
      · simp only [hvn, if_false]; exact h.mem v hv
    · intro k hk
      rw [ao k, h.other k hk]
      intro e
      apply hk
      rw [e, ← h.names]
      exact List.mem_map_of_mem ht
    · intro u hu
      obtain ⟨v, hv, rfl⟩ := List.mem_map.mp hu
      by_cases hvn : v.name = n
      · simp only [hvn, if_true]
        have hp := h.phase t ht
        unfold advance
        cases hph : t.phase with
        | todo =>
          rw [hph] at hp
          cases skip with
          | false => simp [Spec.put]
          | true =>
            rw [if_pos rfl, hp]
            cases hs : (m0 t.name).isSome <;> simp [hs, hp]
        | pending =>
          rw [hph] at hp
          simp [Spec.put, hp.2.1]
        | done =>
          rw [hph] at hp
          simpa only [hph] using hp
      · simp only [hvn, if_false]
        rw [ao v.name fun e => hvn (e.trans htn)]
        exact h.phase v hv

theorem good_run (skip : Bool) (m0 : Spec) (items : List (Name × Bytes)) (sched : List Name) (m : Spec) (ts : List Task)
    (h : Good skip m0 items m ts) : Good skip m0 items (runSchedule skip m ts sched).1 (runSchedule skip m ts sched).2 := by
  induction sched generalizing m ts with
  | nil => exact h
  | cons n sched ih => exact ih _ _ (good_step skip m0 items m ts n h)

end Replicat.ObjCmd
