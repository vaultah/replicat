import ReplicatModel.Sym
import ReplicatProofs.Lemmas.Common
/-! The reader side of the symbolic model on its own: AEAD inversion, codecs, MAC towers, what `loadSnapshot` answers, and the
restore pipeline (loading by name, file selection, reference plan). -/
namespace Replicat.Sym
open Term (pub sec nonce key nil pair mac kdf enc)

theorem foldl_inv {σ α : Type} {P : σ → Prop} {f : σ → α → σ} {l : List α} (h : ∀ s, ∀ a ∈ l, P s → P (f s a)) {s : σ}
    (hs : P s) : P (l.foldl f s) := by
  induction l generalizing s with
  | nil => exact hs
  | cons a l ih => exact ih (fun s b hb => h s b (List.mem_cons_of_mem _ hb)) (h s a List.mem_cons_self hs)

theorem mem_append_singleton {α : Type} {P : α → Prop} {l : List α} {x : α} (hl : ∀ a ∈ l, P a) (hx : P x) :
    ∀ a ∈ l ++ [x], P a := by
  intro a ha
  rcases List.mem_append.mp ha with ha | ha
  · exact hl a ha
  · rw [List.mem_singleton.mp ha]
    exact hx

theorem forall₂_mem_append_singleton {α : Type} (R : α → α → Prop) {l : List α} {x : α} (hl : ∀ a ∈ l, ∀ b ∈ l, R a b)
    (hx1 : ∀ a ∈ l, R a x) (hx2 : ∀ a ∈ l, R x a) (hxx : R x x) : ∀ a ∈ l ++ [x], ∀ b ∈ l ++ [x], R a b :=
  mem_append_singleton (fun a ha => mem_append_singleton (hl a ha) (hx1 a ha)) (mem_append_singleton hx2 hxx)

theorem getElem?_append_single {α : Type} {l : List α} {x y : α} {i : Nat} (h : (l ++ [x])[i]? = some y) :
    (i < l.length ∧ l[i]? = some y) ∨ (i = l.length ∧ y = x) := by
  by_cases hlt : i < l.length
  · exact Or.inl ⟨hlt, List.getElem?_append_left hlt ▸ h⟩
  · have hi := (List.getElem?_eq_some_iff.mp h).1
    rw [List.length_append] at hi
    have : i = l.length := Nat.le_antisymm (Nat.le_of_lt_succ hi) (Nat.le_of_not_lt hlt)
    subst this
    rw [List.getElem?_append_right (Nat.le_refl _), Nat.sub_self] at h
    exact Or.inr ⟨rfl, (Option.some.inj h).symm⟩

@[simp] theorem dec_enc (k n m : Term) : dec k (enc k n m) = some m := by simp [dec]

theorem dec_eq_some {k c m : Term} (h : dec k c = some m) : ∃ n, c = enc k n m := by
  unfold dec at h
  split at h
  · rename_i k' n m'
    split at h
    · rename_i hk
      cases h
      exact ⟨n, by rw [hk]⟩
    · cases h
  · cases h

theorem dec_enc_ne {k k' n m : Term} (h : k' ≠ k) : dec k (enc k' n m) = none := by simp [dec, h]

theorem decList_encList {α : Type} (f : α → Term) (g : Term → Option α) (hfg : ∀ a, g (f a) = some a) (l : List α) :
    decList g (encList f l) = some l := by
  induction l with
  | nil => rfl
  | cons a l ih => simp [encList, decList, hfg, ih]

@[simp] theorem decRef_encRef (r : Ref) : decRef (encRef r) = some r := rfl

@[simp] theorem decFile_encFile (f : FileRec) : decFile (encFile f) = some f := by
  simp [encFile, decFile, decList_encList encRef decRef decRef_encRef]

@[simp] theorem decData_encData (d : Data) : decData (encData d) = some d := by
  simp [encData, decData, decList_encList encFile decFile decFile_encFile]

@[simp] theorem decTable_encTable (t : List Term) : decTable (encTable t) = some t := by
  unfold decTable encTable
  exact decList_encList id some (fun _ => rfl) t

@[simp] theorem decPrivate_privateTerm (sh : Shared) : decPrivate (privateTerm sh) = some sh := rfl

theorem public_macN_succ {k : Term} (hk : Public k = false) (n : Nat) (t : Term) : Public (macN k (n + 1) t) = true := by
  simp [macN, Public, hk]

theorem isMac_macN_succ (k : Term) (n : Nat) (t : Term) : isMac (macN k (n + 1) t) = true := rfl

/-! locations written out, with the MAC depths of the source (`Gen.chunkNameMacDepth`, `Gen.chunkTagMacDepth`, `Gen.snapTagMacDepth`) -/
theorem chunkLoc_encrypted {p : Props} (he : p.encrypted = true) (d : Term) :
    chunkLoc p d = pair prefixChunk (pair (mac p.sh.macKey (mac p.sh.macKey d)) (mac p.sh.macKey d)) := by
  have hn : Gen.chunkNameMacDepth = 0 + 1 := rfl
  have ht : Gen.chunkTagMacDepth = 1 + 1 := rfl
  simp only [chunkLoc, chunkName, chunkTag, he, if_true, hn, ht, macN]

theorem chunkLoc_plain {p : Props} (he : p.encrypted = false) (d : Term) : chunkLoc p d = pair prefixChunk (pair d d) := by
  simp only [chunkLoc, chunkName, chunkTag, he, Bool.false_eq_true, if_false]

theorem snapshotTag_encrypted {p : Props} (he : p.encrypted = true) (n : Term) : snapshotTag p n = mac p.sh.macKey n := by
  have ht : Gen.snapTagMacDepth = 0 + 1 := rfl
  simp only [snapshotTag, he, if_true, ht, macN]

theorem snapshotTag_plain {p : Props} (he : p.encrypted = false) (n : Term) : snapshotTag p n = n := by
  simp only [snapshotTag, he, Bool.false_eq_true, if_false]

theorem decryptBody_stored (p : Props) (n1 n2 : Term) (table : List Term) (data : Data) :
    decryptBody p (snapshotStored p n1 n2 (encTable table) (encData data)) = .ok (table, some data) := by
  unfold snapshotStored decryptBody
  by_cases he : p.encrypted = true
  · simp [he]
  · simp [he]

theorem decryptBody_foreign (p q : Props) (hp : p.encrypted = true) (hq : q.encrypted = true) (hsh : q.sh = p.sh)
    (hk : q.userKey ≠ p.userKey) (n1 n2 : Term) (table : List Term) (data : Data) :
    decryptBody q (snapshotStored p n1 n2 (encTable table) (encData data)) = .ok (table, none) := by
  unfold snapshotStored decryptBody
  have hsub : ∀ c, subKey q c = subKey p c := by intro c; simp [subKey, hsh]
  have hfl : Gen.snapForeignDataTolerated = true := by decide
  simp [hp, hq, hsub, dec_enc_ne (Ne.symm hk), hfl]

theorem verifyChunk_ok_digest {p : Props} {d obj m : Term} (h : verifyChunk p d obj = .ok m) : digest m = d := by
  have hv : Gen.chunkDigestVerified = true := by decide
  unfold verifyChunk at h
  simp only [hv, Bool.true_and] at h
  split at h
  · cases h
  · rename_i m' _
    split at h
    · cases h
    · rename_i hne
      cases h
      exact Decidable.byContradiction fun hc => hne (decide_eq_true hc)

theorem digest_inj {a b : Term} (h : digest a = digest b) : a = b := by
  unfold digest at h
  exact Term.hash.inj h

theorem fetchChunk_ok_digest {p : Props} {s : Store} {d m : Term} (h : fetchChunk p s d = .ok m) : digest m = d := by
  unfold fetchChunk at h
  split at h
  · cases h
  · exact verifyChunk_ok_digest h

/-- the loader with the two checks of the source (`Gen.snapTagChecked`, `Gen.snapDigestVerified`) in place: tag, digest, body -/
theorem loadSnapshot_eq (p : Props) (tag name obj : Term) :
    loadSnapshot p tag name obj =
      if p.encrypted = true ∧ snapshotTag p name ≠ tag then .ok none
      else if Term.hash obj ≠ name then .error .corrupted
      else (decryptBody p obj).map some := by
  have ht : Gen.snapTagChecked = true := by decide
  have hv : Gen.snapDigestVerified = true := by decide
  simp only [loadSnapshot, ht, hv, Bool.true_and, Bool.and_eq_true, decide_eq_true_eq]
  cases decryptBody p obj <;> rfl

theorem loadSnapshot_some {p : Props} {tag name obj : Term} {r : List Term × Option Data}
    (h : loadSnapshot p tag name obj = .ok (some r)) : Term.hash obj = name ∧ decryptBody p obj = .ok r := by
  rw [loadSnapshot_eq] at h
  split at h
  · cases h
  · split at h
    · cases h
    · rename_i hh
      cases hd : decryptBody p obj with
      | error e =>
        rw [hd] at h
        cases h
      | ok r' =>
        rw [hd] at h
        cases h
        exact ⟨Decidable.not_not.mp hh, rfl⟩

theorem loadSnapshot_bad_tag (p : Props) (hp : p.encrypted = true) (tag name obj : Term) (ht : tag ≠ snapshotTag p name) :
    loadSnapshot p tag name obj = .ok none := by
  rw [loadSnapshot_eq, if_pos ⟨hp, Ne.symm ht⟩]

/-- `ok none` is decided before any download, anything else after the digest comparison -/
theorem loadSnapshot_ok_transfer {p : Props} {tag name obj' : Term} {r : Option (List Term × Option Data)}
    (h : loadSnapshot p tag name obj' = .ok r) (obj : Term) (hobj : Term.hash obj = name) :
    loadSnapshot p tag name obj = .ok r := by
  rw [loadSnapshot_eq] at h ⊢
  split at h
  · rename_i hc
    rw [if_pos hc]
    exact h
  · split at h
    · cases h
    · rename_i hc hh
      cases Term.hash.inj ((Decidable.not_not.mp hh).trans hobj.symm)
      rw [if_neg hc, if_neg hh]
      exact h

theorem loadSnapshot_own_damaged (p : Props) (stored0 obj : Term) (hne : obj ≠ stored0) :
    loadSnapshot p (snapshotTag p (snapshotName stored0)) (snapshotName stored0) obj = .error .corrupted := by
  have hh : Term.hash obj ≠ snapshotName stored0 := fun h => hne (Term.hash.inj h)
  rw [loadSnapshot_eq, if_neg fun h => h.2 rfl, if_pos hh]

theorem loadSnapshot_own (p : Props) (n1 n2 : Term) (table : List Term) (data : Data) :
    loadSnapshot p (snapshotTag p (snapshotName (snapshotStored p n1 n2 (encTable table) (encData data))))
        (snapshotName (snapshotStored p n1 n2 (encTable table) (encData data)))
        (snapshotStored p n1 n2 (encTable table) (encData data)) = .ok (some (table, some data)) := by
  simp [loadSnapshot, snapshotName, decryptBody_stored]

theorem loadSnapshot_shared (p q : Props) (hp : p.encrypted = true) (hq : q.encrypted = true) (hsh : q.sh = p.sh)
    (hk : q.userKey ≠ p.userKey) (n1 n2 : Term) (table : List Term) (data : Data) :
    loadSnapshot q (snapshotTag p (snapshotName (snapshotStored p n1 n2 (encTable table) (encData data))))
        (snapshotName (snapshotStored p n1 n2 (encTable table) (encData data)))
        (snapshotStored p n1 n2 (encTable table) (encData data)) = .ok (some (table, none)) := by
  have ht : snapshotTag q = snapshotTag p := by
    funext x
    rw [snapshotTag_encrypted hp, snapshotTag_encrypted hq, hsh]
  simp [loadSnapshot, snapshotName, decryptBody_foreign p q hp hq hsh hk, ht]

theorem loadSnapshot_other_family (p q : Props) (hp : p.encrypted = true) (hq : q.encrypted = true)
    (hk : q.sh.macKey ≠ p.sh.macKey) (name obj : Term) :
    loadSnapshot q (snapshotTag p name) name obj = .ok none := by
  refine loadSnapshot_bad_tag q hq _ name obj fun h => ?_
  rw [snapshotTag_encrypted hp, snapshotTag_encrypted hq] at h
  injection h with h _
  exact hk h.symm

theorem isort_eq {α : Type} (le : α → α → Bool) (l : List α) : isort le l = insertionSort le l := by
  have hins : ∀ a s, insertBy le a s = List.merge [a] s le := by
    intro a s
    induction s with
    | nil => exact (List.merge_right [a]).symm
    | cons b bs ih => rw [insertBy, merge_singleton_cons, ih]
  induction l with
  | nil => rfl
  | cons a as ih => rw [isort, ih, hins, insertionSort_cons]

theorem mem_isort {α : Type} (le : α → α → Bool) (x : α) (l : List α) : x ∈ isort le l ↔ x ∈ l :=
  isort_eq le l ▸ mem_insertionSort

theorem loadAll_mem {p : Props} {target : Term} {entries : List (Term × Term × Term)} {bodies : List (List Term × Data)}
    (h : loadAll p target entries = .ok bodies) :
    ∀ b ∈ bodies, ∃ tag obj, loadSnapshot p tag target obj = .ok (some (b.1, some b.2)) := by
  induction entries generalizing bodies with
  | nil =>
    cases h
    intro b hb
    cases hb
  | cons e rest ih =>
    obtain ⟨tag, name, obj⟩ := e
    rw [loadAll] at h
    split at h
    · exact ih h
    · rename_i hname
      rw [Decidable.not_not.mp hname] at h
      split at h
      · cases h
      · rename_i r hr
        split at h
        · cases h
        · rename_i bs hbs
          split at h
          · cases h
            exact fun b hb => (List.mem_cons.mp hb).elim (fun e => ⟨tag, obj, e ▸ hr⟩) (ih hbs b)
          · cases h
            exact ih hbs

theorem selectStep_mem (table : List Term) (files : List FileRec) (acc : List (List Term × FileRec) × List Term) :
    ∀ x ∈ (files.foldl (fun (acc : List (List Term × FileRec) × List Term) f =>
        if acc.2.contains f.path then acc else (acc.1 ++ [(table, f)], acc.2 ++ [f.path])) acc).1,
      x ∈ acc.1 ∨ (x.1 = table ∧ x.2 ∈ files) := by
  induction files generalizing acc with
  | nil => intro x hx; exact Or.inl hx
  | cons f fs ih =>
    intro x hx
    simp only [List.foldl_cons] at hx
    rcases ih _ x hx with h | ⟨h1, h2⟩
    · split at h
      · exact Or.inl h
      · simp only [List.mem_append, List.mem_singleton] at h
        rcases h with h | h
        · exact Or.inl h
        · subst h
          exact Or.inr ⟨rfl, by simp⟩
    · exact Or.inr ⟨h1, List.mem_cons_of_mem _ h2⟩

theorem selectFiles_mem (bodies : List (List Term × Data)) (seen : List Term) :
    ∀ x ∈ selectFiles bodies seen, ∃ b ∈ bodies, x.1 = b.1 ∧ x.2 ∈ b.2.files := by
  induction bodies generalizing seen with
  | nil => intro x hx; simp [selectFiles] at hx
  | cons b rest ih =>
    obtain ⟨table, data⟩ := b
    intro x hx
    simp only [selectFiles, List.mem_append] at hx
    rcases hx with hx | hx
    · rcases selectStep_mem table data.files ([], seen) x hx with h | ⟨h1, h2⟩
      · simp at h
      · exact ⟨(table, data), by simp, h1, h2⟩
    · obtain ⟨b, hb, h1, h2⟩ := ih _ x hx
      exact ⟨b, List.mem_cons_of_mem _ hb, h1, h2⟩

theorem restoreParts_cons_ok {fetch : Term → Except Err Term} {table : List Term} {r : Ref} {rs : List Ref} {ps : List Part}
    (h : restoreParts fetch table (r :: rs) = .ok ps) :
    ∃ d m ps', table[r.index]? = some d ∧ fetch d = .ok m ∧ restoreParts fetch table rs = .ok ps' ∧ ps = (m, r.lo, r.hi) :: ps' := by
  rw [restoreParts] at h
  split at h
  · cases h
  · rename_i d hd
    split at h
    · cases h
    · rename_i m hm
      split at h
      · cases h
      · rename_i ps' hps
        cases h
        exact ⟨d, m, ps', hd, hm, hps, rfl⟩

theorem restoreFiles_cons_ok {fetch : Term → Except Err Term} {table : List Term} {f : FileRec} {rest : List (List Term × FileRec)}
    {out : List (Term × List Part)} (h : restoreFiles fetch ((table, f) :: rest) = .ok out) :
    ∃ ps out', restoreParts fetch table (isort refLE f.refs) = .ok ps ∧ restoreFiles fetch rest = .ok out' ∧
      out = (f.path, ps) :: out' := by
  rw [restoreFiles] at h
  split at h
  · cases h
  · rename_i ps hps
    split at h
    · cases h
    · rename_i out' hout
      cases h
      exact ⟨ps, out', hps, hout, rfl⟩

theorem restoreFiles_mem (fetch : Term → Except Err Term) (l : List (List Term × FileRec)) (out : List (Term × List Part))
    (h : restoreFiles fetch l = .ok out) :
    ∀ w ∈ out, ∃ x ∈ l, w.1 = x.2.path ∧ restoreParts fetch x.1 (isort refLE x.2.refs) = .ok w.2 := by
  induction l generalizing out with
  | nil =>
    cases h
    intro w hw
    cases hw
  | cons x rest ih =>
    obtain ⟨ps, out', hps, hout, rfl⟩ := restoreFiles_cons_ok h
    intro w hw
    rcases List.mem_cons.mp hw with rfl | hw
    · exact ⟨x, List.mem_cons_self, rfl, hps⟩
    · obtain ⟨y, hy, h1, h2⟩ := ih out' hout w hw
      exact ⟨y, List.mem_cons_of_mem _ hy, h1, h2⟩

theorem restoreParts_sound (fetch : Term → Except Err Term) (hf : ∀ d m, fetch d = .ok m → digest m = d)
    (contents : List Term) (refs : List Ref) (ps : List Part)
    (h : restoreParts fetch (contents.map digest) refs = .ok ps) : honestParts contents refs = some ps := by
  induction refs generalizing ps with
  | nil =>
    cases h
    rfl
  | cons r rs ih =>
    obtain ⟨d, m, ps', hd, hm, hps, rfl⟩ := restoreParts_cons_ok h
    rw [List.getElem?_map] at hd
    obtain ⟨c, hc, rfl⟩ := Option.map_eq_some_iff.mp hd
    rw [digest_inj (hf _ m hm)]
    simp only [honestParts, hc, ih ps' hps]

theorem restoreParts_det (f1 f2 : Term → Except Err Term) (h1 : ∀ d m, f1 d = .ok m → digest m = d)
    (h2 : ∀ d m, f2 d = .ok m → digest m = d) (table : List Term) (refs : List Ref) (o1 o2 : List Part)
    (e1 : restoreParts f1 table refs = .ok o1) (e2 : restoreParts f2 table refs = .ok o2) : o1 = o2 := by
  induction refs generalizing o1 o2 with
  | nil =>
    cases e1
    cases e2
    rfl
  | cons r rs ih =>
    obtain ⟨d, m1, p1, hd, hm1, hp1, rfl⟩ := restoreParts_cons_ok e1
    obtain ⟨d', m2, p2, hd', hm2, hp2, rfl⟩ := restoreParts_cons_ok e2
    cases hd.symm.trans hd'
    rw [digest_inj ((h1 d m1 hm1).trans (h2 d m2 hm2).symm), ih p1 p2 hp1 hp2]

theorem getAll_pair (m : Meta) (k1 k2 : String) :
    (∃ a t, m.get k1 = some a ∧ m.get k2 = some t ∧ getAll m [k1, k2] = some [a, t]) ∨
    ((m.get k1 = none ∨ m.get k2 = none) ∧ getAll m [k1, k2] = none) := by
  simp only [getAll]
  cases h1 : m.get k1 with
  | none => exact Or.inr ⟨Or.inl rfl, rfl⟩
  | some a =>
    cases h2 : m.get k2 with
    | none => exact Or.inr ⟨Or.inr rfl, rfl⟩
    | some t => exact Or.inl ⟨a, t, rfl, rfl, rfl⟩

end Replicat.Sym
