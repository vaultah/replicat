import ReplicatProofs.Lemmas.RepoConc
/-! The sequential history of `Repo.lean` (`run`: one snapshot command after the other, its workers one after the other) IS one
of the executions of the concurrent semantics: the trace `seqTraceAll` is accepted, complete, and ends in literally the same
store.  So every theorem about all concurrent executions specialises to the sequential model, and complete executions exist for
every list of commands whose pools have at least one worker.  Used by C02. -/
namespace Replicat.Repo
open List

theorem set_same {α : Type} {l : List α} {i : Nat} {a : α} (h : l[i]? = some a) : l.set i a = l := by
  obtain ⟨hi, rfl⟩ := List.getElem?_eq_some_iff.mp h
  exact set_getElem_self hi

/-- the store after the worker loop, as a function of the remaining chunks -/
theorem fold_fst_cons (u : User) (c : Content) (cs : List Content) (s : Store) (acc : List Name) :
    ((c :: cs).foldl (uploadChunk u) (s, acc)).1 =
      (cs.foldl (uploadChunk u) (if (get s (.chunk u.fam c)).isSome then s else put s (.chunk u.fam c) (.chunk u.fam c), acc)).1 := by
  have hind : ∀ (l : List Content) (a b : Store × List Name), a.1 = b.1 →
      (l.foldl (uploadChunk u) a).1 = (l.foldl (uploadChunk u) b).1 := by
    intro l
    induction l with
    | nil => intro a b h; exact h
    | cons x xs ih =>
      intro a b h
      simp only [foldl_cons]
      apply ih
      unfold uploadChunk
      rw [h]
      split <;> simp [h]
  simp only [foldl_cons]
  apply hind
  unfold uploadChunk
  split <;> rfl

/-- the chunk calls of one command, its workers one after the other -/
theorem seqEvents_run {cmds : List SnapCmd} {i : Nat} {cmd : SnapCmd} (hc : cmds[i]? = some cmd) (hw : 1 ≤ cmd.workers) (d : Bool) :
    ∀ (todo : List Content) (s : Store) (progs : List Prog), progs[i]? = some ⟨todo, [], d⟩ →
      crun cmds ⟨s, progs⟩ (seqEvents i cmd.u.fam s todo) = some ⟨(todo.foldl (uploadChunk cmd.u) (s, [])).1, progs.set i ⟨[], [], d⟩⟩ := by
  intro todo
  induction todo with
  | nil =>
    intro s progs hp
    simp only [seqEvents, crun, foldl_nil]
    rw [set_same hp]
  | cons c cs ih =>
    intro s progs hp
    have hwin : c ∈ window cmd ⟨c :: cs, [], d⟩ := by
      rw [window, length_nil, Nat.sub_zero, ← Nat.sub_add_cancel hw, take_succ_cons]
      exact mem_cons_self
    rw [fold_fst_cons]
    by_cases hpres : (get s (.chunk cmd.u.fam c)).isSome = true
    · simp only [seqEvents, hpres, if_true]
      have st1 := CStep.exists (st := ⟨s, progs⟩) (r := true) hc hp hwin hpres.symm
      simp only [erase_cons_head, if_true] at st1
      refine crun_step st1 ?_
      have := ih s (progs.set i ⟨cs, [], d⟩) (set_lookup_self hp)
      rw [this, set_set]
    · simp only [seqEvents, hpres, Bool.false_eq_true, if_false]
      have hfalse : (get s (.chunk cmd.u.fam c)).isSome = false := by simpa using hpres
      have st1 := CStep.exists (st := ⟨s, progs⟩) (r := false) hc hp hwin hfalse.symm
      simp only [erase_cons_head, Bool.false_eq_true, if_false, nil_append] at st1
      refine crun_step st1 ?_
      have st2 := CStep.upload (st := ⟨s, progs.set i ⟨cs, [c], d⟩⟩) (c := c) hc (set_lookup_self hp) (by simp)
      simp only [erase_cons_head, set_set] at st2
      refine crun_step st2 ?_
      have := ih (put s (.chunk cmd.u.fam c) (.chunk cmd.u.fam c)) (progs.set i ⟨cs, [], d⟩) (set_lookup_self hp)
      rw [this, set_set]

/-- one whole command: its chunk calls, then the snapshot object — ends in the store of the sequential `snapshot` -/
theorem seqTrace_run {cmds : List SnapCmd} {i : Nat} {cmd : SnapCmd} (hc : cmds[i]? = some cmd) (hw : 1 ≤ cmd.workers)
    (s : Store) (progs : List Prog) (hp : progs[i]? = some (Prog.init cmd)) :
    crun cmds ⟨s, progs⟩ (seqTrace i cmd s) =
      some ⟨(snapshot cmd.u cmd.stream cmd.files cmd.ts cmd.sid s).1, progs.set i ⟨[], [], true⟩⟩ := by
  unfold seqTrace
  apply crun_append_of (seqEvents_run hc hw false cmd.stream s progs hp)
  have st1 := CStep.commit (st := ⟨(cmd.stream.foldl (uploadChunk cmd.u) (s, [])).1, progs.set i ⟨[], [], false⟩⟩) hc
    (set_lookup_self hp) rfl rfl rfl
  simp only [set_set] at st1
  exact crun_step st1 rfl

theorem seqTraceAll_run (enc : Bool) (cmds : List SnapCmd) (hw : ∀ cmd ∈ cmds, 1 ≤ cmd.workers) :
    ∀ (rest pre : List SnapCmd) (s : Store), cmds = pre ++ rest →
      crun cmds ⟨s, pre.map (fun _ => (⟨[], [], true⟩ : Prog)) ++ rest.map Prog.init⟩ (seqTraceAll pre.length s rest) =
        some ⟨run enc s (rest.map SnapCmd.op), cmds.map (fun _ => (⟨[], [], true⟩ : Prog))⟩ := by
  intro rest
  induction rest with
  | nil =>
    intro pre s hcm
    simp only [seqTraceAll, crun, map_nil, append_nil, run, foldl_nil] at *
    rw [hcm]
  | cons cmd rest ih =>
    intro pre s hcm
    have hlen : (pre.map (fun _ => (⟨[], [], true⟩ : Prog))).length = pre.length := length_map _
    have hci : cmds[pre.length]? = some cmd := by
      rw [hcm, getElem?_append_right (Nat.le_refl _), Nat.sub_self]
      rfl
    have hpi : (pre.map (fun _ => (⟨[], [], true⟩ : Prog)) ++ (cmd :: rest).map Prog.init)[pre.length]? = some (Prog.init cmd) := by
      rw [getElem?_append_right (Nat.le_of_eq hlen), hlen, Nat.sub_self]
      rfl
    have hmem : cmd ∈ cmds := hcm ▸ mem_append_right _ mem_cons_self
    rw [seqTraceAll]
    apply crun_append_of (seqTrace_run hci (hw cmd hmem) s _ hpi)
    have hset : (pre.map (fun _ => (⟨[], [], true⟩ : Prog)) ++ (cmd :: rest).map Prog.init).set pre.length ⟨[], [], true⟩
        = (pre ++ [cmd]).map (fun _ => (⟨[], [], true⟩ : Prog)) ++ rest.map Prog.init := by
      rw [map_cons, set_append_right _ _ (Nat.le_of_eq hlen), hlen, Nat.sub_self, map_append, append_assoc]
      rfl
    rw [hset]
    have := ih (pre ++ [cmd]) (snapshot cmd.u cmd.stream cmd.files cmd.ts cmd.sid s).1 (by rw [hcm, append_assoc]; rfl)
    rw [length_append, length_singleton] at this
    exact this

theorem seqTraceAll_complete (enc : Bool) (s : Store) (cmds : List SnapCmd) (hw : ∀ cmd ∈ cmds, 1 ≤ cmd.workers) :
    ∃ st, crun cmds (CState.init s cmds) (seqTraceAll 0 s cmds) = some st ∧ st.complete = true ∧
      st.store = run enc s (cmds.map SnapCmd.op) := by
  refine ⟨_, seqTraceAll_run enc cmds hw cmds [] s rfl, ?_, rfl⟩
  rw [CState.complete, all_map]
  exact all_eq_true.mpr (fun _ _ => rfl)

end Replicat.Repo
