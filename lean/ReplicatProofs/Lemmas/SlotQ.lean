import ReplicatModel.SlotQ
import ReplicatProofs.Lemmas.Sched
/-! Helper lemmas for the slot-queue thread-affinity theorems (C09). -/
namespace Replicat.SlotQ

theorem run_append (σ : Q) (xs ys : List Ev) :
    run σ (xs ++ ys) = (run σ xs).bind (fun σ' => run σ' ys) := by
  induction xs generalizing σ with
  | nil => simp [run]
  | cons e es ih =>
    simp only [List.cons_append, run]
    cases step σ e with
    | none => simp
    | some σ' => simpa using ih σ'

/-- A getter that finds the queue empty parks within the same callback (`sawEmpty` is 0 again), a getter that runs means the loop is
awake, and a give-back wakes a parked getter, if there is one, through the self-pipe. -/
theorem astep_inv (n : Nat) (σ σ' : Q) (a : Act) (hI : Inv n σ) (h : astep σ a = some σ') : Inv n σ' := by
  obtain ⟨hc, hs, hp, hz⟩ := hI
  cases a with
  | request =>
    cases h
    exact ⟨hc, hs, hp, nofun⟩
  | runFresh =>
    by_cases hi : σ.items = 0
    · by_cases hf : σ.fresh = 0 ∨ σ.asleep = true
      · simp only [astep, expand, run, step, if_pos hf, if_pos hi] at h
        cases h
      · simp only [astep, expand, run, step, if_neg hf, if_pos hi, Nat.succ_ne_zero, if_false] at h
        cases h
        exact ⟨hc, (Nat.add_sub_cancel ..).trans hs, fun _ => Nat.le_trans (Nat.le_of_eq hi) (Nat.zero_le _), fun ha => absurd (Or.inr ha) hf⟩
    · by_cases hf : σ.fresh = 0 ∨ σ.asleep = true
      · simp only [astep, expand, run, step, if_pos hf, if_neg hi] at h
        cases h
      · simp only [astep, expand, run, step, if_neg hf, if_neg hi] at h
        cases h
        exact ⟨(Sched.sub_one_add_succ (Nat.pos_of_ne_zero hi) _).trans hc, hs, fun hpk => Nat.le_trans (Nat.sub_le ..) (hp hpk),
          fun ha => absurd (Or.inr ha) hf⟩
  | runWoken =>
    by_cases hi : σ.items = 0
    · by_cases hf : σ.ready = 0 ∨ σ.asleep = true
      · simp only [astep, expand, run, step, if_pos hf, if_pos hi] at h
        cases h
      · simp only [astep, expand, run, step, if_neg hf, if_pos hi, Nat.succ_ne_zero, if_false] at h
        cases h
        exact ⟨hc, (Nat.add_sub_cancel ..).trans hs, fun _ => Nat.le_trans (Nat.le_of_eq hi) (Nat.zero_le _), fun ha => absurd (Or.inr ha) hf⟩
    · by_cases hf : σ.ready = 0 ∨ σ.asleep = true
      · simp only [astep, expand, run, step, if_pos hf, if_neg hi] at h
        cases h
      · simp only [astep, expand, run, step, if_neg hf, if_neg hi] at h
        cases h
        exact ⟨(Sched.sub_one_add_succ (Nat.pos_of_ne_zero hi) _).trans hc, hs, fun hpk => Nat.sub_le_sub_right (hp hpk) 1,
          fun ha => absurd (Or.inr ha) hf⟩
  | giveBack =>
    by_cases hh : σ.held = 0
    · simp only [astep, expand, run, step, if_pos hh] at h
      cases h
    · have hc' : σ.items + 1 + (σ.held - 1) = n := (Sched.succ_add_sub_one (Nat.pos_of_ne_zero hh) _).trans hc
      by_cases hpk : σ.parked = 0
      · simp only [astep, expand, run, step, if_neg hh, if_pos hpk, if_true] at h
        cases h
        exact ⟨hc', hs, fun h0 => absurd hpk (Nat.ne_of_gt h0), nofun⟩
      · simp only [astep, expand, run, step, if_neg hh, if_neg hpk, if_true] at h
        cases h
        exact ⟨hc', hs, fun _ => Nat.succ_le_succ (hp (Nat.pos_of_ne_zero hpk)), nofun⟩
  | idle =>
    by_cases hq : σ.fresh = 0 ∧ σ.ready = 0 ∧ σ.sawEmpty = 0
    · simp only [astep, expand, run, step, if_pos hq] at h
      cases h
      exact ⟨hc, hs, hp, fun _ => ⟨hq.2.1, hq.1⟩⟩
    · simp only [astep, expand, run, step, if_neg hq] at h
      cases h

theorem arun_inv (n : Nat) (σ σ' : Q) (as : List Act) (hI : Inv n σ) (h : arun σ as = some σ') : Inv n σ' := by
  induction as generalizing σ with
  | nil =>
    cases h
    exact hI
  | cons a as ih =>
    simp only [arun] at h
    cases ha : astep σ a with
    | none => simp [ha] at h
    | some σ₁ =>
      simp only [ha] at h
      exact ih σ₁ (astep_inv n σ σ₁ a hI ha) h

theorem init_inv (n : Nat) : Inv n (init n) :=
  ⟨rfl, rfl, fun h => absurd h (Nat.lt_irrefl 0), nofun⟩

theorem inv_parked {n : Nat} {σ : Q} (hn : 0 < n) (hI : Inv n σ) (hpk : σ.parked > 0) :
    (σ.ready > 0 ∧ σ.asleep = false) ∨ σ.held > 0 := by
  obtain ⟨hc, _, hp, hz⟩ := hI
  by_cases hh : σ.held = 0
  · -- all `n ≥ 1` slots are in the queue, so at least as many getters have been woken
    rw [hh, Nat.add_zero] at hc
    have hr : σ.ready > 0 := Nat.lt_of_lt_of_le (hc ▸ hn) (hp hpk)
    refine Or.inl ⟨hr, ?_⟩
    cases ha : σ.asleep with
    | false => rfl
    | true => exact absurd (hz ha).1 (Nat.ne_of_gt hr)
  · exact Or.inr (Nat.pos_of_ne_zero hh)

theorem inv_not_lost {n : Nat} {σ : Q} (hn : 0 < n) (hI : Inv n σ) : lostWakeup σ = false := by
  refine Bool.eq_false_iff.mpr fun h => ?_
  simp only [lostWakeup, Bool.and_eq_true, Bool.or_eq_true, beq_iff_eq, decide_eq_true_eq] at h
  obtain ⟨⟨⟨⟨h1, h2⟩, _⟩, _⟩, h5⟩ := h
  have hr : σ.ready = 0 := h5.elim id fun ha => (hI.2.2.2 ha).1
  rw [hr, Nat.add_zero] at h1
  rcases inv_parked hn hI h1 with ⟨hr', _⟩ | hh
  · exact absurd hr (Nat.ne_of_gt hr')
  · exact absurd h2 (Nat.ne_of_gt hh)

end Replicat.SlotQ
