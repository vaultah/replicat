import ReplicatProofs.Lemmas.SymRestore
import ReplicatProofs.Lemmas.SymView
/-! The history invariant behind the C14 history-level theorems: every emitted entry has one of four shapes, key families are
told apart by their MAC key and keys by their KDF salt, the store is a map contained in the log, and a snapshot that is present
has every chunk of its table present. -/
namespace Replicat.Sym
open Term (pub sec nonce key nil pair mac kdf enc)

inductive Form (en : Bool) (users : List User) (cfg : Term) : Term × Term → Prop
  | config : Form en users cfg (configLoc, cfg)
  | key (i : Nat) (t : Term) (hi : i < users.length) : Form en users cfg (keyLoc i, t)
  | chunk (u : User) (hu : u ∈ users) (n c : Term) :
      Form en users cfg (chunkLoc (u.props en) (digest c), chunkObject (u.props en) n c)
  | snap (u : User) (hu : u ∈ users) (n1 n2 tb d : Term) :
      Form en users cfg (snapLoc (u.props en) (snapshotName (snapshotStored (u.props en) n1 n2 tb d)),
        snapshotStored (u.props en) n1 n2 tb d)

theorem Form.mono {en : Bool} {users : List User} {cfg : Term} {e : Term × Term} (h : Form en users cfg e) (vs : List User) :
    Form en (users ++ vs) cfg e := by
  cases h with
  | config => exact .config
  | key i t hi => exact .key i t (Nat.lt_of_lt_of_le hi (List.length_append ▸ Nat.le_add_right _ _))
  | chunk u hm n c => exact .chunk u (List.mem_append_left _ hm) n c
  | snap u hm n1 n2 tb d => exact .snap u (List.mem_append_left _ hm) n1 n2 tb d

@[simp] theorem props_encrypted (en : Bool) (u : User) : (u.props en).encrypted = en := rfl
@[simp] theorem props_sh (en : Bool) (u : User) : (u.props en).sh = u.sh := rfl

theorem pair_ne_of_prefix {a pre : Term} (y x : Term) (h : pre ≠ a) : pair a y ≠ pair pre x :=
  fun e => h (Term.pair.inj e).1.symm

theorem chunkLoc_ne_snapLoc (q p : Props) (d n : Term) : chunkLoc q d ≠ snapLoc p n := pair_ne_of_prefix _ _ (by decide)

theorem form_keyLoc {en users cfg} {e : Term × Term} {i : Nat} (h : Form en users cfg e) (hk : e.1 = keyLoc i) :
    i < users.length := by
  cases h with
  | config => cases hk
  | key j t hj =>
    injection hk with _ hk
    injection hk with hk
    exact hk ▸ hj
  | chunk u hm n c => exact absurd hk (pair_ne_of_prefix _ _ (by decide))
  | snap u hm n1 n2 tb d => exact absurd hk (pair_ne_of_prefix _ _ (by decide))

/-- an entry filed in the snapshot area is a snapshot object written by a key of the history under the digest of its content -/
theorem form_snapLoc {en users cfg} {e : Term × Term} {t n : Term} (h : Form en users cfg e)
    (hk : e.1 = pair prefixSnap (pair t n)) :
    ∃ u ∈ users, t = snapshotTag (u.props en) n ∧ n = snapshotName e.2 ∧
      ∃ n1 n2 tb d, e.2 = snapshotStored (u.props en) n1 n2 tb d := by
  cases h with
  | config => cases hk
  | key j t hj =>
    injection hk with hk
    cases hk
  | chunk u hm n c => exact absurd hk (pair_ne_of_prefix _ _ (by decide))
  | snap u hm n1 n2 tb d =>
    injection hk with _ hk
    injection hk with h1 h2
    exact ⟨u, hm, by rw [← h1, h2], h2.symm, n1, n2, tb, d, rfl⟩

/-- an entry filed in the chunk area is a chunk object written by a key of the history -/
theorem form_chunkLoc {en users cfg} {e : Term × Term} {t n : Term} (h : Form en users cfg e)
    (hk : e.1 = pair prefixChunk (pair t n)) :
    ∃ u ∈ users, ∃ nn c, e = (chunkLoc (u.props en) (digest c), chunkObject (u.props en) nn c) := by
  cases h with
  | config => cases hk
  | key j t hj =>
    injection hk with hk
    cases hk
  | chunk u hm nn c => exact ⟨u, hm, nn, c, rfl⟩
  | snap u hm n1 n2 tb d => exact absurd hk (pair_ne_of_prefix _ _ (by decide))

structure UInv (en : Bool) (users : List User) (next : Nat) : Prop where
  fam : ∀ u ∈ users, ∀ v ∈ users, u.sh.macKey = v.sh.macKey → u.sh = v.sh
  fresh : en = true → ∀ u ∈ users, ∃ m, m < next ∧ u.sh.macKey = key m
  saltFresh : en = true → ∀ u ∈ users, ∃ m, m < next ∧ u.salt = nonce m
  saltInj : ∀ (i j : Nat) (u v : User), users[i]? = some u → users[j]? = some v → u.salt = v.salt → i = j

structure LInv (en : Bool) (users : List User) (cfg : Term) (log : Store) : Prop where
  forms : ∀ e ∈ log, Form en users cfg e
  keyUniq : ∀ e1 ∈ log, ∀ e2 ∈ log, ∀ i, e1.1 = keyLoc i → e2.1 = keyLoc i → e1.2 = e2.2

structure SInv (store log : Store) : Prop where
  sub : ∀ e ∈ store, e ∈ log
  nodup : (store.map (·.1)).Nodup

def TakenOk (en : Bool) (users : List User) (t : Taken) : Prop :=
  (∃ u, users[t.user]? = some u ∧ t.p = u.props en) ∧ dataOk t.table.length t.data = true

structure TInv (en : Bool) (users : List User) (store : Store) (ts : List Taken) : Prop where
  ok : ∀ t ∈ ts, TakenOk en users t
  pres : ∀ t ∈ ts, lookup store t.loc ≠ none → ∀ d ∈ t.table, lookup store (chunkLoc t.p d) ≠ none

/-- holds after EVERY history -/
structure HInv (cfg : Term) (s : St) : Prop where
  hu : UInv s.encrypted s.users s.next
  hl : LInv s.encrypted s.users cfg s.log
  hs : SInv s.store s.log

/-- holds after every WELL-FORMED history (`wfHist`) -/
abbrev TI (s : St) (ts : List Taken) : Prop := TInv s.encrypted s.users s.store ts

theorem UInv.mono {en users next next'} (h : UInv en users next) (hn : next ≤ next') : UInv en users next' :=
  ⟨h.fam, fun he u hu => by obtain ⟨m, hm, hk⟩ := h.fresh he u hu; exact ⟨m, Nat.lt_of_lt_of_le hm hn, hk⟩,
   fun he u hu => by obtain ⟨m, hm, hk⟩ := h.saltFresh he u hu; exact ⟨m, Nat.lt_of_lt_of_le hm hn, hk⟩, h.saltInj⟩

theorem UInv.singleton {en : Bool} {next : Nat} (u : User) (hm : en = true → ∃ m, m < next ∧ u.sh.macKey = key m)
    (hs : en = true → ∃ m, m < next ∧ u.salt = nonce m) : UInv en [u] next := by
  refine ⟨?_, ?_, ?_, ?_⟩
  · intro a ha b hb _
    rw [List.mem_singleton.mp ha, List.mem_singleton.mp hb]
  · intro he a ha
    rw [List.mem_singleton.mp ha]
    exact hm he
  · intro he a ha
    rw [List.mem_singleton.mp ha]
    exact hs he
  · intro i j a b hi hj _
    rw [Nat.lt_one_iff.mp (List.getElem?_eq_some_iff.mp hi).1, Nat.lt_one_iff.mp (List.getElem?_eq_some_iff.mp hj).1]

theorem uinv_addUser {en : Bool} (he : en = true) {users : List User} {next next' : Nat} (h : UInv en users next) (v : User)
    (hv : (∃ b ∈ users, v.sh = b.sh) ∨ (∃ m, next ≤ m ∧ m < next' ∧ v.sh.macKey = key m))
    (hsalt : ∃ m, next ≤ m ∧ m < next' ∧ v.salt = nonce m) :
    UInv en (users ++ [v]) next' := by
  have hold : ∀ u ∈ users, u.sh.macKey = v.sh.macKey → u.sh = v.sh := by
    intro u hu hk
    rcases hv with ⟨b, hb, hvb⟩ | ⟨m, hm1, _, hvm⟩
    · rw [hvb] at hk ⊢
      exact h.fam u hu b hb hk
    · obtain ⟨m', hm', hum⟩ := h.fresh he u hu
      rw [hum, hvm] at hk
      injection hk with hk
      exact absurd (hk ▸ hm') (Nat.not_lt.mpr hm1)
  obtain ⟨ms, hms1, hms2, hvs⟩ := hsalt
  have hsaltOld : ∀ (i : Nat) (u : User), users[i]? = some u → u.salt ≠ v.salt := by
    intro i u hu hs
    obtain ⟨m', hm', hum⟩ := h.saltFresh he u (List.mem_of_getElem? hu)
    rw [hum, hvs] at hs
    injection hs with hs
    exact absurd (hs ▸ hm') (Nat.not_lt.mpr hms1)
  have hn : next ≤ next' := Nat.le_trans hms1 (Nat.le_of_lt hms2)
  refine ⟨?_, fun _ => ?_, fun _ => ?_, ?_⟩
  · exact forall₂_mem_append_singleton (fun (u v : User) => u.sh.macKey = v.sh.macKey → u.sh = v.sh) h.fam hold
      (fun u hu hk => (hold u hu hk.symm).symm) (fun _ => rfl)
  · refine mem_append_singleton ((h.mono hn).fresh he) ?_
    rcases hv with ⟨b, hb, hvb⟩ | ⟨m, _, hm2, hvm⟩
    · rw [hvb]
      exact (h.mono hn).fresh he b hb
    · exact ⟨m, hm2, hvm⟩
  · exact mem_append_singleton ((h.mono hn).saltFresh he) ⟨ms, hms2, hvs⟩
  · intro i j u w hi hj hs
    rcases getElem?_append_single hi with ⟨_, hi'⟩ | ⟨hi', hu⟩ <;>
      rcases getElem?_append_single hj with ⟨_, hj'⟩ | ⟨hj', hw⟩
    · exact h.saltInj i j u w hi' hj' hs
    · subst hw
      exact absurd hs (hsaltOld i u hi')
    · subst hu
      exact absurd hs.symm (hsaltOld j w hj')
    · rw [hi', hj']

/-- two different keys of a history have different user keys (their KDF salts are distinct fresh values) -/
theorem userKey_ne {en : Bool} {users : List User} {next : Nat} (h : UInv en users next) {i j : Nat} {u v : User}
    (hi : users[i]? = some u) (hj : users[j]? = some v) (hne : i ≠ j) (en' : Bool) :
    (v.props en').userKey ≠ (u.props en').userKey := by
  intro hk
  simp only [User.props, userKeyOf] at hk
  injection hk with _ hs _
  exact hne (h.saltInj i j u v hi hj hs.symm)

theorem tinv_addUser {en users store ts} (h : TInv en users store ts) (v : User) : TInv en (users ++ [v]) store ts := by
  refine ⟨?_, h.pres⟩
  intro t ht
  obtain ⟨⟨u, hu, hp⟩, hd⟩ := h.ok t ht
  refine ⟨⟨u, ?_, hp⟩, hd⟩
  rw [List.getElem?_append_left (List.getElem?_eq_some_iff.mp hu).1]
  exact hu

theorem linv_addKey {en users cfg log} (h : LInv en users cfg log) (v : User) (kf : Term) :
    LInv en (users ++ [v]) cfg (log ++ [(keyLoc users.length, kf)]) := by
  have hlen : users.length < (users ++ [v]).length := by
    rw [List.length_append]
    exact Nat.lt_succ_self _
  constructor
  · exact mem_append_singleton (fun e he => (h.forms e he).mono [v]) (.key _ _ hlen)
  · -- an older key file has a smaller index
    have hlt : ∀ e ∈ log, ∀ i, e.1 = keyLoc i → keyLoc users.length = keyLoc i → False := by
      intro e he i h1 h2
      injection h2 with _ h2
      injection h2 with h2
      exact Nat.lt_irrefl _ (h2 ▸ form_keyLoc (h.forms e he) h1)
    exact forall₂_mem_append_singleton (fun (e1 e2 : Term × Term) => ∀ i, e1.1 = keyLoc i → e2.1 = keyLoc i → e1.2 = e2.2) h.keyUniq
      (fun e he i h1 h2 => (hlt e he i h1 h2).elim) (fun e he i h1 h2 => (hlt e he i h2 h1).elim) (fun _ _ _ => rfl)

theorem LInv.append {en users cfg log} (h : LInv en users cfg log) {e : Term × Term} (hf : Form en users cfg e)
    (hk : ∀ i, e.1 ≠ keyLoc i) : LInv en users cfg (log ++ [e]) :=
  ⟨mem_append_singleton h.forms hf,
   forall₂_mem_append_singleton (fun (e1 e2 : Term × Term) => ∀ i, e1.1 = keyLoc i → e2.1 = keyLoc i → e1.2 = e2.2) h.keyUniq
     (fun _ _ i _ h2 => absurd h2 (hk i)) (fun _ _ i h1 _ => absurd h1 (hk i)) (fun _ _ _ => rfl)⟩

/-- two entries under one snapshot name carry one tag: they are the same object, so (encrypted) they were written under the
same user key, that is by the same key of the history -/
theorem snapTag_unique {en users next cfg log} (hu : UInv en users next) (hl : LInv en users cfg log)
    {e1 e2 : Term × Term} (h1 : e1 ∈ log) (h2 : e2 ∈ log) {t1 t2 n : Term}
    (k1 : e1.1 = pair prefixSnap (pair t1 n)) (k2 : e2.1 = pair prefixSnap (pair t2 n)) : t1 = t2 := by
  obtain ⟨u1, hu1, ht1, hn1, a1, b1, tb1, d1, hs1⟩ := form_snapLoc (hl.forms e1 h1) k1
  obtain ⟨u2, hu2, ht2, hn2, a2, b2, tb2, d2, hs2⟩ := form_snapLoc (hl.forms e2 h2) k2
  rw [ht1, ht2]
  cases en with
  | false => rfl
  | true =>
    have hst : e1.2 = e2.2 := Term.hash.inj (hn1.symm.trans hn2)
    rw [hs1, hs2] at hst
    injection hst with _ hst
    injection hst with hk _ _
    injection hk with _ hsalt _
    obtain ⟨i, hi⟩ := List.getElem?_of_mem hu1
    obtain ⟨j, hj⟩ := List.getElem?_of_mem hu2
    have hij := hu.saltInj i j u1 u2 hi hj hsalt
    rw [hij, hj] at hi
    rw [Option.some.inj hi]

theorem sinv_append {store log : Store} (h : SInv store log) (loc obj : Term) (hl : lookup store loc = none) :
    SInv (store ++ [(loc, obj)]) (log ++ [(loc, obj)]) :=
  ⟨mem_append_singleton (fun e he => List.mem_append_left _ (h.sub e he)) (List.mem_append_right _ List.mem_cons_self),
   nodup_append_new store loc obj h.nodup hl⟩

theorem sinv_log_append {store log : Store} (h : SInv store log) (e : Term × Term) : SInv store (log ++ [e]) :=
  ⟨fun x hx => List.mem_append_left _ (h.sub x hx), h.nodup⟩

theorem sinv_filter {store log : Store} (h : SInv store log) (f : Term × Term → Bool) : SInv (store.filter f) log :=
  ⟨fun e he => h.sub e (List.mem_filter.mp he).1, nodup_filter_keys store f h.nodup⟩

theorem tinv_append_chunk {en users store ts} (h : TInv en users store ts) (q : Props) (d0 obj : Term) :
    TInv en users (store ++ [(chunkLoc q d0, obj)]) ts := by
  refine ⟨h.ok, ?_⟩
  intro t ht hp d hd
  have hp' : lookup store t.loc ≠ none := by
    intro hl
    apply hp
    rw [lookup_append, hl]
    simp only [lookup, Taken.loc, chunkLoc_ne_snapLoc, if_false]
  exact lookup_append_ne_none (h.pres t ht hp' d hd)

theorem tinv_snapWrite {en users store ts} (h : TInv en users store ts) (t : Taken) (hok : TakenOk en users t) (obj : Term)
    (hpres : ∀ d ∈ t.table, lookup store (chunkLoc t.p d) ≠ none) :
    TInv en users (store.filter (fun e => e.1 ≠ t.loc) ++ [(t.loc, obj)]) (ts ++ [t]) := by
  refine ⟨mem_append_singleton h.ok hok, ?_⟩
  intro t' ht' hp d hd
  rw [lookup_replace_other store t.loc obj _ (chunkLoc_ne_snapLoc t'.p t.p d t.name)]
  rcases List.mem_append.mp ht' with ht' | ht'
  · by_cases hloc : t'.loc = t.loc
    · -- the same name was written again: same object, same table, same chunk locations
      obtain ⟨⟨u', _, hp'⟩, _⟩ := h.ok t' ht'
      obtain ⟨⟨u, _, hpt⟩, _⟩ := hok
      have he : t'.p.encrypted = t.p.encrypted := by rw [hp', hpt]; rfl
      obtain ⟨hname, hmac⟩ := snapLoc_inj he hloc
      have htab : t'.table = t.table := snapshotStored_table he (Term.hash.inj hname)
      rw [chunkLoc_congr he hmac d]
      exact hpres d (htab ▸ hd)
    · rw [lookup_replace_other _ _ _ _ hloc] at hp
      exact h.pres t' ht' hp d hd
  · rw [List.mem_singleton.mp ht'] at hd ⊢
    exact hpres d hd

theorem tinv_remove {en users store ts} (h : TInv en users store ts) (locs : List Term)
    (hok : (ts.all fun t => (lookup store t.loc).isNone || locs.contains t.loc ||
      t.table.all fun d => !locs.contains (chunkLoc t.p d)) = true) :
    TInv en users (store.filter (fun e => !locs.contains e.1)) ts := by
  refine ⟨h.ok, ?_⟩
  intro t ht hp d hd
  have hf := lookup_filter store (fun x => !locs.contains x)
  rw [hf] at hp ⊢
  have hto := List.all_eq_true.mp hok t ht
  by_cases hc : locs.contains t.loc = true
  · rw [hc] at hp
    exact absurd rfl hp
  · have hc' : locs.contains t.loc = false := Bool.not_eq_true _ ▸ hc
    simp only [hc', Bool.not_false, if_true] at hp
    have hsome : (lookup store t.loc).isNone = false := by
      cases hl : lookup store t.loc with
      | none => exact absurd hl hp
      | some o => rfl
    simp only [hsome, hc', Bool.false_or] at hto
    have hd' := List.all_eq_true.mp hto d hd
    simp only [hd', if_true]
    exact h.pres t ht hp d hd

end Replicat.Sym
