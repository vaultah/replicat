import ReplicatProofs.Lemmas.Options
/-!
The SCHEMA of backend-specific options (`Options.customBackendRow`): what
`cli.parser_for_backend` / `config.config_for_backend` build for ANY backend class — in particular for a custom backend
found through the `replicat.backends` namespace package, whose constructor signature (annotations, defaults) is not one
of the built-in ones.
-/
namespace Replicat.Options
open Replicat.Gen

variable {V : Type}

/-- the three ways a backend-specific option is read all use the same function (`guess_type`): the validators of
`BaseBackendConfig.apply_known` / `apply_env` (AST) and the `type=` of every flag that `parser_for_backend` created for the
probed backends — the annotated probe included.  Fails to compile when the flag's type depends on the parameter
(annotation, default, name, …) or differs from the validators. -/
theorem backend_schema_uniform :
    optBackendCliTy = .guessType ∧ optBackendEnvTy = .guessType ∧ optBackendFileTy = .guessType := by
  decide

theorem custom_of_instance {row : OptRow} (h : isCustomInstance row = true) :
    ∃ owner dest flag envVar key bk, row = customBackendRow owner dest flag envVar key bk := by
  unfold isCustomInstance at h
  split at h
  · exact ⟨_, _, _, _, _, _, eq_of_beq h⟩
  · cases h

theorem wfRow_custom {owner dest flag envVar key : String} {bk : Nat} :
    wfRow (customBackendRow owner dest flag envVar key bk) := by
  simp [wfRow, customBackendRow]

/-- argparse sends a string default through the flag's `type` once more: for a backend option that is `guess_type` -/
theorem defaultValue_custom (sem : Sem V) (owner dest flag envVar key : String) (bk : Nat) (c : V)
    (hidem : sem.isStr c = true → sem.co .guessType c = some c) :
    defaultValue sem (customBackendRow owner dest flag envVar key bk) c = .ok c := by
  unfold defaultValue
  cases hst : sem.isStr c with
  | false => rfl
  | true => simp [customBackendRow, firstTy, backend_schema_uniform.1, hidem hst, orErr]

/-- the documented example of a custom backend (README "Custom backends"): `ProudCloud` in the module `pc`, option
`account_id`, declared `account_id: str` or not — the schema does not depend on it -/
def pcAccountId : OptRow := customBackendRow "pc" "account_id" "--account-id" "PROUDCLOUD_ACCOUNT_ID" "account-id" 4

end Replicat.Options
