import ReplicatProofs.Lemmas.SymStore
/-! Completeness of the restore pipeline: when every referenced chunk fetches to the captured plaintext and exactly the
snapshot's own body loads, `restoreMd` returns what the snapshot recorded (the converse direction of
`C04.restore_ok_implies_identical`). -/
namespace Replicat.Sym
open Term (pub sec nonce key nil pair mac kdf enc)

theorem mem_dedup (l acc : List Term) (x : Term) : x ∈ dedup l acc ↔ x ∈ acc ∨ x ∈ l := by
  induction l generalizing acc with
  | nil => simp [dedup]
  | cons d ds ih =>
    unfold dedup
    split
    · rename_i hc
      have hd : d ∈ acc := List.contains_iff_mem.mp hc
      rw [ih]
      constructor
      · rintro (h | h)
        · exact Or.inl h
        · exact Or.inr (List.mem_cons_of_mem _ h)
      · rintro (h | h)
        · exact Or.inl h
        · rcases List.mem_cons.mp h with h | h
          · subst h; exact Or.inl hd
          · exact Or.inr h
    · rw [ih]
      simp only [List.mem_append, List.mem_cons, List.not_mem_nil, or_false]
      constructor
      · rintro ((h | h) | h)
        · exact Or.inl h
        · exact Or.inr (Or.inl h)
        · exact Or.inr (Or.inr h)
      · rintro (h | h | h)
        · exact Or.inl (Or.inl h)
        · exact Or.inl (Or.inr h)
        · exact Or.inr h

/-- the table of digests is the digest of the table of plaintexts (ideal hash: `digest` is injective) -/
theorem dedup_map_digest (l acc : List Term) : dedup (l.map digest) (acc.map digest) = (dedup l acc).map digest := by
  induction l generalizing acc with
  | nil => simp [dedup]
  | cons c cs ih =>
    simp only [List.map_cons]
    unfold dedup
    have hc : (acc.map digest).contains (digest c) = acc.contains c := by
      rw [Bool.eq_iff_iff]
      simp only [List.contains_iff_mem, List.mem_map]
      constructor
      · rintro ⟨x, hx, hd⟩
        rw [← digest_inj hd]
        exact hx
      · intro h
        exact ⟨c, h, rfl⟩
    rw [hc]
    split
    · exact ih acc
    · have := ih (acc ++ [c])
      rw [List.map_append] at this
      exact this

theorem table_eq_contents (t : Taken) : t.table = t.contents.map digest :=
  dedup_map_digest t.chunks []

theorem chunkLoc_inj {p q : Props} {d d' : Term} (he : p.encrypted = q.encrypted) (h : chunkLoc p d = chunkLoc q d') :
    d = d' ∧ (p.encrypted = true → p.sh.macKey = q.sh.macKey) := by
  cases hp : p.encrypted with
  | false =>
    rw [chunkLoc_plain hp, chunkLoc_plain (he ▸ hp)] at h
    injection h with _ h
    injection h with h _
    exact ⟨h, fun hc => absurd hc Bool.false_ne_true⟩
  | true =>
    rw [chunkLoc_encrypted hp, chunkLoc_encrypted (he ▸ hp)] at h
    injection h with _ h
    injection h with _ h
    injection h with hk hd
    exact ⟨hd, fun _ => hk⟩

theorem snapLoc_inj {p q : Props} {n n' : Term} (he : p.encrypted = q.encrypted) (h : snapLoc p n = snapLoc q n') :
    n = n' ∧ (p.encrypted = true → p.sh.macKey = q.sh.macKey) := by
  unfold snapLoc at h
  injection h with _ h
  injection h with ht hn
  refine ⟨hn, fun hp => ?_⟩
  rw [snapshotTag_encrypted hp, snapshotTag_encrypted (he ▸ hp)] at ht
  injection ht with hk _

/-- locations depend on the key only through the encryption flag and the MAC key -/
theorem chunkLoc_congr {p q : Props} (he : p.encrypted = q.encrypted) (hk : p.encrypted = true → p.sh.macKey = q.sh.macKey)
    (d : Term) : chunkLoc p d = chunkLoc q d := by
  unfold chunkLoc chunkName chunkTag
  rw [← he]
  cases hp : p.encrypted with
  | false => simp
  | true => simp [hk hp]

theorem snapshotTag_congr {p q : Props} (he : p.encrypted = q.encrypted) (hk : p.encrypted = true → p.sh.macKey = q.sh.macKey)
    (n : Term) : snapshotTag p n = snapshotTag q n := by
  unfold snapshotTag
  rw [← he]
  cases hp : p.encrypted with
  | false => simp
  | true => simp [hk hp]

theorem verifyChunk_family {p q : Props} (he : p.encrypted = q.encrypted) (hs : p.encrypted = true → p.sh = q.sh) (n c : Term) :
    verifyChunk p (digest c) (chunkObject q n c) = .ok c := by
  have h1 : Gen.chunkReadKeyFromDigest = true := rfl
  have h2 : Gen.chunkWriteKeyFromDigest = true := rfl
  have h3 : Gen.chunkDigestVerified = true := rfl
  cases hp : p.encrypted with
  | false =>
    have hq : q.encrypted = false := by rw [← he, hp]
    simp [verifyChunk, chunkObject, hp, hq, h3]
  | true =>
    have hq : q.encrypted = true := by rw [← he, hp]
    have : subKey q (digest c) = subKey p (digest c) := by simp [subKey, hs hp]
    simp [verifyChunk, chunkObject, hp, hq, h1, h2, h3, this]

theorem encTable_inj {t t' : List Term} (h : encTable t = encTable t') : t = t' := by
  have := congrArg decTable h
  rw [decTable_encTable, decTable_encTable] at this
  exact Option.some.inj this

theorem snapshotStored_table {p q : Props} (he : p.encrypted = q.encrypted) {n1 n2 n1' n2' : Term} {t t' : List Term} {d d' : Term}
    (h : snapshotStored p n1 n2 (encTable t) d = snapshotStored q n1' n2' (encTable t') d') : t = t' := by
  unfold snapshotStored at h
  rw [← he] at h
  cases hp : p.encrypted with
  | false =>
    simp only [hp, Bool.false_eq_true, if_false] at h
    injection h with h _
    exact encTable_inj h
  | true =>
    simp only [hp, if_true] at h
    injection h with h _
    injection h with _ _ h
    exact encTable_inj h

theorem restoreParts_complete (fetch : Term → Except Err Term) (contents : List Term)
    (hf : ∀ c ∈ contents, fetch (digest c) = .ok c) (refs : List Ref) (hr : ∀ r ∈ refs, r.index < contents.length) :
    ∃ ps, restoreParts fetch (contents.map digest) refs = .ok ps ∧ honestParts contents refs = some ps := by
  induction refs with
  | nil => exact ⟨[], rfl, rfl⟩
  | cons r rs ih =>
    obtain ⟨ps, h1, h2⟩ := ih (fun r' hr' => hr r' (List.mem_cons_of_mem _ hr'))
    have hlt : r.index < contents.length := hr r (by simp)
    have hc : contents[r.index]? = some contents[r.index] := List.getElem?_eq_getElem hlt
    have hm : contents[r.index] ∈ contents := List.getElem_mem hlt
    refine ⟨(contents[r.index], r.lo, r.hi) :: ps, ?_, ?_⟩
    · rw [restoreParts, List.getElem?_map, hc]
      simp only [Option.map_some, hf _ hm, h1]
    · rw [honestParts, hc, h2]

theorem restoreFilesMd_complete (fetch : Term → Except Err Term) (contents : List Term)
    (hf : ∀ c ∈ contents, fetch (digest c) = .ok c) (files : List FileRec)
    (hr : ∀ f ∈ files, ∀ r ∈ f.refs, r.index < contents.length) :
    ∃ out, recordedFiles contents files = some out ∧
      restoreFilesMd fetch (files.map fun f => (contents.map digest, f)) = .ok out := by
  induction files with
  | nil => exact ⟨[], rfl, rfl⟩
  | cons f fs ih =>
    obtain ⟨out, h1, h2⟩ := ih (fun f' hf' => hr f' (List.mem_cons_of_mem _ hf'))
    obtain ⟨ps, p1, p2⟩ := restoreParts_complete fetch contents hf (isort refLE f.refs)
      (fun r hr' => hr f List.mem_cons_self r ((mem_isort refLE r f.refs).mp hr'))
    refine ⟨(f.path, ps, f.md) :: out, ?_, ?_⟩
    · rw [recordedFiles, p2, h1]
    · rw [List.map_cons, restoreFilesMd]
      simp only [p1, h2]

theorem recordedFiles_columns (contents : List Term) (files : List FileRec) (out : List Restored)
    (h : recordedFiles contents files = some out) :
    out.map (fun w => (w.1, w.2.2)) = files.map (fun f => (f.path, f.md)) ∧
    out.map (fun w => some w.2.1) = files.map (fun f => honestParts contents (isort refLE f.refs)) := by
  induction files generalizing out with
  | nil =>
    cases h
    exact ⟨rfl, rfl⟩
  | cons f fs ih =>
    rw [recordedFiles] at h
    split at h
    · rename_i ps out' hp ho
      cases h
      obtain ⟨i1, i2⟩ := ih out' ho
      rw [List.map_cons, List.map_cons, List.map_cons, List.map_cons, i1, i2, hp]
      exact ⟨rfl, rfl⟩
    · cases h

theorem nodupB_cons {a : Term} {as : List Term} (h : nodupB (a :: as) = true) : a ∉ as ∧ nodupB as = true := by
  unfold nodupB at h
  simp only [Bool.and_eq_true, Bool.not_eq_true', List.contains_eq_mem, decide_eq_false_iff_not] at h
  exact h

theorem selectStep_nodup (table : List Term) (files : List FileRec) (acc : List (List Term × FileRec) × List Term)
    (hn : nodupB (files.map (·.path)) = true) (hd : ∀ f ∈ files, f.path ∉ acc.2) :
    (files.foldl (fun (acc : List (List Term × FileRec) × List Term) f =>
        if acc.2.contains f.path then acc else (acc.1 ++ [(table, f)], acc.2 ++ [f.path])) acc).1
      = acc.1 ++ files.map (fun f => (table, f)) := by
  induction files generalizing acc with
  | nil => exact (List.append_nil _).symm
  | cons f fs ih =>
    obtain ⟨hnf, hns⟩ := nodupB_cons hn
    have hc : acc.2.contains f.path = false :=
      Bool.eq_false_iff.mpr fun h => hd f List.mem_cons_self (List.contains_iff_mem.mp h)
    rw [List.foldl_cons, hc, if_neg Bool.false_ne_true, ih _ hns, List.append_assoc]
    · rfl
    · intro g hg hm
      rcases List.mem_append.mp hm with hm | hm
      · exact hd g (List.mem_cons_of_mem _ hg) hm
      · exact hnf (List.mem_map.mpr ⟨g, hg, List.mem_singleton.mp hm⟩)

theorem selectFiles_single (table : List Term) (data : Data) (hn : nodupB (data.files.map (·.path)) = true) :
    selectFiles (isort newestFirst [(table, data)]) [] = data.files.map (fun f => (table, f)) := by
  simp only [isort, insertBy, selectFiles, List.append_nil]
  exact selectStep_nodup table data.files ([], []) hn (fun _ _ => List.not_mem_nil)

def dropMd (out : List Restored) : List (Term × List Part) := out.map fun w => (w.1, w.2.1)

theorem restoreFiles_eq_restoreFilesMd (fetch : Term → Except Err Term) (l : List (List Term × FileRec)) :
    restoreFiles fetch l = (restoreFilesMd fetch l).map dropMd := by
  induction l with
  | nil => rfl
  | cons x rest ih =>
    obtain ⟨table, f⟩ := x
    unfold restoreFiles restoreFilesMd
    cases restoreParts fetch table (isort refLE f.refs) with
    | error e => rfl
    | ok ps =>
      simp only
      rw [ih]
      cases restoreFilesMd fetch rest with
      | error e => rfl
      | ok out => rfl

theorem restore_eq_restoreMd (p : Props) (s : Store) (target : Term) :
    restore p s target = (restoreMd p s target).map dropMd := by
  unfold restore restoreMd
  cases loadAll p target (snapEntries s) with
  | error e => rfl
  | ok bodies => exact restoreFiles_eq_restoreFilesMd _ _

end Replicat.Sym
