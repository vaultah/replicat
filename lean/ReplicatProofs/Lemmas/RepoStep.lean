import ReplicatProofs.Lemmas.RepoBasic
/-! Well-formedness is preserved by every command, and where the entries of the store after a command come from (C18, C03). -/
namespace Replicat.P18
open Replicat.Repo List

/-- core has no `DecidableEq (Except ε α)`; the `decide` examples that compare results of commands go through this one -/
instance exceptDecEq {ε α : Type} [DecidableEq ε] [DecidableEq α] : DecidableEq (Except ε α)
  | .ok a, .ok b => if h : a = b then isTrue (by rw [h]) else isFalse (by intro h'; cases h'; exact h rfl)
  | .error a, .error b => if h : a = b then isTrue (by rw [h]) else isFalse (by intro h'; cases h'; exact h rfl)
  | .ok _, .error _ => isFalse (by intro h; cases h)
  | .error _, .ok _ => isFalse (by intro h; cases h)

theorem step_wf (enc : Bool) (s : Store) (op : Op) (h : WF s) : WF (step enc s op) :=
  step_cases op h (fun u stream files ts sid _ => snapshot_wf u stream files ts sid s h)
    (fun _ _ _ _ hd => deleteSnapshots_wf h hd) (fun _ _ _ hd => clean_wf h hd)

theorem mem_put {s : Store} {n : Name} {o : Obj} {e : Name × Obj} (he : e ∈ put s n o) : e = (n, o) ∨ e ∈ s := by
  unfold put at he
  rcases mem_cons.mp he with rfl | h
  · exact Or.inl rfl
  · exact Or.inr ((mem_del s n e).mp h).1

theorem mem_delAll {s : Store} {ns : List Name} {e : Name × Obj} (he : e ∈ delAll s ns) : e ∈ s := by
  rw [delAll_eq_filter] at he
  exact (mem_filter.mp he).1

theorem mem_foldl_uploadChunk {u : User} {stream : List Content} {acc : Store × List Name} {e : Name × Obj}
    (he : e ∈ (stream.foldl (uploadChunk u) acc).1) : e ∈ acc.1 ∨ ∃ c, e = (.chunk u.fam c, .chunk u.fam c) := by
  induction stream generalizing acc with
  | nil => exact Or.inl he
  | cons c cs ih =>
    rcases ih he with h | h
    · unfold uploadChunk at h
      split at h
      · exact Or.inl h
      · rcases mem_put h with rfl | h'
        · exact Or.inr ⟨c, rfl⟩
        · exact Or.inl h'
    · exact Or.inr h

/-- every entry of the store after a snapshot is an old entry, an uploaded chunk, or the new snapshot object -/
theorem mem_snapshot {u : User} {stream : List Content} {files : List FileRec} {ts sid : Nat} {s : Store} {e : Name × Obj}
    (he : e ∈ (snapshot u stream files ts sid s).1) :
    e ∈ s ∨ (∃ c, e = (.chunk u.fam c, .chunk u.fam c)) ∨
      e = (.snap u.fam sid, .snap u.fam sid ⟨u.key, ts, dedupKeepFirstC stream, files⟩) := by
  unfold snapshot at he
  rcases mem_put he with rfl | h
  · exact Or.inr (Or.inr rfl)
  · rcases mem_foldl_uploadChunk h with h' | h'
    · exact Or.inl h'
    · exact Or.inr (Or.inl h')

end Replicat.P18
