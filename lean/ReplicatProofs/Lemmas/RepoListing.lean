import ReplicatProofs.Lemmas.RepoSafety
import ReplicatModel.RepoListing
/-! Destructive commands over a listing that fails or is partial (`ReplicatModel/RepoListing.lean`): with a complete-or-error
listing a command under any scan fault does what the fault-free command does, or nothing.  Used by C02. -/
namespace Replicat.Repo
open List

def ScanKind.isTop : ScanKind → Bool
  | .top => true
  | _ => false

/-- histories of commands, each under its own (or no) listing fault -/
def runL (F : ListFlags) (enc : Bool) (s : Store) (ops : List (Op × Option ScanFault)) : Store :=
  ops.foldl (fun st p => stepL F enc p.2 st p.1) s

theorem listArea_safe {F : ListFlags} (hF : F.safe = true) (flt : Option ScanFault) (a : Area) (s : Store) :
    listArea F flt a s = .error ∨ listArea F flt a s = .view s := by
  obtain ⟨wo, wi, rp, ts⟩ := F
  simp only [ListFlags.safe, Bool.and_eq_true, Bool.not_eq_true'] at hF
  obtain ⟨⟨⟨h1, h2⟩, h3⟩, h4⟩ := hF
  subst h1 h2 h3 h4
  cases flt with
  | none => exact Or.inr rfl
  | some f =>
    obtain ⟨fa, fk⟩ := f
    simp only [listArea]
    by_cases hne : (fa != a) = true
    · rw [if_pos hne]; exact Or.inr rfl
    · rw [if_neg hne]
      cases fk <;> simp

/-- the top-level handler only matters for a fault of the top directory -/
theorem listArea_notTop {F : ListFlags} (flt : Option ScanFault) (hk : ∀ f, flt = some f → f.kind.isTop = false) (a : Area) (s : Store) :
    listArea F flt a s = listArea ⟨F.walkOpen, F.walkIter, F.repo, false⟩ flt a s := by
  cases flt with
  | none => rfl
  | some f =>
    obtain ⟨fa, fk⟩ := f
    have := hk ⟨fa, fk⟩ rfl
    cases fk with
    | top => simp [ScanKind.isTop] at this
    | _ => rfl

theorem loadCandidates_hide_all (enc : Bool) (u : User) (re : Nat → Bool) (s : Store) :
    loadCandidates enc u re (hide .snaps (fun _ => true) s) = [] := by
  unfold loadCandidates hide
  rw [filterMap_eq_nil_iff]
  intro e he
  rw [mem_filter] at he
  obtain ⟨n, o⟩ := e
  cases n <;> simp_all [areaOf]

theorem deletePlan_hide_all (enc : Bool) (u : User) (sids : List Nat) (s : Store) :
    (∃ e, deletePlan enc u sids (hide .snaps (fun _ => true) s) = .error e) ∨
      deletePlan enc u sids (hide .snaps (fun _ => true) s) = .ok ⟨[], []⟩ := by
  unfold deletePlan loadSnapshots
  rw [loadCandidates_hide_all]
  simp only [sequenceE]
  cases sids with
  | nil => right; simp
  | cons a t => left; simp

theorem deleteL_cases {F : ListFlags} {enc : Bool} {u : User} {sids : List Nat} {flt : Option ScanFault} {s : Store}
    (h : listArea F flt .snaps s = .error ∨ listArea F flt .snaps s = .view s ∨
      listArea F flt .snaps s = .view (hide .snaps (fun _ => true) s)) :
    stepL F enc flt s (.delete u sids) = s ∨ stepL F enc flt s (.delete u sids) = step enc s (.delete u sids) := by
  simp only [stepL, deleteL, step, deleteSnapshots]
  rcases h with h | h | h
  · rw [h]
    exact Or.inl rfl
  · rw [h]
    dsimp only
    right
    cases deletePlan enc u sids s <;> rfl
  · rw [h]
    dsimp only
    left
    rcases deletePlan_hide_all enc u sids s with ⟨e, he⟩ | he
    · rw [he]
    · rw [he]
      rfl

/-- **complete-or-error listing**: under any scan fault a command either does nothing or does exactly what it does without the fault -/
theorem stepL_safe {F : ListFlags} (hF : F.safe = true) (enc : Bool) (flt : Option ScanFault) (s : Store) (op : Op) :
    stepL F enc flt s op = s ∨ stepL F enc flt s op = step enc s op := by
  cases op with
  | snapshot u stream files ts sid => exact Or.inr rfl
  | delete u sids => exact deleteL_cases ((listArea_safe hF flt .snaps s).imp_right Or.inl)
  | clean u =>
    simp only [stepL]
    rcases listArea_safe hF flt .snaps s with h | h
    · left; simp [cleanL, h]
    · rcases listArea_safe hF flt .chunks s with h2 | h2
      · left; simp [cleanL, h, h2]
      · right
        simp only [cleanL, h, h2, step, clean]
        cases cleanPlan enc u s <;> rfl

theorem stepL_notTop {F : ListFlags} (enc : Bool) (flt : Option ScanFault) (hk : ∀ f, flt = some f → f.kind.isTop = false)
    (s : Store) (op : Op) :
    stepL F enc flt s op = stepL ⟨F.walkOpen, F.walkIter, F.repo, false⟩ enc flt s op := by
  cases op with
  | snapshot u stream files ts sid => rfl
  | delete u sids => simp only [stepL, deleteL, listArea_notTop (F := F) flt hk]
  | clean u => simp only [stepL, cleanL, listArea_notTop (F := F) flt hk]

theorem stepL_safe_consistent {F : ListFlags} (hF : F.safe = true) {enc : Bool} (flt : Option ScanFault) {s : Store} {op : Op}
    (h : Consistent enc s) (hop : OpOk enc op) : Consistent enc (stepL F enc flt s op) := by
  rcases stepL_safe hF enc flt s op with e | e <;> rw [e]
  · exact h
  · exact step_consistent h hop

/-- a fault of a TOP directory while `delete_snapshots` runs: for ANY flags the command does nothing or what it does without the fault -/
theorem delete_top_fault (F : ListFlags) (enc : Bool) (u : User) (sids : List Nat) (fa : Area) (s : Store) :
    stepL F enc (some ⟨fa, .top⟩) s (.delete u sids) = s ∨
      stepL F enc (some ⟨fa, .top⟩) s (.delete u sids) = step enc s (.delete u sids) := by
  apply deleteL_cases
  simp only [listArea]
  split
  · exact Or.inr (Or.inl rfl)
  · split
    · exact Or.inr (Or.inr rfl)
    · exact Or.inl rfl

end Replicat.Repo
