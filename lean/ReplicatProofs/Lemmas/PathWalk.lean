import ReplicatModel.PathWalk
/-! The declarative specification of the directory walk (`FileUnder`, `ArgYields`) and what `scan`, `dedupKeys`, `flattenArgs` and the
sort key do. -/
namespace Replicat.PathWalk

/-- p (with size s) is a file under the directory frame (start, es): a chain of entries passing the directory test,
ending in an entry passing the file test -/
inductive FileUnder (root : Node) (follow : Bool) : Frame → Found → Prop
  | here {start es name n s} : (name, n) ∈ es.toList → classify root follow (start ++ [name]) n = .ok (.isFile s) →
      FileUnder root follow (start, es) (start ++ [name], s)
  | deeper {start es name n es' f} : (name, n) ∈ es.toList → classify root follow (start ++ [name]) n = .ok (.isDir es') →
      FileUnder root follow (start ++ [name], es') f → FileUnder root follow (start, es) f

theorem mem_push {lifo : Bool} {ds stack : List Frame} {fr : Frame} : fr ∈ push lifo ds stack ↔ fr ∈ ds ∨ fr ∈ stack := by
  unfold push
  cases lifo <;> simp [or_comm]

theorem walk_nil (root : Node) (follow lifo : Bool) (n : Nat) : walk root follow lifo n [] = .ok [] := by
  cases n <;> rfl

theorem fileUnder_iff {root follow start es f} :
    FileUnder root follow (start, es) f ↔ ∃ e ∈ es.toList,
      (∃ s, classify root follow (start ++ [e.1]) e.2 = .ok (.isFile s) ∧ f = (start ++ [e.1], s)) ∨
      (∃ es', classify root follow (start ++ [e.1]) e.2 = .ok (.isDir es') ∧ FileUnder root follow (start ++ [e.1], es') f) := by
  constructor
  · intro h
    cases h with
    | here hm hc => exact ⟨_, hm, Or.inl ⟨_, hc, rfl⟩⟩
    | deeper hm hc hb => exact ⟨_, hm, Or.inr ⟨_, hc, hb⟩⟩
  · rintro ⟨e, hm, ⟨s, hc, rfl⟩ | ⟨es', hc, hb⟩⟩
    · exact .here hm hc
    · exact .deeper hm hc hb

theorem fileUnder_nil {root follow start f} : ¬ FileUnder root follow (start, .nil) f := by
  rw [fileUnder_iff]
  exact fun ⟨_, h, _⟩ => nomatch h

theorem fileUnder_cons {root follow start name n rest f} :
    FileUnder root follow (start, .cons name n rest) f ↔
      (∃ s, classify root follow (start ++ [name]) n = .ok (.isFile s) ∧ f = (start ++ [name], s)) ∨
      (∃ es', classify root follow (start ++ [name]) n = .ok (.isDir es') ∧ FileUnder root follow (start ++ [name], es') f) ∨
      FileUnder root follow (start, rest) f := by
  rw [fileUnder_iff, fileUnder_iff (es := rest)]
  simp only [Entries.toList, List.mem_cons, or_and_right, exists_or, exists_eq_left, or_assoc]

theorem fileUnder_iff_scan {root follow start es ds fs} (h : scan root follow start es = .ok (ds, fs)) (f : Found) :
    FileUnder root follow (start, es) f ↔ f ∈ fs ∨ ∃ fr ∈ ds, FileUnder root follow fr f := by
  fun_induction scan root follow start es generalizing ds fs with
  | case1 =>
    cases h
    simp only [fileUnder_nil, List.not_mem_nil, false_and, exists_false, or_self]
  | case2 => cases h
  | case3 => cases h
  | case4 name n rest ds' fs' hr es' hk ih =>
    cases h
    simp only [fileUnder_cons, ih hr, hk, Except.ok.injEq, reduceCtorEq, false_and, exists_false, false_or, Kind.isDir.injEq,
      exists_eq_left', List.mem_cons, or_and_right, exists_or, exists_eq_left]
    exact or_left_comm
  | case5 name n rest ds' fs' hr s hk ih =>
    cases h
    simp only [fileUnder_cons, ih hr, hk, Except.ok.injEq, reduceCtorEq, false_and, exists_false, false_or, Kind.isFile.injEq,
      exists_eq_left', List.mem_cons, or_assoc]
  | case6 name n rest ds' fs' hr hk ih =>
    cases h
    simp only [fileUnder_cons, ih hr, hk, Except.ok.injEq, reduceCtorEq, false_and, exists_false, false_or]

theorem dedupKeys_spec (l : List Rec) (seen : List String) :
    ((dedupKeys l seen).map Prod.fst).Nodup ∧ (∀ r ∈ dedupKeys l seen, r.1 ∉ seen ∧ r ∈ l) := by
  fun_induction dedupKeys l seen with
  | case1 => exact ⟨List.Pairwise.nil, fun _ h => (nomatch h)⟩
  | case2 r rs seen _ ih => exact ⟨ih.1, fun x hx => ⟨(ih.2 x hx).1, List.mem_cons_of_mem _ (ih.2 x hx).2⟩⟩
  | case3 r rs seen hns ih =>
    refine ⟨List.nodup_cons.2 ⟨fun hm => ?_, ih.1⟩, fun x hx => ?_⟩
    · obtain ⟨x, hx, hxe⟩ := List.mem_map.1 hm
      exact (ih.2 x hx).1 (hxe ▸ List.mem_cons_self)
    · rcases List.mem_cons.1 hx with rfl | hx
      · exact ⟨hns, List.mem_cons_self⟩
      · exact ⟨fun hh => (ih.2 x hx).1 (List.mem_cons_of_mem _ hh), List.mem_cons_of_mem _ (ih.2 x hx).2⟩

/-- every key of the input survives (first occurrence) -/
theorem dedupKeys_key_complete (l : List Rec) (seen : List String) (r : Rec) (hr : r ∈ l) (hns : r.1 ∉ seen) :
    r.1 ∈ (dedupKeys l seen).map Prod.fst := by
  fun_induction dedupKeys l seen with
  | case1 => cases hr
  | case2 x xs seen hx ih =>
    rcases List.mem_cons.1 hr with rfl | hr
    · exact absurd hx hns
    · exact ih hr hns
  | case3 x xs seen _ ih =>
    rw [List.map_cons, List.mem_cons]
    by_cases he : r.1 = x.1
    · exact Or.inl he
    · rcases List.mem_cons.1 hr with rfl | hr
      · exact absurd rfl he
      · exact Or.inr (ih hr (fun h => (List.mem_cons.1 h).elim he hns))

theorem dedupKeys_complete (l : List Rec) (seen : List String) (hf : ∀ a ∈ l, ∀ b ∈ l, a.1 = b.1 → a = b)
    (r : Rec) (hr : r ∈ l) (hns : r.1 ∉ seen) : r ∈ dedupKeys l seen := by
  obtain ⟨r', hr', he⟩ := List.mem_map.1 (dedupKeys_key_complete l seen r hr hns)
  rw [← hf r' ((dedupKeys_spec l seen).2 r' hr').2 r hr he]
  exact hr'

/-- what one argument contributes -/
def ArgYields (cfg : Cfg) (root : Node) (a : Path) (f : Found) : Prop :=
  ∃ p n l', resolveArg root cfg.argFuel a = .ok (p, n) ∧ flattenOne cfg root p n = .ok l' ∧ f ∈ l'

theorem flattenArgs_mem (cfg : Cfg) (root : Node) : ∀ (args : List Path) (l : List Found),
    flattenArgs cfg root args = .ok l → ∀ f, f ∈ l ↔ ∃ a ∈ args, ∃ p n l',
      resolveArg root cfg.argFuel a = .ok (p, n) ∧ flattenOne cfg root p n = .ok l' ∧ f ∈ l' := by
  intro args
  fun_induction flattenArgs cfg root args with
  | case1 =>
    intro l h f
    cases h
    simp only [List.not_mem_nil, false_and, exists_false]
  | case2 => exact fun _ h => nomatch h
  | case3 => exact fun _ h => nomatch h
  | case4 => exact fun _ h => nomatch h
  | case5 a as p n hr l1 h1 r hrr ih =>
    intro l h f
    cases h
    simp only [List.mem_append, ih r hrr f, List.mem_cons, or_and_right, exists_or, exists_eq_left]
    refine or_congr_left ⟨fun hf => ⟨p, n, l1, hr, h1, hf⟩, ?_⟩
    rintro ⟨p', n', l', h1', h2', h3'⟩
    rw [hr] at h1'
    cases h1'
    rw [h1] at h2'
    cases h2'
    exact h3'

theorem flattenArgs_ok_iff (cfg : Cfg) (root : Node) (args : List Path) :
    (∃ l, flattenArgs cfg root args = .ok l) ↔ ∀ a ∈ args, ∃ p n l',
      resolveArg root cfg.argFuel a = .ok (p, n) ∧ flattenOne cfg root p n = .ok l' := by
  fun_induction flattenArgs cfg root args with
  | case1 => exact ⟨fun _ _ h => (nomatch h), fun _ => ⟨[], rfl⟩⟩
  | case2 a as e hr =>
    refine ⟨fun ⟨_, h⟩ => (nomatch h), fun h => ?_⟩
    obtain ⟨p, n, l', h1, _⟩ := h a List.mem_cons_self
    rw [hr] at h1
    cases h1
  | case3 a as p n hr e h1 =>
    refine ⟨fun ⟨_, h⟩ => (nomatch h), fun h => ?_⟩
    obtain ⟨p', n', l', h1', h2'⟩ := h a List.mem_cons_self
    rw [hr] at h1'
    cases h1'
    rw [h1] at h2'
    cases h2'
  | case4 a as p n hr l1 h1 e hrr ih =>
    refine ⟨fun ⟨_, h⟩ => (nomatch h), fun h => ?_⟩
    obtain ⟨_, h'⟩ := ih.2 (fun a' ha' => h a' (List.mem_cons_of_mem _ ha'))
    rw [hrr] at h'
    cases h'
  | case5 a as p n hr l1 h1 r hrr ih =>
    exact ⟨fun _ => List.forall_mem_cons.2 ⟨⟨p, n, l1, hr, h1⟩, ih.1 ⟨r, hrr⟩⟩, fun _ => ⟨_, rfl⟩⟩

theorem flattenArgs_congr (cfg : Cfg) (root : Node) {args args' : List Path} {l : List Found}
    (hset : ∀ a, a ∈ args ↔ a ∈ args') (h : flattenArgs cfg root args = .ok l) :
    ∃ l', flattenArgs cfg root args' = .ok l' ∧ ∀ f, f ∈ l ↔ f ∈ l' := by
  have hall := (flattenArgs_ok_iff cfg root args).1 ⟨l, h⟩
  obtain ⟨l', hl'⟩ := (flattenArgs_ok_iff cfg root args').2 (fun a ha => hall a ((hset a).2 ha))
  refine ⟨l', hl', fun f => ?_⟩
  rw [flattenArgs_mem cfg root args l h, flattenArgs_mem cfg root args' l' hl']
  exact ⟨fun ⟨a, ha, r⟩ => ⟨a, (hset a).1 ha, r⟩, fun ⟨a, ha, r⟩ => ⟨a, (hset a).2 ha, r⟩⟩

theorem keyLe_trans (a b c : Rec) : keyLe a b = true → keyLe b c = true → keyLe a c = true := by
  simp only [keyLe, Bool.or_eq_true, Bool.and_eq_true, decide_eq_true_eq, beq_iff_eq]
  rintro (h1 | ⟨h1, h1'⟩) (h2 | ⟨h2, h2'⟩)
  · exact Or.inl (Nat.lt_trans h1 h2)
  · exact Or.inl (h2 ▸ h1)
  · exact Or.inl (h1 ▸ h2)
  · exact Or.inr ⟨h1.trans h2, String.le_trans h1' h2'⟩

theorem keyLe_total (a b : Rec) : (keyLe a b || keyLe b a) = true := by
  simp only [keyLe, Bool.or_eq_true, Bool.and_eq_true, decide_eq_true_eq, beq_iff_eq]
  rcases Nat.lt_trichotomy a.2 b.2 with h | h | h
  · exact Or.inl (Or.inl h)
  · rcases String.le_total a.1 b.1 with h' | h'
    · exact Or.inl (Or.inr ⟨h, h'⟩)
    · exact Or.inr (Or.inr ⟨h.symm, h'⟩)
  · exact Or.inr (Or.inl h)

theorem keyLe_antisymm (a b : Rec) : keyLe a b = true → keyLe b a = true → a = b := by
  simp only [keyLe, Bool.or_eq_true, Bool.and_eq_true, decide_eq_true_eq, beq_iff_eq]
  rintro (h1 | ⟨h1, h1'⟩) (h2 | ⟨h2, h2'⟩)
  · omega
  · omega
  · omega
  · exact Prod.ext (String.le_antisymm h1' h2') h1

theorem sortFiles_canonical {l₁ l₂ : List Rec} (hp : l₁.Perm l₂) : sortFiles l₁ = sortFiles l₂ := by
  unfold sortFiles
  refine List.Perm.eq_of_pairwise (le := fun a b => keyLe a b = true) (fun a b _ _ => keyLe_antisymm a b)
    (List.pairwise_mergeSort keyLe_trans keyLe_total l₁) (List.pairwise_mergeSort keyLe_trans keyLe_total l₂) ?_
  exact ((List.mergeSort_perm l₁ keyLe).trans hp).trans (List.mergeSort_perm l₂ keyLe).symm

/-- decidable equality of results (for the kernel-checked witnesses) -/
instance instDecEqExcept {ε α : Type} [DecidableEq ε] [DecidableEq α] : DecidableEq (Except ε α)
  | .ok x, .ok y => if h : x = y then isTrue (h ▸ rfl) else isFalse (fun h' => by cases h'; exact h rfl)
  | .error x, .error y => if h : x = y then isTrue (h ▸ rfl) else isFalse (fun h' => by cases h'; exact h rfl)
  | .ok _, .error _ => isFalse (by intro h; cases h)
  | .error _, .ok _ => isFalse (by intro h; cases h)

/-- the string of a path determines the recorded size, among everything the arguments yield (true on a real file system:
one name per directory entry, no `/` inside a name) -/
def KeyFun (cfg : Cfg) (root : Node) (args : List Path) : Prop :=
  ∀ L, flattenArgs cfg root args = .ok L → ∀ f ∈ L, ∀ g ∈ L, pathStr f.1 = pathStr g.1 → f.2 = g.2

theorem flattenResolve_ok_iff {cfg : Cfg} {root : Node} {args : List Path} {l : List Rec} :
    flattenResolve cfg root args = .ok l ↔
      ∃ L, flattenArgs cfg root args = .ok L ∧ l = (if cfg.dedup then dedupKeys (L.map toRec) [] else L.map toRec) := by
  unfold flattenResolve
  cases flattenArgs cfg root args with
  | error e => exact ⟨fun h => (nomatch h), fun ⟨_, hL, _⟩ => (nomatch hL)⟩
  | ok L =>
    refine ⟨fun h => ⟨L, rfl, (Except.ok.inj h).symm⟩, ?_⟩
    rintro ⟨L', hL', rfl⟩
    cases hL'
    rfl

/-! what `dict.fromkeys` (when the code has it) does to the list of records -/
theorem mem_of_mem_dedupIf {b : Bool} {l : List Rec} {r : Rec} (h : r ∈ (if b then dedupKeys l [] else l)) : r ∈ l := by
  cases b
  · exact h
  · exact ((dedupKeys_spec l []).2 r h).2

theorem key_mem_dedupIf {b : Bool} {l : List Rec} {r : Rec} (h : r ∈ l) :
    r.1 ∈ (if b then dedupKeys l [] else l).map Prod.fst := by
  cases b
  · exact List.mem_map.2 ⟨r, h, rfl⟩
  · exact dedupKeys_key_complete l [] r h List.not_mem_nil

theorem mem_dedupIf_iff {b : Bool} {l : List Rec} (hf : b = true → ∀ x ∈ l, ∀ y ∈ l, x.1 = y.1 → x = y) (r : Rec) :
    r ∈ (if b then dedupKeys l [] else l) ↔ r ∈ l := by
  refine ⟨mem_of_mem_dedupIf, fun h => ?_⟩
  cases b
  · exact h
  · exact dedupKeys_complete l [] (hf rfl) r h List.not_mem_nil

theorem toRec_key_inj {L : List Found} (hk : ∀ f ∈ L, ∀ g ∈ L, pathStr f.1 = pathStr g.1 → f.2 = g.2) :
    ∀ x ∈ L.map toRec, ∀ y ∈ L.map toRec, x.1 = y.1 → x = y := by
  intro x hx y hy hxy
  obtain ⟨f, hf, rfl⟩ := List.mem_map.1 hx
  obtain ⟨g, hg, rfl⟩ := List.mem_map.1 hy
  exact Prod.ext hxy (hk f hf g hg hxy)

/-- the fuel a stack needs: one per frame and one per directory below it -/
def stackMeasure (st : List Frame) : Nat := (st.map (fun fr => 1 + fr.2.dirCount)).sum

theorem stackMeasure_cons (fr : Frame) (st : List Frame) : stackMeasure (fr :: st) = 1 + fr.2.dirCount + stackMeasure st := by
  simp [stackMeasure]

theorem stackMeasure_push (lifo : Bool) (ds st : List Frame) :
    stackMeasure (push lifo ds st) = stackMeasure ds + stackMeasure st := by
  unfold push stackMeasure
  cases lifo <;> simp [List.sum_append, List.sum_reverse] <;> omega

theorem scan_nolinks (root : Node) (follow : Bool) (start : Path) : ∀ (es : Entries), es.noLinks = true →
    ∃ ds fs, scan root follow start es = .ok (ds, fs) ∧ (∀ fr ∈ ds, fr.2.noLinks = true) ∧
      stackMeasure ds = es.dirCount
  | .nil, _ => ⟨[], [], rfl, fun _ h => (nomatch h), rfl⟩
  | .cons name n rest, h => by
    simp only [Entries.noLinks, Bool.and_eq_true] at h
    obtain ⟨ds, fs, hs, hnl, hm⟩ := scan_nolinks root follow start rest h.2
    cases n with
    | file s =>
      exact ⟨ds, (start ++ [name], s) :: fs, by simp only [scan, classify, hs], hnl, by simp only [Entries.dirCount, Node.dirCount, hm, Nat.zero_add]⟩
    | other =>
      exact ⟨ds, fs, by simp only [scan, classify, hs], hnl, by simp only [Entries.dirCount, Node.dirCount, hm, Nat.zero_add]⟩
    | link ab t => exact absurd h.1 Bool.false_ne_true
    | dir es' =>
      refine ⟨(start ++ [name], es') :: ds, fs, by simp only [scan, classify, hs], ?_, ?_⟩
      · intro fr hfr
        rcases List.mem_cons.1 hfr with rfl | hfr
        · exact h.1
        · exact hnl fr hfr
      · rw [stackMeasure_cons, hm, Entries.dirCount, Node.dirCount]

end Replicat.PathWalk
