import ReplicatModel.SigV4
/-! C16: the encoders.  `quote` writes every byte either literally or as `%XX`; which of the two is decided by a table that holds
exactly the unreserved bytes.  The two tables (always-safe bytes over all 256 bytes, hex digits of the 16 nibbles) are evaluated once;
everything else is an argument about an arbitrary safe set, with the generated ones put in last. -/
namespace Replicat.SigV4

theorem forall_byte_lt {p : UInt8 → Bool} (m : Nat) (h : (List.range m).all (fun n => p (UInt8.ofNat n)) = true) (b : UInt8)
    (hb : b.toNat < m) : p b = true := by
  have h2 := List.all_eq_true.mp h b.toNat (List.mem_range.mpr hb)
  rwa [UInt8.ofNat_toNat] at h2

/-- CPython's `_ALWAYS_SAFE` holds exactly the bytes RFC 3986 calls unreserved -/
theorem alwaysSafe_contains (b : UInt8) : pyAlwaysSafeTable.contains b = isUnreserved b := by
  have hsub : pyAlwaysSafeTable.all isUnreserved = true := by
    decide +kernel
  -- stated as "not unreserved, or in the table" so that the 66-entry table is searched for the unreserved bytes only: searching it
  -- for every byte is several times slower to check
  have hsup : (List.range 256).all (fun n => !isUnreserved (UInt8.ofNat n) || pyAlwaysSafeTable.contains (UInt8.ofNat n)) = true := by
    decide +kernel
  rw [Bool.eq_iff_iff, List.contains_iff_mem]
  constructor
  · exact List.all_eq_true.mp hsub b
  · intro hb
    have h := forall_byte_lt (p := fun b => !isUnreserved b || pyAlwaysSafeTable.contains b) 256 hsup b b.toNat_lt
    rw [hb] at h
    exact List.contains_iff_mem.mp h

theorem hexVal_hexUpperDigit (x : UInt8) (hx : x.toNat < 16) : hexVal (hexUpperDigit x) = some x := by
  have htable : (List.range 16).all (fun n => hexVal (hexUpperDigit (UInt8.ofNat n)) == some (UInt8.ofNat n)) = true := by
    decide +kernel
  exact eq_of_beq (forall_byte_lt (p := fun x => hexVal (hexUpperDigit x) == some x) 16 htable x hx)

theorem hexVal_pctEncode (b : UInt8) :
    hexVal (hexUpperDigit (b / 16)) = some (b / 16) ∧ hexVal (hexUpperDigit (b % 16)) = some (b % 16) ∧ b / 16 * 16 + b % 16 = b := by
  have hb := b.toNat_lt
  refine ⟨hexVal_hexUpperDigit _ ?_, hexVal_hexUpperDigit _ ?_, UInt8.toNat_inj.mp ?_⟩
  · rw [UInt8.toNat_div]
    exact Nat.div_lt_of_lt_mul hb
  · rw [UInt8.toNat_mod]
    exact Nat.mod_lt _ (by decide)
  · rw [UInt8.toNat_add, UInt8.toNat_mul, UInt8.toNat_div, UInt8.toNat_mod]
    show (b.toNat / 16 * 16 % 2 ^ 8 + b.toNat % 16) % 2 ^ 8 = b.toNat
    rw [Nat.mod_eq_of_lt (Nat.lt_of_le_of_lt (Nat.div_mul_le_self _ _) hb), Nat.div_add_mod', Nat.mod_eq_of_lt hb]

def isLiteral (safe : Bytes) (b : UInt8) : Bool := isUnreserved b || safe.contains b

theorem pyQuoteByte_eq (safe : Bytes) (b : UInt8) : pyQuoteByte safe b = if isLiteral safe b then [b] else pctEncode b := by
  rw [pyQuoteByte, alwaysSafe_contains]
  rfl

theorem pyQuoteByte_of_safe (safe : Bytes) (b : UInt8) (h : safe.contains b = true) : pyQuoteByte safe b = [b] := by
  rw [pyQuoteByte_eq, isLiteral, h, Bool.or_true, if_pos rfl]

theorem literal_ne {safe : Bytes} {b c : UInt8} (hb : isLiteral safe b = true) (hc : isLiteral safe c = false) : (b == c) = false := by
  apply decide_eq_false
  rintro rfl
  rw [hc] at hb
  contradiction

theorem mem_pyQuoteByte {safe : Bytes} {b x : UInt8} (hx : x ∈ pyQuoteByte safe b) (h25 : x ≠ 0x25) (hhex : hexVal x = none) :
    x = b ∧ isLiteral safe b = true := by
  rw [pyQuoteByte_eq] at hx
  split at hx
  · exact ⟨List.mem_singleton.mp hx, ‹_›⟩
  · obtain ⟨hh, hl, _⟩ := hexVal_pctEncode b
    simp only [pctEncode, List.mem_cons, List.not_mem_nil, or_false] at hx
    rcases hx with rfl | rfl | rfl
    · exact absurd rfl h25
    · exact nomatch hh.symm.trans hhex
    · exact nomatch hl.symm.trans hhex

theorem awsEncByte_eq_pyQuoteByte (e : Bool) (b : UInt8) : awsEncByte e b = pyQuoteByte (if e then [] else [0x2F]) b := by
  rw [pyQuoteByte_eq, awsEncByte, isLiteral]
  cases isUnreserved b with
  | true => rfl
  | false =>
    cases e with
    | true => simp only [Bool.false_eq_true, ↓reduceIte, Bool.not_true, Bool.and_false, List.contains_nil, Bool.or_self]
    | false => simp only [Bool.false_eq_true, ↓reduceIte, Bool.not_false, Bool.and_true, List.contains_cons, List.contains_nil,
        Bool.or_false, Bool.false_or]

theorem awsUriEncode_eq_pyQuote (e : Bool) (s : Bytes) : awsUriEncode e s = pyQuote (if e then [] else [0x2F]) s := by
  rw [awsUriEncode, pyQuote, funext (awsEncByte_eq_pyQuoteByte e)]

theorem clientPath_eq_aws (s : Bytes) : clientPath s = awsUriEncode false s := by
  rw [awsUriEncode_eq_pyQuote]
  rfl

theorem pyQuote_query_eq_aws (s : Bytes) : pyQuote Gen.s3QuerySafeB s = awsUriEncode true s := by
  rw [awsUriEncode_eq_pyQuote]
  rfl

theorem pyQuotePlus_of_no_space (safe s : Bytes) (h : s.contains 0x20 = false) : pyQuotePlus safe s = pyQuote safe s := by
  rw [pyQuotePlus, h]
  rfl

/-- a query name/value that the code encodes with plain `quote` semantics -/
def QueryValueOk (s : Bytes) : Prop := Gen.s3QueryViaQuotePlus = false ∨ s.contains 0x20 = false

instance (s : Bytes) : Decidable (QueryValueOk s) := by unfold QueryValueOk; infer_instance

theorem queryQuote_of_ok (s : Bytes) (h : QueryValueOk s) : queryQuote s = pyQuote Gen.s3QuerySafeB s := by
  unfold queryQuote
  rcases h with h | h
  · rw [h]
    rfl
  · rw [pyQuotePlus_of_no_space _ _ h, ite_self]

theorem queryQuote_agrees (s : Bytes) (h : QueryValueOk s) : queryQuote s = awsUriEncode true s := by
  rw [queryQuote_of_ok s h, pyQuote_query_eq_aws]

def allUnreserved (s : Bytes) : Bool := s.all isUnreserved

theorem pyQuote_of_unreserved (safe s : Bytes) (h : allUnreserved s = true) : pyQuote safe s = s := by
  induction s with
  | nil => rfl
  | cons b t ih =>
    simp only [allUnreserved, List.all_cons, Bool.and_eq_true] at h
    rw [pyQuote, List.flatMap_cons, pyQuoteByte_eq, isLiteral, h.1, Bool.true_or, if_pos rfl]
    exact congrArg (b :: ·) (ih h.2)

theorem aws_of_unreserved (e : Bool) (s : Bytes) (h : allUnreserved s = true) : awsUriEncode e s = s := by
  rw [awsUriEncode_eq_pyQuote, pyQuote_of_unreserved _ s h]

theorem no_space_of_unreserved (s : Bytes) (h : allUnreserved s = true) : s.contains 0x20 = false := by
  rw [← Bool.not_eq_true, List.contains_iff_mem]
  intro hm
  exact absurd (List.all_eq_true.mp h _ hm) (by decide)

theorem queryQuote_of_unreserved (s : Bytes) (h : allUnreserved s = true) : queryQuote s = s := by
  rw [queryQuote_agrees s (Or.inr (no_space_of_unreserved s h)), aws_of_unreserved true s h]

theorem pctDecode_cons_of_ne (plus : Bool) (a : UInt8) (t : Bytes) (h : (a == 0x25) = false) :
    pctDecode plus (a :: t) = (if plus && a == 0x2B then 0x20 else a) :: pctDecode plus t := by
  match t with
  | [] => rfl
  | [b] => rfl
  | b :: c :: rest => rw [pctDecode, h, if_neg Bool.false_ne_true]

theorem pctDecode_escape (plus : Bool) (b c x y : UInt8) (rest : Bytes) (hb : hexVal b = some x) (hc : hexVal c = some y) :
    pctDecode plus (0x25 :: b :: c :: rest) = (x * 16 + y) :: pctDecode plus rest := by
  rw [pctDecode, hb, hc]
  rfl

theorem pctDecode_pctEncode (plus : Bool) (b : UInt8) (t : Bytes) : pctDecode plus (pctEncode b ++ t) = b :: pctDecode plus t := by
  obtain ⟨hh, hl, hb⟩ := hexVal_pctEncode b
  rw [pctEncode, List.cons_append, List.cons_append, List.cons_append, List.nil_append, pctDecode_escape plus _ _ _ _ t hh hl, hb]

theorem pctDecode_pyQuote (plus : Bool) (safe : Bytes) (h25 : isLiteral safe 0x25 = false)
    (h2B : plus = true → isLiteral safe 0x2B = false) (s : Bytes) : pctDecode plus (pyQuote safe s) = s := by
  induction s with
  | nil => rfl
  | cons b t ih =>
    rw [pyQuote, List.flatMap_cons, pyQuoteByte_eq]
    split
    · rename_i hlit
      -- a literal byte is neither `%` nor a `+` that would be read as a space
      rw [List.singleton_append, pctDecode_cons_of_ne plus b _ (literal_ne hlit h25),
        Bool.and_eq_false_imp.mpr fun hp => literal_ne hlit (h2B hp)]
      exact congrArg (b :: ·) ih
    · rw [pctDecode_pctEncode]
      exact congrArg (b :: ·) ih

theorem pctDecode_clientPath (s : Bytes) : pctDecode false (clientPath s) = s :=
  pctDecode_pyQuote false Gen.s3PathSafeB (by decide) (fun h => nomatch h) s

/-- the reference canonical URI of the path the client sends (before httpx touches it) is the string the client signed -/
theorem refCanonicalUri_clientPath (s : Bytes) : refCanonicalUri (clientPath s) = clientPath s := by
  rw [refCanonicalUri, pctDecode_clientPath, clientPath_eq_aws]

theorem ref_roundtrip_query (plus : Bool) (s : Bytes) (h : QueryValueOk s) :
    awsUriEncode true (pctDecode plus (queryQuote s)) = queryQuote s := by
  rw [queryQuote_of_ok s h, pctDecode_pyQuote plus Gen.s3QuerySafeB (by decide) (fun _ => by decide), pyQuote_query_eq_aws]

theorem aws_no_plus (s : Bytes) : 0x2B ∉ awsUriEncode true s := by
  intro hx
  rw [awsUriEncode_eq_pyQuote] at hx
  obtain ⟨b, _, hxb⟩ := List.mem_flatMap.mp hx
  -- `+` is not `%` and no hex digit, so it would be a literal; it is not unreserved
  obtain ⟨rfl, h⟩ := mem_pyQuoteByte hxb (by decide) (by decide)
  exact absurd h (by decide)

theorem quotePlus_has_plus (safe s : Bytes) (h : s.contains 0x20 = true) : 0x2B ∈ pyQuotePlus safe s := by
  rw [pyQuotePlus, h, if_pos rfl]
  have h20 : (0x20 : UInt8) ∈ pyQuote (safe ++ [0x20]) s := by
    refine List.mem_flatMap.mpr ⟨0x20, List.contains_iff_mem.mp h, ?_⟩
    rw [pyQuoteByte_of_safe _ _ (List.contains_iff_mem.mpr (List.mem_append_right safe List.mem_cons_self))]
    exact List.mem_cons_self
  exact List.mem_map.mpr ⟨0x20, h20, rfl⟩

/-- exactness of the D10 region: with `quote_plus`, a string is encoded as the published rule demands only if it has no space -/
theorem no_space_of_queryQuote_agrees (hv : Gen.s3QueryViaQuotePlus = true) (s : Bytes) (heq : queryQuote s = awsUriEncode true s) :
    s.contains 0x20 = false := by
  rw [← Bool.not_eq_true]
  intro h
  refine aws_no_plus s (heq ▸ ?_)
  rw [queryQuote, hv]
  exact quotePlus_has_plus _ s h

end Replicat.SigV4
