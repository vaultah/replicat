import ReplicatProofs.Lemmas.Sched
/-!
Helper lemmas for C09, system S2 (snapshot: producer → bounded queue → workers).
-/
namespace Replicat.Sched
open List

def busyOf : WPhase → List Nat
  | .busy k => [k]
  | _ => []

/-- chunks currently held by workers -/
def busyList (ws : List WPhase) : List Nat := ws.flatMap busyOf

theorem busyList_eq_nil (ws : List WPhase) (h : ∀ p ∈ ws, busyOf p = []) : busyList ws = [] :=
  flatMap_eq_nil_iff.mpr h

theorem count_busyList (a : Nat) (ws : List WPhase) : count a (busyList ws) = (ws.map (count a ∘ busyOf)).sum :=
  count_flatMap

theorem sum_map_set {α : Type} (f : α → Nat) {l : List α} {w : Nat} {old : α} (h : l[w]? = some old) (new : α) :
    ((l.set w new).map f).sum + f old = (l.map f).sum + f new := by
  induction l generalizing w with
  | nil => cases h
  | cons p ps ih =>
    cases w with
    | zero =>
      cases h
      rw [set_cons_zero, map_cons, map_cons, sum_cons, sum_cons, Nat.add_comm, Nat.add_comm (f new), Nat.add_assoc]
    | succ n =>
      rw [set_cons_succ, map_cons, map_cons, sum_cons, sum_cons, Nat.add_assoc, ih h, Nat.add_assoc]

/-- index forms of the worker predicates -/
def HasF (ws : List WPhase) : Prop := ∃ i : Nat, ws[i]? = some WPhase.failed
def HasE (ws : List WPhase) : Prop := ∃ i : Nat, ws[i]? = some WPhase.exited

theorem any_beq_iff (ws : List WPhase) (p : WPhase) : ws.any (· == p) = true ↔ ∃ i : Nat, ws[i]? = some p := by
  simp only [any_eq_true, beq_iff_eq, exists_eq_right, mem_iff_getElem?]

theorem anyFailed_iff (ws : List WPhase) : anyFailed ws = true ↔ HasF ws :=
  any_beq_iff ws _

theorem anyExited_iff (ws : List WPhase) : anyExited ws = true ↔ HasE ws :=
  any_beq_iff ws _

theorem all_iff_getElem? (ws : List WPhase) (f : WPhase → Bool) : ws.all f = true ↔ ∀ (i : Nat) (p : WPhase), ws[i]? = some p → f p = true := by
  simp only [all_eq_true, mem_iff_getElem?, forall_exists_index]
  exact forall_comm

theorem allExited_iff (ws : List WPhase) : allExited ws = true ↔ ∀ (i : Nat) (p : WPhase), ws[i]? = some p → p = WPhase.exited := by
  simp only [allExited, all_iff_getElem?, beq_iff_eq]

theorem allStopped_iff (ws : List WPhase) : allStopped ws = true ↔ ∀ (i : Nat) (p : WPhase), ws[i]? = some p → p = WPhase.exited ∨ p = WPhase.failed := by
  simp only [allStopped, all_iff_getElem?, Bool.or_eq_true, beq_iff_eq]

theorem exists_set_of_ne {ws : List WPhase} {w : Nat} {old : WPhase} (new : WPhase) {p : WPhase} (h : ws[w]? = some old) (ho : old ≠ p) :
    (∃ i : Nat, ws[i]? = some p) → ∃ i : Nat, (ws.set w new)[i]? = some p := by
  rintro ⟨i, hi⟩
  refine ⟨i, ?_⟩
  rw [getElem?_set_ne]
  · exact hi
  · rintro rfl
    exact ho (Option.some.inj (h.symm.trans hi))

theorem exists_of_set_of_ne (ws : List WPhase) (w : Nat) {new p : WPhase} (hn : new ≠ p) :
    (∃ i : Nat, (ws.set w new)[i]? = some p) → ∃ i : Nat, ws[i]? = some p := by
  rintro ⟨i, hi⟩
  exact (mem_or_eq_of_mem_set (mem_of_getElem? hi)).elim mem_iff_getElem?.mp fun e => absurd e.symm hn

theorem hasF_of_set (ws : List WPhase) (w : Nat) (new : WPhase) (hn : new ≠ WPhase.failed) :
    HasF (ws.set w new) → HasF ws :=
  exists_of_set_of_ne ws w hn

/-- bridge to the generated loop test: the worker leaves the loop only when the queue is empty and the producer is done,
and it never leaves while the queue is non-empty or the producer is still running -/
theorem continues_false (e d : Bool) : Gen.workerContinues e d = false → e = true ∧ d = true := by
  revert e d
  decide

theorem continues_nonempty (d : Bool) : Gen.workerContinues false d = true := by
  revert d
  decide

theorem continues_done : Gen.workerContinues true true = false := by decide

structure SnapInv (total n : Nat) (s : Snap) : Prop where
  perm : (s.processed ++ busyList s.workers ++ s.queue ++ s.lost) ~ List.range s.produced
  le : s.produced ≤ s.total
  done_fin : s.prodDone = true → s.prodFinished = true
  fin_all : s.prodFinished = true → s.produced = s.total ∨ s.abort = true
  abort_failed : s.abort = true → HasF s.workers
  exited_done : HasE s.workers → s.prodDone = true ∧ s.queue = []
  lost_failed : ¬ HasF s.workers → s.lost = []
  up : s.uploaded = true → allExited s.workers = true
  nworkers : s.workers.length = n
  cap_eq : s.cap = Gen.queueFactor * n
  total_eq : s.total = total

theorem snap_init_inv (total n : Nat) : SnapInv total n (Snap.init total n) := by
  have hb : busyList (replicate n WPhase.idle) = [] := busyList_eq_nil _ fun p hp => eq_of_mem_replicate hp ▸ rfl
  have hno : ∀ p, p ≠ WPhase.idle → ¬ ∃ i : Nat, (replicate n WPhase.idle)[i]? = some p :=
    fun p hp ⟨i, hi⟩ => hp (eq_of_mem_replicate (mem_of_getElem? hi))
  refine ⟨?_, Nat.zero_le _, nofun, nofun, nofun, fun h => absurd h (hno _ nofun), fun _ => rfl, nofun, length_replicate,
    rfl, rfl⟩
  show [] ++ busyList (replicate n WPhase.idle) ++ [] ++ [] ~ range 0
  rw [hb]
  exact Perm.refl _

theorem snap_inv_set_worker {total n : Nat} {s : Snap} (h : SnapInv total n s) {w : Nat} {old new : WPhase}
    (hw : s.workers[w]? = some old) (hoe : old ≠ .exited) (hof : old ≠ .failed) {q p l : List Nat}
    (hperm : p ++ busyOf new ++ q ++ l ~ s.processed ++ busyOf old ++ s.queue ++ s.lost)
    (hq : s.queue = [] → q = []) (hex : new = .exited → s.prodDone = true ∧ q = []) (hl : new = .failed ∨ l = s.lost) :
    SnapInv total n { s with workers := s.workers.set w new, queue := q, processed := p, lost := l } := by
  have hp : p ++ busyList (s.workers.set w new) ++ q ++ l ~ range s.produced := by
    -- count each chunk: among the workers' chunks the update exchanges `busyOf old` for `busyOf new`
    have h0 := h.perm
    rw [perm_iff_count] at h0 hperm ⊢
    intro a
    have h1 := h0 a
    have h2 := hperm a
    have h3 := sum_map_set (count a ∘ busyOf) hw new
    rw [← count_busyList, ← count_busyList] at h3
    simp only [count_append, Function.comp_apply] at h1 h2 h3 ⊢
    omega
  refine { h with perm := hp, abort_failed := fun ha => exists_set_of_ne _ hw hof (h.abort_failed ha),
                  exited_done := fun he => ?_, lost_failed := fun hn => ?_, up := fun hu => ?_,
                  nworkers := (length_set ..).trans h.nworkers }
  · by_cases hne : new = .exited
    · exact hex hne
    · exact (h.exited_done (exists_of_set_of_ne _ _ hne he)).imp_right hq
  · rcases hl with rfl | rfl
    · exact absurd ⟨w, by rw [getElem?_set_self (List.getElem?_eq_some_iff.mp hw).1]⟩ hn
    · exact h.lost_failed fun hf => hn (exists_set_of_ne _ hw hof hf)
  · exact absurd ((allExited_iff _).mp (h.up hu) w old hw) hoe

theorem snap_step_inv (r : Bool) (total n : Nat) (s : Snap) (e : SnapEv) (s' : Snap) (H : SnapInv total n s)
    (hs : Snap.step r s e = some s') : SnapInv total n s' := by
  cases e with
  | enterPut =>
    obtain ⟨_, rfl⟩ := of_guarded hs
    exact { H with }
  | put =>
    obtain ⟨⟨hnf, _, hlt, _⟩, rfl⟩ := of_guarded hs
    have hnf : s.prodFinished = false := (Bool.not_eq_true' _).mp hnf
    refine { H with perm := ?_, le := hlt, fin_all := fun hf => (nomatch hnf.symm.trans hf),
                    exited_done := fun he => (nomatch hnf.symm.trans (H.done_fin (H.exited_done he).1)) }
    show s.processed ++ busyList s.workers ++ (s.queue ++ [s.produced]) ++ s.lost ~ range (s.produced + 1)
    rw [range_succ, append_assoc _ _ s.lost, append_assoc s.queue]
    refine Perm.trans ?_ (H.perm.append_right _)
    rw [append_assoc _ s.lost, append_assoc _ s.queue]
    exact (perm_append_comm.append_left _).append_left _
  | prodStop =>
    obtain ⟨hg, rfl⟩ := of_guarded hs
    exact { H with done_fin := fun _ => rfl, fin_all := fun _ => hg.2.imp id And.left }
  | prodVisible =>
    obtain ⟨hg, rfl⟩ := of_guarded hs
    exact { H with done_fin := fun _ => hg.1, exited_done := fun he => ⟨rfl, (H.exited_done he).2⟩ }
  | take w =>
    simp only [Snap.step] at hs
    split at hs
    · rename_i k rest hw hqe
      obtain ⟨_, rfl⟩ := of_guarded hs
      refine snap_inv_set_worker H hw nofun nofun ?_ (fun h => nomatch hqe.symm.trans h) nofun (Or.inr rfl)
      rw [hqe]
      exact Perm.of_eq (by simp only [busyOf, append_nil, append_assoc, cons_append, nil_append])
    · cases hs
  | poll w =>
    simp only [Snap.step] at hs
    split at hs
    · obtain ⟨_, rfl⟩ := of_guarded hs
      exact H
    · cases hs
  | exit w =>
    simp only [Snap.step] at hs
    split at hs
    · rename_i hw
      obtain ⟨hc, rfl⟩ := of_guarded hs
      obtain ⟨he, hd⟩ := continues_false _ _ hc
      exact snap_inv_set_worker H hw nofun nofun (Perm.refl _) id (fun _ => ⟨hd, isEmpty_iff.mp he⟩) (Or.inr rfl)
    · cases hs
  | finish w ok =>
    simp only [Snap.step] at hs
    split at hs
    · rename_i k hw
      cases ok with
      | true =>
        cases hs
        refine snap_inv_set_worker H hw nofun nofun ?_ id nofun (Or.inr rfl)
        simp only [busyOf, append_nil, append_assoc, cons_append, nil_append]
        exact perm_middle.symm
      | false =>
        cases hs
        refine snap_inv_set_worker H hw nofun nofun ?_ id nofun (Or.inl rfl)
        simp only [busyOf, append_nil, append_assoc, cons_append, nil_append]
        exact perm_middle.append_left _
    · cases hs
  | raiseAbort =>
    obtain ⟨hg, rfl⟩ := of_guarded hs
    exact { H with fin_all := fun _ => Or.inr rfl, abort_failed := fun _ => (anyFailed_iff _).mp hg.1 }
  | upload =>
    obtain ⟨hg, rfl⟩ := of_guarded hs
    exact { H with up := fun _ => hg.1 }

theorem snap_reach_inv (r : Bool) (total n : Nat) (evs : List SnapEv) (s : Snap) (h : run (Snap.step r) (Snap.init total n) evs = some s) :
    SnapInv total n s :=
  run_inv _ (SnapInv total n) (snap_step_inv r total n) evs _ _ (snap_init_inv total n) h

/-- whatever the shape of the producer's put; a put it is in can complete because there is room (`n ≥ 1`) -/
theorem snap_producer_moves (r : Bool) {stops : Bool} (hstops : Gen.producerStopsOnAbort = stops) {total n : Nat} {s : Snap}
    (h : SnapInv total n s) (hn : 0 < n) (hq : s.queue = []) (hd : s.prodDone = false) :
    ∃ e ∈ [SnapEv.enterPut, .put, .prodStop, .prodVisible], (Snap.step r s e).isSome = true := by
  cases hf : s.prodFinished with
  | true => exact ⟨.prodVisible, .tail _ (.tail _ (.tail _ (.head _))), guarded_isSome ⟨hf, congrArg (!·) hd⟩⟩
  | false =>
    have hnf : (!s.prodFinished) = true := congrArg (!·) hf
    by_cases hpt : s.produced = s.total
    · exact ⟨.prodStop, .tail _ (.tail _ (.head _)), guarded_isSome ⟨hnf, Or.inl hpt⟩⟩
    have hlt : s.produced < s.total := Nat.lt_of_le_of_ne h.le hpt
    cases hin : s.inPut with
    | true =>
      refine ⟨.put, .tail _ (.head _), guarded_isSome ⟨hnf, hin, hlt, ?_⟩⟩
      rw [hq, h.cap_eq]
      exact Nat.mul_pos (by decide) hn
    | false =>
      have hni : (!s.inPut) = true := congrArg (!·) hin
      by_cases ha : s.abort = true ∧ stops = true
      · exact ⟨.prodStop, .tail _ (.tail _ (.head _)), guarded_isSome ⟨hnf, Or.inr ⟨ha.1, hstops.trans ha.2, Or.inl hni⟩⟩⟩
      · refine ⟨.enterPut, .head _, guarded_isSome ⟨hnf, hni, hlt, ?_⟩⟩
        rw [hstops, Bool.eq_false_iff.mpr (mt Bool.and_eq_true_iff.mp ha)]
        rfl

/-- the candidate list of `Snap.stuck` misses no progress event, and the polling stutter needs a producer that can still move -/
theorem snap_stuck_all_none (r : Bool) {total n : Nat} {s : Snap} (h : SnapInv total n s) (hs : Snap.stuck r s = true)
    (e : SnapEv) : Snap.step r s e = none := by
  simp only [Snap.stuck, Snap.candidates, Bool.and_eq_true, all_eq_true, Option.isNone_iff_eq_none] at hs
  have hbase : ∀ e ∈ [SnapEv.enterPut, .put, .prodStop, .prodVisible, .raiseAbort, .upload], Snap.step r s e = none :=
    fun e he => hs.2 e (mem_append_left _ he)
  have hwork : ∀ w, w < s.workers.length → ∀ e ∈ [SnapEv.take w, .exit w, .finish w true, .finish w false], Snap.step r s e = none :=
    fun w hw e he => hs.2 e (mem_append_right _ (mem_flatMap.mpr ⟨w, mem_range.mpr hw, he⟩))
  have hout : ∀ w, ¬ w < s.workers.length → s.workers[w]? = none := fun w hw => getElem?_eq_none (Nat.le_of_not_lt hw)
  cases e with
  | enterPut => exact hbase _ (.head _)
  | put => exact hbase _ (.tail _ (.head _))
  | prodStop => exact hbase _ (.tail _ (.tail _ (.head _)))
  | prodVisible => exact hbase _ (.tail _ (.tail _ (.tail _ (.head _))))
  | raiseAbort => exact hbase _ (.tail _ (.tail _ (.tail _ (.tail _ (.head _)))))
  | upload => exact hbase _ (.tail _ (.tail _ (.tail _ (.tail _ (.tail _ (.head _))))))
  | take w =>
    by_cases hw : w < s.workers.length
    · exact hwork w hw _ (.head _)
    · simp only [Snap.step, hout w hw]
  | exit w =>
    by_cases hw : w < s.workers.length
    · exact hwork w hw _ (.tail _ (.head _))
    · simp only [Snap.step, hout w hw]
  | finish w ok =>
    by_cases hw : w < s.workers.length
    · cases ok with
      | true => exact hwork w hw _ (.tail _ (.tail _ (.head _)))
      | false => exact hwork w hw _ (.tail _ (.tail _ (.tail _ (.head _))))
    · simp only [Snap.step, hout w hw]
  | poll w =>
    cases hp : Snap.step r s (.poll w) with
    | none => rfl
    | some s1 =>
      simp only [Snap.step] at hp
      split at hp
      · rename_i hw
        obtain ⟨⟨hqe, hc⟩, _⟩ := of_guarded hp
        have hd : s.prodDone = false := by
          cases hd : s.prodDone with
          | false => rfl
          | true => exact nomatch (hd ▸ hc).symm.trans continues_done
        have hn : 0 < n := h.nworkers ▸ Nat.zero_lt_of_lt (List.getElem?_eq_some_iff.mp hw).1
        obtain ⟨e, he, hsome⟩ := snap_producer_moves r rfl h hn (isEmpty_iff.mp hqe) hd
        rw [hbase e (mem_append_left [SnapEv.raiseAbort, .upload] he)] at hsome
        cases hsome
      · cases hp

theorem snap_init_measure (total n : Nat) : (Snap.init total n).measure = 4 * total + n + 5 := by
  simp only [Snap.measure, Snap.init, length_nil, map_replicate, wWeight, sum_replicate_nat]
  simp

/-- a flag that is raised takes one unit off the potential, wherever it stands among the five flags -/
theorem flag_lt (a : Nat) : a + (if true = true then 0 else 1) < a + (if false = true then 0 else 1) :=
  Nat.lt_succ_self a

theorem measure_set_worker {s : Snap} {w : Nat} {old new : WPhase} (hw : s.workers[w]? = some old) {q p l : List Nat}
    (hlt : 2 * q.length + wWeight new < 2 * s.queue.length + wWeight old) :
    ({ s with workers := s.workers.set w new, queue := q, processed := p, lost := l } : Snap).measure < s.measure := by
  have := sum_map_set wWeight hw new
  simp only [Snap.measure]
  omega

theorem snap_step_measure (r : Bool) (s : Snap) (e : SnapEv) (s' : Snap) (hp : e.progress = true)
    (hs : Snap.step r s e = some s') : s'.measure < s.measure := by
  cases e with
  | enterPut =>
    obtain ⟨hg, rfl⟩ := of_guarded hs
    rw [Snap.measure, Snap.measure, (Bool.not_eq_true' _).mp hg.2.1]
    exact flag_lt _
  | put =>
    obtain ⟨hg, rfl⟩ := of_guarded hs
    have ht : s.total - s.produced = s.total - (s.produced + 1) + 1 :=
      (Nat.succ_pred_eq_of_pos (Nat.sub_pos_of_lt hg.2.2.1)).symm
    simp +arith only [Snap.measure, hg.2.1, ht, length_append, length_singleton, ↓reduceIte, Bool.false_eq_true]
  | prodStop =>
    obtain ⟨hg, rfl⟩ := of_guarded hs
    rw [Snap.measure, Snap.measure, (Bool.not_eq_true' _).mp hg.1]
    exact Nat.add_lt_add_right (Nat.add_lt_add_right (Nat.add_lt_add_right (Nat.add_lt_add_right (flag_lt _) _) _) _) _
  | prodVisible =>
    obtain ⟨hg, rfl⟩ := of_guarded hs
    rw [Snap.measure, Snap.measure, (Bool.not_eq_true' _).mp hg.2]
    exact Nat.add_lt_add_right (Nat.add_lt_add_right (Nat.add_lt_add_right (flag_lt _) _) _) _
  | take w =>
    simp only [Snap.step] at hs
    split at hs
    · rename_i k rest hw hqe
      obtain ⟨_, rfl⟩ := of_guarded hs
      refine measure_set_worker hw ?_
      rw [hqe]
      exact Nat.lt_succ_self _
    · cases hs
  | poll w => cases hp
  | exit w =>
    simp only [Snap.step] at hs
    split at hs
    · rename_i hw
      obtain ⟨_, rfl⟩ := of_guarded hs
      exact measure_set_worker hw (Nat.lt_succ_self _)
    · cases hs
  | finish w ok =>
    simp only [Snap.step] at hs
    split at hs
    · rename_i k hw
      cases ok with
      | true =>
        cases hs
        exact measure_set_worker hw (Nat.lt_succ_self _)
      | false =>
        cases hs
        exact measure_set_worker hw (Nat.lt_add_of_pos_right (Nat.zero_lt_succ 1))
    · cases hs
  | raiseAbort =>
    obtain ⟨hg, rfl⟩ := of_guarded hs
    rw [Snap.measure, Snap.measure, (Bool.not_eq_true' _).mp hg.2.2]
    exact Nat.add_lt_add_right (Nat.add_lt_add_right (flag_lt _) _) _
  | upload =>
    obtain ⟨hg, rfl⟩ := of_guarded hs
    rw [Snap.measure, Snap.measure, (Bool.not_eq_true' _).mp hg.2.2]
    exact Nat.add_lt_add_right (flag_lt _) _

end Replicat.Sched
