import ReplicatProofs.Lemmas.SigV4
import ReplicatProofs.Lemmas.SigV4Sort
/-! C16: query canonicalisation, transport, assembly of the canonical request and of the signature. -/
namespace Replicat.SigV4

/-- a Python dict with names that need no encoding (true of every query replicat builds) -/
def KeysOk (q : List (Bytes × Bytes)) : Prop := DistinctNames q ∧ ∀ p ∈ q, allUnreserved p.1 = true

theorem KeysOk_of_sublist {q : List (Bytes × Bytes)} {names : List Bytes} (h : (q.map (·.1)).Sublist names)
    (hd : names.Pairwise (· ≠ ·)) (hu : ∀ n ∈ names, allUnreserved n = true) : KeysOk q :=
  ⟨List.pairwise_map.mp (hd.sublist h), fun p hp => hu p.1 (h.subset (List.mem_map_of_mem hp))⟩

/-- every value is encoded with `quote` semantics : always when the source passes `quote_via=quote`
(`Gen.s3QueryViaQuotePlus = false`, as extracted), otherwise only values without a space -/
def ValuesOk (q : List (Bytes × Bytes)) : Prop := ∀ p ∈ q, QueryValueOk p.2

theorem clientQueryPairs_eq (hs : Gen.s3QuerySortedB = true) (q : List (Bytes × Bytes)) :
    clientQueryPairs q = (sortPairs q).map (fun p => (queryQuote p.1, queryQuote p.2)) := by
  rw [clientQueryPairs, hs]
  rfl

theorem clientQueryPairs_strict (hs : Gen.s3QuerySortedB = true) (q : List (Bytes × Bytes)) (hk : KeysOk q) :
    StrictByName (clientQueryPairs q) := by
  rw [clientQueryPairs_eq hs, StrictByName, List.pairwise_map]
  refine (sortPairs_strict q hk.1).imp_of_mem ?_
  intro a b ha hb hab
  have ha' := (sortPairs_perm q).mem_iff.mp ha
  have hb' := (sortPairs_perm q).mem_iff.mp hb
  show bytesLt (queryQuote a.1) (queryQuote b.1) = true
  rw [queryQuote_of_unreserved _ (hk.2 a ha'), queryQuote_of_unreserved _ (hk.2 b hb')]
  exact hab

theorem ref_query_agrees (plus : Bool) (hs : Gen.s3QuerySortedB = true) (q : List (Bytes × Bytes)) (hk : KeysOk q) (hv : ValuesOk q) :
    refQueryPairs plus (clientQueryPairs q) = clientQueryPairs q := by
  unfold refQueryPairs
  have hmap : (clientQueryPairs q).map (fun p => (awsUriEncode true (pctDecode plus p.1), awsUriEncode true (pctDecode plus p.2)))
      = clientQueryPairs q := by
    rw [clientQueryPairs_eq hs, List.map_map]
    apply List.map_congr_left
    intro p hp
    have hp' := (sortPairs_perm q).mem_iff.mp hp
    simp only [Function.comp]
    rw [ref_roundtrip_query plus p.1 (Or.inr (no_space_of_unreserved _ (hk.2 p hp'))), ref_roundtrip_query plus p.2 (hv p hp')]
  rw [hmap]
  exact sortPairs_of_sorted _ (sorted_of_strict _ (clientQueryPairs_strict hs q hk))

theorem clientPath_ne_nil (p : Bytes) (h : p ≠ []) : clientPath p ≠ [] := by
  intro hnil
  have hdec := pctDecode_clientPath p
  rw [hnil] at hdec
  exact h hdec.symm

theorem httpxPath_of_no_dot (p : Bytes) (h : hasDotSegment p = false) (hne : p ≠ []) : httpxPath p = p := by
  cases p with
  | nil => exact absurd rfl hne
  | cons b t =>
    rw [httpxPath, normalizePath, h]
    rfl

theorem httpxHost_of_normal (scheme host : Bytes) (h : hostIsNormal scheme host = true) : httpxHost scheme host = host :=
  eq_of_beq h

/-- the `Host` header on the wire is the configured host exactly when the client sets the header itself or httpx has nothing to
normalise — for every scheme and host string -/
theorem wireHost_eq_iff (explicit : Bool) (scheme host : Bytes) :
    wireHost explicit scheme host = host ↔ (explicit = true ∨ hostIsNormal scheme host = true) := by
  cases explicit with
  | true => simp only [wireHost, if_true, true_or]
  | false => simp only [wireHost, hostIsNormal, beq_iff_eq, Bool.false_eq_true, false_or, if_false]

/-- the configured hosts whose `Host` header reaches the wire as it was signed: every host when the adapter sets the header itself
(`hostHeaderExplicit`, generated; `true` as extracted); otherwise the spellings httpx leaves alone (D11) -/
def HostOk (i : Inputs) : Prop := hostHeaderExplicit = true ∨ hostIsNormal i.scheme i.host = true

instance (i : Inputs) : Decidable (HostOk i) := by unfold HostOk; infer_instance

theorem wireHost_of_ok (i : Inputs) (h : HostOk i) : wireHost hostHeaderExplicit i.scheme i.host = i.host :=
  (wireHost_eq_iff _ _ _).mpr h

/-! ## what is sent in the headers is what was signed -/
theorem sent_contentSha (c : Crypto) (i : Inputs) : sentHeaderValue c i hContentSha = i.payloadDigest := by
  rfl
theorem sent_amzDate (c : Crypto) (i : Inputs) : sentHeaderValue c i hAmzDate = i.amzDate := by
  rfl
theorem sent_authorization (c : Crypto) (i : Inputs) : sentHeaderValue c i hAuthorization = clientAuthorization c i := by
  rfl

theorem signedHeaderList_eq (i : Inputs) :
    clientSignedHeaderList i = [(hHost, i.host), (hContentSha, i.payloadDigest), (hAmzDate, i.amzDate)] := rfl

theorem signedHeaders_eq : clientSignedHeaders = refSignedHeaders := by decide +kernel

/-! With the generated field orders evaluated, each client function is `intercalate` over the fields the reference writes out. -/
theorem scope_eq (date region : Bytes) : scopeOf date region = refScope date region := by
  show intercalate [0x2F] [date, region, sS3, sAws4Request] = _
  simp only [intercalate, refScope, List.append_assoc]

theorem stringToSign_eq (c : Crypto) (amz scope cr : Bytes) : stringToSignOf c amz scope cr = refStringToSign c amz scope cr := by
  show intercalate nl [sAlgorithm, amz, scope, c.sha cr] = _
  simp only [intercalate, refStringToSign, List.append_assoc]

theorem signingKey_eq (c : Crypto) (secret date region : Bytes) : signingKeyOf c secret date region = refSigningKey c secret date region :=
  rfl

theorem refCanonicalHeaders_eq (w : Wire) :
    refCanonicalHeaders w = canonicalHeaders [(hHost, w.host), (hContentSha, w.contentSha), (hAmzDate, w.amzDate)] := by
  simp only [refCanonicalHeaders, canonicalHeaders, List.map, intercalate, List.append_assoc]

theorem refCanonicalRequest_eq (plus : Bool) (w : Wire) :
    refCanonicalRequest plus w = canonicalRequestOf w.method (refCanonicalUri w.path) (refCanonicalQuery plus w.query)
      (refCanonicalHeaders w) refSignedHeaders w.contentSha := by
  show _ = intercalate nl [w.method, refCanonicalUri w.path, refCanonicalQuery plus w.query, refCanonicalHeaders w, refSignedHeaders,
    w.contentSha]
  simp only [refCanonicalRequest, intercalate, List.append_assoc]

end Replicat.SigV4
