import ReplicatModel.Store
import ReplicatProofs.Lemmas.Common
/-! Helper lemmas for C13: streams, the association-list store, S3 / B2 states. -/
namespace Replicat.Store
open Replicat Replicat.Paging

theorem chunksOf_flatten (c : Nat) (hc : 1 ≤ c) (fuel : Nat) (d : Bytes) (hf : d.length < fuel) :
    (chunksOf c fuel d).flatten = d := by
  induction fuel generalizing d with
  | zero => omega
  | succ n ih =>
    unfold chunksOf
    by_cases hd : d = []
    · rw [if_pos (Or.inr hd), hd]
      rfl
    · have hl : 0 < d.length := List.length_pos_iff.mpr hd
      rw [if_neg (not_or.mpr ⟨by omega, hd⟩), List.flatten_cons, ih (d.drop c) (by rw [List.length_drop]; omega)]
      exact List.take_append_drop c d

theorem streamed_eq (c : Nat) (hc : 1 ≤ c) (d : Bytes) : streamed c d = d :=
  chunksOf_flatten c hc _ d (Nat.lt_succ_self _)

theorem writeAt_end (buf piece : Bytes) (rest : Bytes) :
    writeAt (buf ++ rest) buf.length piece = buf ++ piece ++ rest.drop piece.length := by
  unfold writeAt
  rw [List.take_left, List.drop_length_add_append]

/-- the running position of `download_stream` is the length of what has been written -/
theorem sink_fold (cs : List Bytes) (written tail : Bytes) :
    (cs.foldl (fun (acc : Bytes × Nat) piece => (writeAt acc.1 acc.2 piece, acc.2 + piece.length))
      (written ++ tail, written.length)).1 = written ++ cs.flatten ++ tail.drop cs.flatten.length := by
  induction cs generalizing written tail with
  | nil =>
    rw [List.flatten_nil, List.append_nil]
    rfl
  | cons p ps ih =>
    have h := ih (written ++ p) (tail.drop p.length)
    rw [List.length_append] at h
    rw [List.foldl_cons, writeAt_end, h, List.flatten_cons, List.length_append, List.drop_drop, List.append_assoc written]

theorem sinkAfter_eq (sink : Bytes) (c : Nat) (hc : 1 ≤ c) (d : Bytes) : sinkAfter sink c d = d := by
  unfold sinkAfter
  have h := sink_fold (chunksOf c (d.length + 1) d) [] (sink.take d.length)
  rw [chunksOf_flatten c hc _ d (Nat.lt_succ_self _)] at h
  rw [List.nil_append, List.length_nil] at h
  rw [h, List.drop_eq_nil_of_le (List.length_take_le _ _)]
  exact List.append_nil d

section assoc
variable {κ β : Type} [DecidableEq κ]

theorem aerase_eq_filter (l : List (κ × β)) (n : κ) : aerase l n = l.filter (fun a => decide (a.1 ≠ n)) := by
  induction l with
  | nil => rfl
  | cons a l ih =>
    obtain ⟨k, v⟩ := a
    unfold aerase
    rw [List.filter_cons, ih]
    by_cases h : k = n
    · rw [if_pos h, if_neg (by simp [h])]
    · rw [if_neg h, if_pos (by simp [h])]

theorem mem_aerase (l : List (κ × β)) (n : κ) (a : κ × β) : a ∈ aerase l n ↔ a ∈ l ∧ a.1 ≠ n := by
  rw [aerase_eq_filter, List.mem_filter, decide_eq_true_eq]

theorem keys_aerase_sublist (l : List (κ × β)) (n : κ) : ((aerase l n).map (·.1)).Sublist (l.map (·.1)) := by
  rw [aerase_eq_filter]
  exact List.filter_sublist.map _

theorem nodup_keys_aerase (l : List (κ × β)) (n : κ) (h : (l.map (·.1)).Nodup) : ((aerase l n).map (·.1)).Nodup :=
  (keys_aerase_sublist l n).nodup h

theorem alookup_eq_lookup (l : List (κ × β)) (n : κ) : alookup l n = l.lookup n := by
  induction l with
  | nil => rfl
  | cons a l ih =>
    rw [lookup_cons_eq_ite, ← ih]
    rfl

theorem alookup_aerase (l : List (κ × β)) (n k : κ) : alookup (aerase l n) k = if k = n then none else alookup l k := by
  rw [alookup_eq_lookup, alookup_eq_lookup, aerase_eq_filter, lookup_filter_key (fun a => decide (a ≠ n))]
  simp only [decide_eq_true_eq, ne_eq, ite_not]

theorem alookup_aerase_self (l : List (κ × β)) (n : κ) : alookup (aerase l n) n = none :=
  (alookup_aerase l n n).trans (if_pos rfl)

theorem alookup_aerase_ne (l : List (κ × β)) (n k : κ) (h : k ≠ n) : alookup (aerase l n) k = alookup l k :=
  (alookup_aerase l n k).trans (if_neg h)

theorem alookup_ainsert (l : List (κ × β)) (n k : κ) (v : β) :
    alookup (ainsert l n v) k = if k = n then some v else alookup l k := by
  unfold ainsert
  rw [alookup, alookup_aerase]
  by_cases h : k = n
  · rw [if_pos h.symm, if_pos h]
  · rw [if_neg (fun e => h e.symm), if_neg h, if_neg h]

theorem mem_keys_iff_alookup (l : List (κ × β)) (n : κ) : n ∈ l.map (·.1) ↔ (alookup l n).isSome = true := by
  rw [alookup_eq_lookup]
  exact lookup_isSome_iff_mem_keys.symm

theorem nodup_keys_ainsert (l : List (κ × β)) (n : κ) (v : β) (h : (l.map (·.1)).Nodup) :
    ((ainsert l n v).map (·.1)).Nodup := by
  refine List.nodup_cons.mpr ⟨fun hm => ?_, nodup_keys_aerase l n h⟩
  have := (mem_keys_iff_alookup (aerase l n) n).mp hm
  rw [alookup_aerase_self] at this
  cases this

theorem mem_iff_alookup (l : List (κ × β)) (h : (l.map (·.1)).Nodup) (k : κ) (v : β) :
    (k, v) ∈ l ↔ alookup l k = some v := by
  rw [alookup_eq_lookup]
  exact ⟨lookup_eq_some_of_mem h, mem_of_lookup_eq_some⟩
end assoc

theorem MapStore.abs_put (s : MapStore) (n : Name) (d : Bytes) : (s.put n d).abs = s.abs.put n d :=
  funext fun k => alookup_ainsert s n k d

theorem MapStore.abs_erase (s : MapStore) (n : Name) : (s.erase n).abs = s.abs.del n :=
  funext fun k => alookup_aerase s n k

theorem MapStore.mem_keys_iff (s : MapStore) (n : Name) : n ∈ s.keys ↔ (s.get n).isSome = true :=
  mem_keys_iff_alookup s n

theorem MapStore.inv_erase (s : MapStore) (n : Name) (h : s.Inv) : (s.erase n).Inv := nodup_keys_aerase s n h

theorem MapStore.inv_put (s : MapStore) (n : Name) (d : Bytes) (h : s.Inv) : (s.put n d).Inv := nodup_keys_ainsert s n d h

/-- the listing of the executable specification is what `SpecStep` asks for -/
theorem MapStore.list_ok (s : MapStore) (h : s.Inv) (pfx : Name) :
    (s.keys.filter (fun k => pfx.isPrefixOf k)).Nodup ∧
    ∀ n, n ∈ s.keys.filter (fun k => pfx.isPrefixOf k) ↔ (s.abs n).isSome = true ∧ pfx <+: n := by
  refine ⟨h.filter _, ?_⟩
  intro n
  simp only [List.mem_filter, MapStore.mem_keys_iff, List.isPrefixOf_iff_prefix, MapStore.abs]

theorem s3Guard_ok {n : Name} (h : hasDotSegment n = false) (s : S3) (k : S3 × Ret) : s3Guard s n k = k := by
  unfold s3Guard
  rw [h]
  rfl

theorem B2.versions_setVersions (s : B2) (n k : Name) (vs : List Ver) :
    (s.setVersions n vs).versions k = if k = n then vs else s.versions k := by
  unfold B2.versions B2.setVersions
  rw [alookup_ainsert]
  by_cases h : k = n
  · rw [if_pos h, if_pos h]
    rfl
  · rw [if_neg h, if_neg h]

theorem B2.visible_setVersions (s : B2) (n k : Name) (vs : List Ver) :
    (s.setVersions n vs).visible k =
      if k = n then headUp vs else s.visible k := by
  unfold B2.visible
  rw [B2.versions_setVersions]
  exact apply_ite headUp _ _ _

theorem B2.inv_setVersions (s : B2) (n : Name) (vs : List Ver) (h : s.Inv) : (s.setVersions n vs).Inv :=
  nodup_keys_ainsert s n vs h

theorem B2.abs_upload (s : B2) (n : Name) (d : Bytes) (vs : List Ver) :
    (s.setVersions n (.up d :: vs)).abs = s.abs.put n d :=
  funext fun k => B2.visible_setVersions s n k _

theorem B2.abs_hide (s : B2) (n : Name) (vs : List Ver) :
    (s.setVersions n (.hide :: vs)).abs = s.abs.del n :=
  funext fun k => B2.visible_setVersions s n k _

theorem B2.abs_del_of_not_visible (s : B2) (n : Name) (h : s.visible n = none) : s.abs.del n = s.abs := by
  funext k
  unfold Spec.del B2.abs
  by_cases hk : k = n
  · rw [if_pos hk, hk, h]
  · rw [if_neg hk]

theorem B2.mem_liveNames (s : B2) (h : s.Inv) (n : Name) : n ∈ s.liveNames ↔ (s.visible n).isSome = true := by
  unfold B2.liveNames B2.visible B2.versions
  simp only [List.mem_map, List.mem_filter]
  constructor
  · rintro ⟨⟨k, vs⟩, ⟨hm, hv⟩, rfl⟩
    rw [(mem_iff_alookup s h k vs).mp hm]
    exact hv
  · intro hv
    cases hl : alookup s n with
    | none =>
      rw [hl] at hv
      cases hv
    | some vs =>
      rw [hl] at hv
      exact ⟨(n, vs), ⟨(mem_iff_alookup s h n vs).mpr hl, hv⟩, rfl⟩

theorem B2.nodup_liveNames (s : B2) (h : s.Inv) : s.liveNames.Nodup :=
  (List.filter_sublist.map _).nodup h

/-- whatever the clock shows, the stamp the adapter builds from ONE reading is internally consistent: the scope date is the date
of `x-amz-date` and the signing key is that date's -/
theorem s3Accepts_stamp (skew : Nat) (client server : Time) :
    s3Accepts skew server (s3Stamp client) = withinSkew skew client server := by
  simp only [s3Accepts, s3Stamp, decide_true, Bool.true_and]

theorem S3.stepT_of_within (skew ps : Nat) (s : S3) (t : Timed) (h : withinSkew skew t.client t.server = true) :
    S3.stepT skew ps s t = S3.step ps s t.op := by
  rw [S3.stepT, s3Accepts_stamp, if_pos h]

theorem S3.runT_eq (skew ps : Nat) (s : S3) (ts : List Timed) (h : ∀ t ∈ ts, withinSkew skew t.client t.server = true) :
    S3.runT skew ps s ts = runHistory (S3.step ps) s (ts.map (·.op)) := by
  induction ts generalizing s with
  | nil => rfl
  | cons t ts ih =>
    rw [S3.runT, List.map_cons, runHistory, S3.stepT_of_within skew ps s t (h t List.mem_cons_self),
      ih _ (fun u hu => h u (List.mem_cons_of_mem _ hu))]

theorem runHistory_congr {σ : Type} (f g : σ → Op → σ × Ret) (h : ∀ s op, f s op = g s op) (s : σ) (ops : List Op) :
    runHistory f s ops = runHistory g s ops :=
  congrArg (runHistory · s ops) (funext fun s => funext (h s))

end Replicat.Store
