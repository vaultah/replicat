import ReplicatProofs.Lemmas.RepoGC
import ReplicatProofs.Lemmas.RepoSelect
/-! Every command preserves `Consistent`; a listed snapshot is restored exactly; the trace-level argument for overlapping
snapshot commands (`Supported`, `Interleave`) over the accepted prefixes of a two-stage plan (chunk puts, then the snapshot object). -/
namespace Replicat.Repo
open List

theorem step_consistent {enc : Bool} {s : Store} {op : Op} (h : Consistent enc s) (hop : OpOk enc op) :
    Consistent enc (step enc s op) := by
  refine step_cases op h ?_ ?_ ?_
  · -- snapshot: the chunk puts keep the invariant one by one; the snapshot object comes when its whole table is there
    rintro u stream files ts sid rfl
    obtain ⟨hu, hneeds, hpaths⟩ := hop
    refine (fold_consistent u stream (s, []) h).put_snap ⟨?_, hpaths⟩ hu ?_
    · exact fun fr hfr c hc => (mem_dedupKeepFirstC stream c).mpr (hneeds fr hfr c hc)
    · intro c hc
      rw [fold_get_stream u stream (s, []) ((mem_dedupKeepFirstC stream c).mp hc), h.1.getD_chunk]
  · -- delete: a chunk stays when a snapshot that is not requested references it
    rintro u sids s' rfl hd
    have sp := delete_spec h.1 hd
    refine h.of_gc (deleteSnapshots_wf h.1 hd) (fun f sid o hg => (sp.snap_old hg).1) ?_
    intro f sid b hg c hc
    obtain ⟨hg0, hnot⟩ := sp.snap_old hg
    apply sp.chunk_keep f c
    by_cases hf : f = u.fam
    · subst hf
      exact Or.inr (Or.inr ⟨u.fam, sid, b, hg0, visible_own enc u, fun hs => hnot ⟨hs, visible_own enc u⟩, hc⟩)
    · exact Or.inl hf
  · -- clean: every snapshot stays, and so does what a snapshot the caller sees references
    rintro u s' rfl hd
    have sp := clean_spec_of_ok h.1 hd
    refine h.of_gc (clean_wf h.1 hd) (fun f sid o hg => sp.snap_keep f sid ▸ hg) ?_
    intro f sid b hg c hc
    rw [sp.snap_keep] at hg
    apply sp.chunk_keep f c
    by_cases hf : f = u.fam
    · subst hf
      exact Or.inl ⟨rfl, u.fam, sid, b, hg, visible_own enc u, trivial, hc⟩
    · cases enc with
      | true => exact Or.inr ⟨rfl, hf⟩
      | false => exact absurd ((h.2.1 rfl f sid _ hg).trans (hop rfl).symm) hf

theorem initStore_consistent (enc : Bool) : Consistent enc initStore := by
  have hnone : ∀ f sid, get initStore (.snap f sid) = none := fun _ _ => rfl
  refine ⟨⟨nodup_cons.mpr ⟨not_mem_nil, nodup_nil⟩, ?_⟩, ?_, ?_⟩
  · intro e he
    rw [mem_singleton.mp he]
    trivial
  · intro _ f sid o hg
    rw [hnone] at hg
    cases hg
  · intro f sid b hg
    rw [hnone] at hg
    cases hg

theorem filterMap_unique {α β κ : Type} (g : α → Option β) (key : α → κ) (l : List α) (hnd : (l.map key).Nodup) (e : α) (v : β)
    (he : e ∈ l) (hv : g e = some v) (hother : ∀ e' ∈ l, key e' ≠ key e → g e' = none) : l.filterMap g = [v] := by
  induction l with
  | nil => cases he
  | cons a l ih =>
    have hnd' := nodup_cons.mp hnd
    rcases mem_cons.mp he with rfl | he'
    · rw [filterMap_cons, hv, filterMap_eq_nil_iff.mpr]
      exact fun x hx => hother x (mem_cons_of_mem _ hx) (fun hk => hnd'.1 (hk ▸ mem_map_of_mem hx))
    · rw [filterMap_cons, hother a mem_cons_self (fun hk => hnd'.1 (hk ▸ mem_map_of_mem he'))]
      exact ih hnd'.2 he' (fun e' he'' => hother e' (mem_cons_of_mem _ he''))

theorem loadedPure_single {enc : Bool} {u : User} {s : Store} (hc : Consistent enc s) (hu : UserOk enc u)
    {f : Fam} {sid : Nat} {b : Body} (hg : get s (.snap f sid) = some (.snap f sid b)) (hv : visible enc u f = true) :
    loadedPure enc u (fun x => x == sid) s = [toLoaded enc u f sid b] := by
  obtain ⟨hwf, hfam, _⟩ := hc
  unfold loadedPure
  apply filterMap_unique _ (fun e : Name × Obj => e.1) s hwf.1 (.snap f sid, .snap f sid b) _ (mem_of_get hg)
  · show (if (sid == sid && visible enc u f) = true then some (toLoaded enc u f sid b) else none) = _
    rw [beq_self_eq_true, hv]
    rfl
  · rintro ⟨n, o⟩ he hne
    dsimp only
    split
    · rename_i f' sid' f'' sid'' b'
      obtain ⟨rfl, rfl⟩ : Matches (.snap f' sid') (.snap f'' sid'' b') := hwf.2 _ he
      rw [if_neg]
      -- another visible snapshot object of that name would have the same family, hence the same key
      intro hcnd
      obtain ⟨hs, hv'⟩ := Bool.and_eq_true _ _ ▸ hcnd
      refine hne ?_
      rw [beq_iff_eq.mp hs, visible_fam hu hfam (get_of_mem hwf.1 he) hv', visible_fam hu hfam hg hv]
    · rfl

theorem restore_single {enc : Bool} {u : User} {s : Store} (hc : Consistent enc s) (hu : UserOk enc u)
    {f : Fam} {sid : Nat} {b : Body} (hg : get s (.snap f sid) = some (.snap f sid b)) (hv : visible enc u f = true)
    (hr : (!enc || b.owner == u.key) = true) (fre : Nat → Bool) :
    restore enc u (fun x => x == sid) fre s = .ok (b.files.filter (fun fr => fre fr.path)) := by
  have hsingle := loadedPure_single hc hu hg hv
  have hfu : f = u.fam := visible_fam hu hc.2.1 hg hv
  obtain ⟨hwf, _, href⟩ := hc
  obtain ⟨hchunks, hneeds, hpaths⟩ := href f sid b hg
  have hsel : selectFiles fre (readableNewestFirst [toLoaded enc u f sid b]) = b.files.filter (fun fr => fre fr.path) := by
    have hb : readableNewestFirst [toLoaded enc u f sid b] = [b] := by
      unfold readableNewestFirst
      rw [filterMap_cons, toLoaded_data, if_pos hr, filterMap_nil, mergeSort_singleton]
    rw [hb, selectFiles_single fre b hpaths]
  -- every chunk a selected file needs is in the snapshot's table, hence there
  have hall : ((b.files.filter (fun fr => fre fr.path)).all (fun fr => fr.needs.all (chunkOk u s))) = true := by
    refine all_eq_true.mpr (fun fr hfr => all_eq_true.mpr (fun c hcn => ?_))
    unfold chunkOk
    rw [← hfu, hchunks c (hneeds fr (mem_filter.mp hfr).1 c hcn), beq_self_eq_true]
  unfold restore
  rw [loadSnapshots_wf enc u _ s hwf, hsingle]
  dsimp only
  rw [hsel, if_pos hall]

/-- the mutations a snapshot command can emit: an object under its own name, a well-formed body -/
def GoodPut (enc : Bool) : Mut → Prop
  | .put (.chunk f c) (.chunk f' c') => f' = f ∧ c' = c
  | .put (.snap f sid) (.snap f' sid' b) => f' = f ∧ sid' = sid ∧ BodyOk b ∧ (enc = false → f = 0)
  | _ => False

/-- the put of a snapshot object happens when every chunk of its table is present -/
def SnapSupported (s : Store) (m : Mut) : Prop :=
  ∀ f sid f' sid' b, m = .put (.snap f sid) (.snap f' sid' b) → ∀ c ∈ b.chunks, get s (.chunk f c) = some (.chunk f c)

def Supported (s : Store) : List Mut → Prop
  | [] => True
  | m :: ms => SnapSupported s m ∧ Supported (applyMut s m) ms

theorem GoodPut.elim {enc : Bool} {m : Mut} (hg : GoodPut enc m) {P : Mut → Prop}
    (hc : ∀ f c, P (.put (.chunk f c) (.chunk f c)))
    (hs : ∀ f sid b, BodyOk b → (enc = false → f = 0) → P (.put (.snap f sid) (.snap f sid b))) : P m := by
  unfold GoodPut at hg
  split at hg
  · obtain ⟨rfl, rfl⟩ := hg
    exact hc _ _
  · obtain ⟨rfl, rfl, hb, hf⟩ := hg
    exact hs _ _ _ hb hf
  · exact hg.elim

theorem applyMut_consistent {enc : Bool} {s : Store} {m : Mut} (h : Consistent enc s) (hg : GoodPut enc m)
    (hs : SnapSupported s m) : Consistent enc (applyMut s m) := by
  refine hg.elim (P := fun m => SnapSupported s m → Consistent enc (applyMut s m))
    (fun f c _ => h.put_chunk f c) (fun f sid b hb hf hs => h.put_snap hb hf ?_) hs
  exact hs f sid f sid b rfl

theorem supported_consistent {enc : Bool} (tr : List Mut) (s : Store) (h : Consistent enc s)
    (hg : ∀ m ∈ tr, GoodPut enc m) (hs : Supported s tr) : Consistent enc (applyMuts s tr) := by
  induction tr generalizing s with
  | nil => exact h
  | cons m ms ih =>
    exact ih _ (applyMut_consistent h (hg m mem_cons_self) hs.1) (fun m' hm' => hg m' (mem_cons_of_mem _ hm')) hs.2

/-- chunk presence order: everything valid and present in `s` is valid and present in `s'` -/
def ChunkLe (s s' : Store) : Prop := ∀ f c, get s (.chunk f c) = some (.chunk f c) → get s' (.chunk f c) = some (.chunk f c)

theorem ChunkLe.refl (s : Store) : ChunkLe s s := fun _ _ h => h
theorem ChunkLe.trans {a b c : Store} (h1 : ChunkLe a b) (h2 : ChunkLe b c) : ChunkLe a c := fun f x h => h2 f x (h1 f x h)

theorem ChunkLe.put {s s' : Store} (h : ChunkLe s s') (n : Name) (o : Obj) : ChunkLe (put s n o) (put s' n o) := by
  intro f c hget
  by_cases hn : Name.chunk f c = n
  · subst hn
    rw [get_put_same] at hget ⊢
    exact hget
  · rw [get_put_other _ _ _ _ hn] at hget ⊢
    exact h f c hget

theorem chunkLe_mono {enc : Bool} {s s' : Store} {m : Mut} (hg : GoodPut enc m) (h : ChunkLe s s') :
    ChunkLe (applyMut s m) (applyMut s' m) :=
  hg.elim (P := fun m => ChunkLe (applyMut s m) (applyMut s' m)) (fun _ _ => h.put _ _) (fun _ _ _ _ _ => h.put _ _)

theorem chunkLe_applyMut {enc : Bool} (s : Store) {m : Mut} (hg : GoodPut enc m) : ChunkLe s (applyMut s m) := by
  refine hg.elim (P := fun m => ChunkLe s (applyMut s m)) (fun f c f' c' hget => ?_) (fun f sid b _ _ f' c' hget => ?_)
  · by_cases hn : Name.chunk f' c' = Name.chunk f c
    · cases hn
      exact get_put_same _ _ _
    · exact (get_put_other _ _ _ _ hn).trans hget
  · exact (get_put_other _ _ _ _ Name.noConfusion).trans hget

theorem SnapSupported.mono {s s' : Store} {m : Mut} (h : SnapSupported s m) (hle : ChunkLe s s') : SnapSupported s' m :=
  fun f sid f' sid' b hm c hc => hle f c (h f sid f' sid' b hm c hc)

theorem supported_mono {enc : Bool} (tr : List Mut) (s s' : Store) (hg : ∀ m ∈ tr, GoodPut enc m) (hle : ChunkLe s s')
    (hs : Supported s tr) : Supported s' tr := by
  induction tr generalizing s s' with
  | nil => trivial
  | cons m ms ih =>
    obtain ⟨gm, hg'⟩ := forall_mem_cons.mp hg
    exact ⟨hs.1.mono hle, ih _ _ hg' (chunkLe_mono gm hle) hs.2⟩

/-- `c` is a merge of `a` and `b` that keeps the order inside each -/
inductive Interleave {α : Type} : List α → List α → List α → Prop
  | nil : Interleave [] [] []
  | left {a b c : List α} (x : α) : Interleave a b c → Interleave (x :: a) b (x :: c)
  | right {a b c : List α} (x : α) : Interleave a b c → Interleave a (x :: b) (x :: c)

theorem supported_interleave {enc : Bool} {t1 t2 t : List Mut} (hi : Interleave t1 t2 t) :
    ∀ (s1 s2 s : Store), ChunkLe s1 s → ChunkLe s2 s → (∀ m ∈ t1, GoodPut enc m) → (∀ m ∈ t2, GoodPut enc m) →
      Supported s1 t1 → Supported s2 t2 → Supported s t ∧ ∀ m ∈ t, GoodPut enc m := by
  induction hi with
  | nil => exact fun _ _ _ _ _ _ _ _ _ => ⟨trivial, fun _ h => nomatch h⟩
  | left x _ ih =>
    intro s1 s2 s h1 h2 g1 g2 p1 p2
    obtain ⟨gx, g1'⟩ := forall_mem_cons.mp g1
    obtain ⟨r1, r2⟩ := ih _ s2 _ (chunkLe_mono gx h1) (h2.trans (chunkLe_applyMut s gx)) g1' g2 p1.2 p2
    exact ⟨⟨p1.1.mono h1, r1⟩, forall_mem_cons.mpr ⟨gx, r2⟩⟩
  | right x _ ih =>
    intro s1 s2 s h1 h2 g1 g2 p1 p2
    obtain ⟨gx, g2'⟩ := forall_mem_cons.mp g2
    obtain ⟨r1, r2⟩ := ih s1 _ _ (h1.trans (chunkLe_applyMut s gx)) (chunkLe_mono gx h2) g1 g2' p1 p2.2
    exact ⟨⟨p2.1.mono h2, r1⟩, forall_mem_cons.mpr ⟨gx, r2⟩⟩

theorem accepts_two_stage_cons {A : List Mut} {m x : Mut} {xs : List Mut} (h : acceptsPrefix [A, [m]] (x :: xs) = true) :
    (x ∈ A ∧ acceptsPrefix [A.erase x, [m]] xs = true) ∨ (A = [] ∧ x = m ∧ xs = []) := by
  cases A with
  | nil =>
    refine Or.inr ⟨rfl, ?_⟩
    change (if [m].contains x then acceptsPrefix [[m].erase x] xs else false) = true at h
    split at h
    · rename_i hx
      have hxm : x = m := mem_singleton.mp (contains_iff_mem.mp hx)
      subst hxm
      rw [erase_cons_head] at h
      cases xs with
      | nil => exact ⟨rfl, rfl⟩
      | cons y ys =>
        change false = true at h
        cases h
    · cases h
  | cons a A' =>
    refine Or.inl ?_
    change (if (a :: A').contains x then acceptsPrefix [(a :: A').erase x, [m]] xs else false) = true at h
    split at h
    · exact ⟨contains_iff_mem.mp ‹_›, h⟩
    · cases h

/-- accepted prefixes of a two-stage plan "chunk puts, then the snapshot object" are supported -/
theorem accepts_two_stage (f : Fam) (sid : Nat) (b : Body) :
    ∀ (tr A : List Mut) (s : Store),
      (∀ m ∈ A, ∃ f c, m = Mut.put (.chunk f c) (.chunk f c)) →
      (∀ c ∈ b.chunks, get s (.chunk f c) = some (.chunk f c) ∨ Mut.put (.chunk f c) (.chunk f c) ∈ A) →
      acceptsPrefix [A, [.put (.snap f sid) (.snap f sid b)]] tr = true →
      Supported s tr ∧ ∀ m ∈ tr, (∃ f c, m = Mut.put (.chunk f c) (.chunk f c)) ∨ m = .put (.snap f sid) (.snap f sid b) := by
  intro tr
  induction tr with
  | nil => exact fun A s _ _ _ => ⟨trivial, fun _ h => nomatch h⟩
  | cons x xs ih =>
    intro A s hA hpres hacc
    rcases accepts_two_stage_cons hacc with ⟨hxm, hrest⟩ | ⟨rfl, rfl, rfl⟩
    · obtain ⟨fx, cx, rfl⟩ := hA x hxm
      have hpres' : ∀ c ∈ b.chunks, get (put s (.chunk fx cx) (.chunk fx cx)) (.chunk f c) = some (.chunk f c) ∨
          Mut.put (.chunk f c) (.chunk f c) ∈ A.erase (.put (.chunk fx cx) (.chunk fx cx)) := by
        intro c hc
        by_cases hn : Name.chunk f c = Name.chunk fx cx
        · cases hn
          exact Or.inl (get_put_same _ _ _)
        · rcases hpres c hc with h | h
          · exact Or.inl ((get_put_other _ _ _ _ hn).trans h)
          · exact Or.inr ((mem_erase_of_ne (fun he => hn (Mut.put.inj he).1)).mpr h)
      obtain ⟨r1, r2⟩ := ih _ _ (fun m hm => hA m (mem_of_mem_erase hm)) hpres' hrest
      exact ⟨⟨(fun _ _ _ _ _ hm => nomatch hm), r1⟩, forall_mem_cons.mpr ⟨Or.inl ⟨fx, cx, rfl⟩, r2⟩⟩
    · -- the snapshot object comes when the first stage is used up: every chunk of its table is there
      refine ⟨⟨?_, trivial⟩, fun m hm => Or.inr (mem_singleton.mp hm)⟩
      intro f' sid' f'' sid'' b' hm c hc
      cases hm
      exact (hpres c hc).resolve_right (fun h => nomatch h)

/-- every accepted prefix of a snapshot's mutation plan consists of good puts and is supported -/
theorem snapshotPlan_supported {enc : Bool} {u : User} {stream : List Content} {files : List FileRec} {ts sid : Nat} {s : Store}
    (hwf : WF s) (hop : OpOk enc (.snapshot u stream files ts sid)) {tr : List Mut}
    (hacc : acceptsPrefix (snapshotPlan u stream files ts sid s) tr = true) :
    Supported s tr ∧ ∀ m ∈ tr, GoodPut enc m := by
  obtain ⟨hu, hneeds, hpaths⟩ := hop
  refine (accepts_two_stage u.fam sid ⟨u.key, ts, dedupKeepFirstC stream, files⟩ tr _ s
    (forall_mem_map.mpr ?_) ?_ hacc).imp_right (fun r2 m hm => ?_)
  · intro n hn
    obtain ⟨⟨c, _, rfl⟩, _⟩ := (snapshot_uploaded_iff u stream files ts sid s n).mp hn
    exact ⟨_, c, rfl⟩
  · intro c hc
    cases hg : get s (.chunk u.fam c) with
    | some o => exact Or.inl (congrArg some (hwf.get_chunk hg))
    | none =>
      exact Or.inr (mem_map.mpr ⟨.chunk u.fam c,
        (snapshot_uploaded_iff u stream files ts sid s _).mpr ⟨⟨c, (mem_dedupKeepFirstC stream c).mp hc, rfl⟩, hg⟩, rfl⟩)
  · rcases r2 m hm with ⟨f, c, rfl⟩ | rfl
    · exact ⟨rfl, rfl⟩
    · exact ⟨rfl, rfl, ⟨fun fr hfr c hc => (mem_dedupKeepFirstC stream c).mpr (hneeds fr hfr c hc), hpaths⟩, hu⟩

end Replicat.Repo
