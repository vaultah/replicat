import ReplicatProofs.Lemmas.SymBasic
/-! Object maps as association lists: `lookup` against append / filter, the snapshot area of a store, and what
`loadBodies` / `loadAll` return when exactly one object carries the requested name. -/
namespace Replicat.Sym
open Term (pub sec nonce key nil pair mac kdf enc)

theorem lookup_cons (e : Term × Term) (rest : Store) (loc : Term) :
    lookup (e :: rest) loc = if e.1 = loc then some e.2 else lookup rest loc := rfl

theorem lookup_eq (s : Store) (loc : Term) : lookup s loc = List.lookup loc s := by
  induction s with
  | nil => rfl
  | cons e rest ih => rw [lookup_cons, lookup_cons_eq_ite, ih]

theorem lookup_eq_none_iff (s : Store) (loc : Term) : lookup s loc = none ↔ loc ∉ s.map (·.1) := by
  rw [lookup_eq, ← lookup_isSome_iff_mem_keys, Bool.not_eq_true, Option.isSome_eq_false_iff, Option.isNone_iff_eq_none]

theorem lookup_some_mem {s : Store} {loc obj : Term} (h : lookup s loc = some obj) : (loc, obj) ∈ s :=
  mem_of_lookup_eq_some ((lookup_eq s loc).symm.trans h)

theorem lookup_of_mem_nodup {s : Store} {loc obj : Term} (hn : (s.map (·.1)).Nodup) (h : (loc, obj) ∈ s) :
    lookup s loc = some obj :=
  (lookup_eq s loc).trans (lookup_eq_some_of_mem hn h)

theorem lookup_append (s r : Store) (loc : Term) :
    lookup (s ++ r) loc = (match lookup s loc with | some o => some o | none => lookup r loc) := by
  rw [lookup_eq, lookup_eq, lookup_eq, List.lookup_append]
  cases List.lookup loc s <;> rfl

theorem lookup_append_ne_none {s r : Store} {loc : Term} (h : lookup s loc ≠ none) : lookup (s ++ r) loc ≠ none := by
  rw [lookup_append]
  cases hl : lookup s loc with
  | none => exact absurd hl h
  | some o => simp

theorem lookup_append_self (s : Store) (loc obj : Term) : lookup (s ++ [(loc, obj)]) loc ≠ none := by
  rw [lookup_append]
  cases lookup s loc with
  | none => simp [lookup]
  | some o => simp

theorem lookup_filter (s : Store) (f : Term → Bool) (loc : Term) :
    lookup (s.filter (fun e => f e.1)) loc = if f loc then lookup s loc else none := by
  rw [lookup_eq, lookup_eq]
  exact lookup_filter_key f s loc

theorem filter_ne_of_lookup_none (s : Store) (loc : Term) (h : lookup s loc = none) : s.filter (fun e => e.1 ≠ loc) = s :=
  List.filter_eq_self.mpr fun e he =>
    decide_eq_true fun hl => (lookup_eq_none_iff s loc).mp h (hl ▸ List.mem_map.mpr ⟨e, he, rfl⟩)

theorem lookup_filter_ne_self (store : Store) (loc : Term) : lookup (store.filter (fun e => e.1 ≠ loc)) loc = none := by
  have h := lookup_filter store (fun y => decide (y ≠ loc)) loc
  rw [h]
  simp only [ne_eq, not_true_eq_false, decide_false, Bool.false_eq_true, if_false]

theorem lookup_replace_self (store : Store) (loc obj : Term) :
    lookup (store.filter (fun e => e.1 ≠ loc) ++ [(loc, obj)]) loc = some obj := by
  rw [lookup_append, lookup_filter_ne_self]
  simp only [lookup, if_true]

theorem lookup_replace_other (store : Store) (loc obj x : Term) (hx : x ≠ loc) :
    lookup (store.filter (fun e => e.1 ≠ loc) ++ [(loc, obj)]) x = lookup store x := by
  have h := lookup_filter store (fun y => decide (y ≠ loc)) x
  rw [lookup_append, h]
  simp only [hx, ne_eq, not_false_eq_true, decide_true, if_true, lookup, Ne.symm hx, if_false]
  cases lookup store x <;> rfl

theorem nodup_filter_keys (s : Store) (f : Term × Term → Bool) (h : (s.map (·.1)).Nodup) : ((s.filter f).map (·.1)).Nodup := by
  induction s with
  | nil => simp
  | cons e rest ih =>
    simp only [List.map_cons, List.nodup_cons] at h
    by_cases hf : f e = true
    · rw [List.filter_cons_of_pos hf]
      simp only [List.map_cons, List.nodup_cons]
      refine ⟨?_, ih h.2⟩
      intro hm
      apply h.1
      obtain ⟨x, hx, hx1⟩ := List.mem_map.mp hm
      exact List.mem_map.mpr ⟨x, (List.mem_filter.mp hx).1, hx1⟩
    · rw [List.filter_cons_of_neg hf]
      exact ih h.2

theorem nodup_append_new (s : Store) (loc obj : Term) (h : (s.map (·.1)).Nodup) (hl : lookup s loc = none) :
    ((s ++ [(loc, obj)]).map (·.1)).Nodup := by
  rw [List.map_append, List.nodup_append]
  refine ⟨h, by simp, ?_⟩
  intro x hx y hy
  simp only [List.map_cons, List.map_nil, List.mem_singleton] at hy
  subst hy
  intro hxy
  subst hxy
  exact (lookup_eq_none_iff s x).mp hl hx

theorem snapEntries_snap (tag name obj : Term) (r : Store) :
    snapEntries ((pair prefixSnap (pair tag name), obj) :: r) = (tag, name, obj) :: snapEntries r := by
  simp only [snapEntries, List.filterMap_cons, if_true]

/-- whether, and under which tag and name, a store element is listed depends on its location only -/
theorem snapEntries_cons (l : Term) :
    ((∀ tag name, l ≠ pair prefixSnap (pair tag name)) ∧ ∀ o as, snapEntries ((l, o) :: as) = snapEntries as) ∨
    (∃ tag name, l = pair prefixSnap (pair tag name) ∧ ∀ o as, snapEntries ((l, o) :: as) = (tag, name, o) :: snapEntries as) := by
  by_cases h : ∃ tag name, l = pair prefixSnap (pair tag name)
  · obtain ⟨tag, name, rfl⟩ := h
    exact Or.inr ⟨tag, name, rfl, fun o as => snapEntries_snap tag name o as⟩
  · refine Or.inl ⟨fun tag name e => h ⟨tag, name, e⟩, fun o as => ?_⟩
    unfold snapEntries
    rw [List.filterMap_cons]
    split
    · rfl
    · rename_i b hb
      split at hb
      · split at hb
        · rename_i pre tag name hl hp
          exact absurd ⟨tag, name, hp ▸ hl⟩ h
        · cases hb
      · cases hb

theorem loadBodies_absent (p : Props) (name : Term) (s : Store) (h : ∀ t' o', (pair prefixSnap (pair t' name), o') ∉ s) :
    loadBodies p name (snapEntries s) = .ok [] := by
  induction s with
  | nil => rfl
  | cons e rest ih =>
    obtain ⟨l, o⟩ := e
    have ih' := ih fun t' o' hm => h t' o' (List.mem_cons_of_mem _ hm)
    rcases snapEntries_cons l with ⟨_, hl⟩ | ⟨t', n', rfl, hl⟩
    · rw [hl, ih']
    · rw [hl, loadBodies, if_pos (fun e : n' = name => h t' o (e ▸ List.mem_cons_self)), ih']

theorem loadBodies_unique (p : Props) {tag name obj : Term} {s : Store} (hnd : (s.map (·.1)).Nodup)
    (hm : (pair prefixSnap (pair tag name), obj) ∈ s)
    (hu : ∀ t' o', (pair prefixSnap (pair t' name), o') ∈ s → t' = tag) :
    loadBodies p name (snapEntries s) =
      (match loadSnapshot p tag name obj with
       | .error e => .error e
       | .ok (some b) => .ok [b]
       | .ok none => .ok []) := by
  induction s with
  | nil => cases hm
  | cons e rest ih =>
    obtain ⟨l, o⟩ := e
    rw [List.map_cons, List.nodup_cons] at hnd
    have hu' : ∀ t' o', (pair prefixSnap (pair t' name), o') ∈ rest → t' = tag :=
      fun t' o' h => hu t' o' (List.mem_cons_of_mem _ h)
    rcases snapEntries_cons l with ⟨hsh, hl⟩ | ⟨t', n', rfl, hl⟩
    · rw [hl]
      rcases List.mem_cons.mp hm with e | hm'
      · injection e with e _
        exact absurd e.symm (hsh tag name)
      · exact ih hnd.2 hm' hu'
    · rw [hl, loadBodies]
      by_cases hn : n' = name
      · subst hn
        have ht : t' = tag := hu t' o List.mem_cons_self
        subst ht
        -- the head is the object; the tail holds nothing under this name (it would sit at the same location)
        have hobj : o = obj := by
          rcases List.mem_cons.mp hm with e | hm'
          · injection e with _ e
            exact e.symm
          · exact absurd (List.mem_map.mpr ⟨_, hm', rfl⟩) hnd.1
        rw [if_neg (fun h => h rfl), hobj, loadBodies_absent p n' rest fun t'' o' h =>
          hnd.1 (List.mem_map.mpr ⟨_, h, congrArg (fun x => pair prefixSnap (pair x n')) (hu' t'' o' h)⟩)]
        cases loadSnapshot p t' n' obj with
        | error e => rfl
        | ok r => cases r <;> rfl
      · rw [if_pos hn]
        rcases List.mem_cons.mp hm with e | hm'
        · injection e with e _
          injection e with _ e
          injection e with _ e
          exact absurd e.symm hn
        · exact ih hnd.2 hm' hu'

def keepData : List Term × Option Data → Option (List Term × Data)
  | (table, some data) => some (table, data)
  | _ => none

/-- restore drops the bodies whose private data it cannot read -/
theorem loadAll_eq_loadBodies (p : Props) (target : Term) (l : List (Term × Term × Term)) :
    loadAll p target l = (loadBodies p target l).map (fun bs => bs.filterMap keepData) := by
  induction l with
  | nil => rfl
  | cons e rest ih =>
    obtain ⟨tag, name, obj⟩ := e
    rw [loadAll, loadBodies, ih]
    split
    · rfl
    · cases loadSnapshot p tag name obj with
      | error e => rfl
      | ok r =>
        cases loadBodies p target rest with
        | error e => rfl
        | ok bs =>
          match r with
          | none => rfl
          | some (table, none) => rfl
          | some (table, some data) => rfl

end Replicat.Sym
