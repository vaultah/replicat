import ReplicatProofs.Lemmas.CrashConsistent
import ReplicatProofs.Lemmas.RepoSelect
/-! Every accepted prefix of the mutation plan of snapshot / delete / clean keeps the repository consistent (`Crash.Consistent`);
what a complete `clean` leaves; `restore` in a consistent state. -/
namespace Replicat.Repo
open List

theorem selected_readable {enc : Bool} {u : User} {sre fre : Nat → Bool} {s : Store} (hwf : WF s) {fr : FileRec}
    (hfr : fr ∈ selectFiles fre (readableNewestFirst (loadedPure enc u sre s))) : ∃ b, Readable enc u sre s b ∧ fr ∈ b.files := by
  obtain ⟨_, hfs⟩ := (mem_selectFiles fre _ fr).mp hfr
  obtain ⟨b, hb, hfind⟩ := exists_of_findSome?_eq_some hfs
  exact ⟨b, (mem_readable hwf b).mp hb, mem_of_find?_eq_some hfind⟩

theorem restore_ok_of_present {enc : Bool} {u : User} {sre fre : Nat → Bool} {s : Store} (hwf : WF s)
    (hp : ∀ fr ∈ selectFiles fre (readableNewestFirst (loadedPure enc u sre s)), ∀ c ∈ fr.needs,
      get s (.chunk u.fam c) = some (.chunk u.fam c)) :
    restore enc u sre fre s = .ok (selectFiles fre (readableNewestFirst (loadedPure enc u sre s))) := by
  unfold restore
  rw [loadSnapshots_wf enc u sre s hwf]
  simp only
  rw [if_pos]
  rw [all_eq_true]
  intro fr hfr
  rw [all_eq_true]
  intro c hc
  unfold chunkOk
  rw [hp fr hfr c hc]
  exact beq_self_eq_true _

end Replicat.Repo

namespace Replicat.Crash
open Replicat.Repo Replicat.P18 List

def snapPutOf (u : User) (stream : List Content) (files : List FileRec) (ts sid : Nat) : Mut :=
  Mut.put (.snap u.fam sid) (.snap u.fam sid ⟨u.key, ts, dedupKeepFirstC stream, files⟩)

def chunkStage (u : User) (stream : List Content) (s : Store) : List Mut :=
  (stream.foldl (uploadChunk u) (s, [])).2.map (fun n => match n with | .chunk f c => Mut.put n (.chunk f c) | _ => Mut.del n)

theorem snapshotPlan_eq (u : User) (stream : List Content) (files : List FileRec) (ts sid : Nat) (s : Store) :
    snapshotPlan u stream files ts sid s = [chunkStage u stream s, [snapPutOf u stream files ts sid]] := rfl

theorem mem_chunkStage {u : User} {stream : List Content} {s : Store} {m : Mut} (hm : m ∈ chunkStage u stream s) :
    ∃ c, m = Mut.put (.chunk u.fam c) (.chunk u.fam c) := by
  unfold chunkStage at hm
  obtain ⟨n, hn, rfl⟩ := mem_map.mp hm
  rcases mem_fold_names hn with h | ⟨c, _, rfl⟩
  · cases h
  · exact ⟨c, rfl⟩

theorem snapPut_not_chunkStage (u : User) (stream : List Content) (files : List FileRec) (ts sid : Nat) (s : Store) :
    snapPutOf u stream files ts sid ∉ chunkStage u stream s := by
  intro h
  obtain ⟨c, hm⟩ := mem_chunkStage h
  unfold snapPutOf at hm
  cases hm

theorem snapshotPlan_puts {u : User} {stream : List Content} {files : List FileRec} {ts sid : Nat} {s : Store} {st : List Mut}
    {m : Mut} (hst : st ∈ snapshotPlan u stream files ts sid s) (hm : m ∈ st) :
    (∃ c, m = Mut.put (.chunk u.fam c) (.chunk u.fam c)) ∨ m = snapPutOf u stream files ts sid := by
  rw [snapshotPlan_eq, mem_cons, mem_singleton] at hst
  rcases hst with rfl | rfl
  · exact Or.inl (mem_chunkStage hm)
  · exact Or.inr (mem_singleton.mp hm)

/-- the payload every mutation of `snapshot`'s plan writes under a name -/
def snapPayload (u : User) (stream : List Content) (files : List FileRec) (ts sid : Nat) : Name → Obj
  | .chunk f c => .chunk f c
  | _ => .snap u.fam sid ⟨u.key, ts, dedupKeepFirstC stream, files⟩

theorem snapshot_crash (u : User) (stream : List Content) (files : List FileRec) (ts sid : Nat) (s : Store) (tr : List Mut)
    (hs : Consistent s) (hcl : ∀ fr ∈ files, ∀ c ∈ fr.needs, c ∈ stream)
    (h : acceptsPrefix (snapshotPlan u stream files ts sid s) tr = true) : Consistent (applyMuts s tr) := by
  have hcls : ∀ m ∈ tr, (∃ c, m = Mut.put (.chunk u.fam c) (.chunk u.fam c)) ∨ m = snapPutOf u stream files ts sid :=
    accepts_forall h fun _ hst _ hm => snapshotPlan_puts hst hm
  have hget := get_applyMuts_puts s tr (snapPayload u stream files ts sid) (by
    intro m hm
    rcases hcls m hm with ⟨c, rfl⟩ | rfl
    · exact ⟨_, rfl⟩
    · exact ⟨_, rfl⟩)
  -- a chunk name that held its chunk still does: every write to it writes that chunk
  have hchunk : ∀ f c, get s (.chunk f c) = some (.chunk f c) → get (applyMuts s tr) (.chunk f c) = some (.chunk f c) := by
    intro f c hg
    rw [hget]
    split
    · rfl
    · exact hg
  refine ⟨applyMuts_induct (P := WF) (fun s m hw hq => ?_) s tr hs.1 hcls, ?_, ?_⟩
  · rcases hq with ⟨c, rfl⟩ | rfl
    · exact hw.put _ _ ⟨rfl, rfl⟩
    · exact hw.put _ _ ⟨rfl, rfl⟩
  · intro f sid' b hg c hc
    rw [hget] at hg
    split at hg
    · -- the new snapshot object: its put was accepted, so every upload of the chunk stage has completed
      rename_i hput
      cases hg
      have hcs := mem_dedupKeepFirstC.mp hc
      cases ho : get s (.chunk u.fam c) with
      | some o =>
        rw [hs.1.get_chunk ho] at ho
        exact hchunk _ _ ho
      | none =>
        have hmem : Mut.put (.chunk u.fam c) (.chunk u.fam c) ∈ tr := by
          rw [snapshotPlan_eq] at h
          rcases acceptsPrefix_cases _ _ tr h with h1 | ⟨t1, t2, rfl, hp, _⟩
          · exact absurd (h1 _ hput) (snapPut_not_chunkStage u stream files ts sid s)
          · exact mem_append_left _ (hp.mem_iff.mpr (mem_map.mpr ⟨_, fold_names_absent hcs ho, rfl⟩))
        rw [hget]
        exact if_pos hmem
    · exact hchunk f c (hs.2.1 f sid' b hg c hc)
  · intro f sid' b hg
    rw [hget] at hg
    split at hg
    · cases hg
      exact fun fr hfr c hc => mem_dedupKeepFirstC.mpr (hcl fr hfr c hc)
    · exact hs.2.2 f sid' b hg

theorem mem_deleteMutPlan {enc : Bool} {u : User} {sids : List Nat} {s : Store} {st : List Mut} {m : Mut}
    (hst : st ∈ deleteMutPlan enc u sids s) (hm : m ∈ st) : ∃ n, m = Mut.del n := by
  unfold deleteMutPlan at hst
  split at hst
  · cases hst
  · rw [mem_cons, mem_singleton] at hst
    rcases hst with rfl | rfl
    · exact del_of_mem_map hm
    · exact del_of_mem_map hm

theorem mem_cleanMutPlan {enc : Bool} {u : User} {s : Store} {st : List Mut} {m : Mut}
    (hst : st ∈ cleanMutPlan enc u s) (hm : m ∈ st) : ∃ n, m = Mut.del n := by
  unfold cleanMutPlan at hst
  split at hst
  · cases hst
  · rw [mem_singleton] at hst
    subst hst
    exact del_of_mem_map hm

def OwnMut (fam : Fam) (m : Mut) : Prop :=
  (∃ n, m = Mut.del n) ∨ (∃ c, m = Mut.put (.chunk fam c) (.chunk fam c)) ∨ (∃ sid b, m = Mut.put (.snap fam sid) (.snap fam sid b))

theorem mem_planOf {enc : Bool} {s : Store} {op : Op} {st : List Mut} {m : Mut} (hst : st ∈ planOf enc s op) (hm : m ∈ st) :
    OwnMut (userOf op).fam m := by
  cases op with
  | snapshot u stream files ts sid =>
    rcases snapshotPlan_puts hst hm with hc | rfl
    · exact Or.inr (Or.inl hc)
    · exact Or.inr (Or.inr ⟨sid, _, rfl⟩)
  | delete u sids => exact Or.inl (mem_deleteMutPlan hst hm)
  | clean u => exact Or.inl (mem_cleanMutPlan hst hm)

theorem famOK_applyMuts {enc : Bool} {fam : Fam} {s : Store} {t : List Mut} (hf : FamOK enc fam s) (ht : ∀ m ∈ t, OwnMut fam m) :
    FamOK enc fam (applyMuts s t) := by
  intro he
  refine applyMuts_induct (P := fun s' => ∀ e ∈ s', match e.1 with
      | .chunk f _ => f = fam
      | .snap f _ => f = fam
      | _ => True) (Q := OwnMut fam) ?_ s t (hf he) ht
  intro s' m hP hQ e hem
  rcases hQ with ⟨n, rfl⟩ | ⟨c, rfl⟩ | ⟨sid, b, rfl⟩
  · exact hP e ((mem_del s' n e).mp hem).1
  · rcases mem_put hem with rfl | h'
    · rfl
    · exact hP e h'
  · rcases mem_put hem with rfl | h'
    · rfl
    · exact hP e h'

theorem own_loaded {enc : Bool} {u : User} {s : Store} (hwf : WF s) {sid : Nat} {b : Body}
    (hg : get s (.snap u.fam sid) = some (.snap u.fam sid b)) :
    toLoaded enc u u.fam sid b ∈ loadedPure enc u (fun _ => true) s := by
  refine (mem_loadedPure hwf).mpr ⟨b, hg, rfl, ?_, rfl⟩
  show visible enc u u.fam = true
  unfold visible
  rw [beq_self_eq_true, Bool.or_true]

theorem deletePlan_spec {enc : Bool} {u : User} {sids : List Nat} {s : Store} {p : DeletePlan} (hwf : WF s)
    (hp : deletePlan enc u sids s = .ok p) :
    (∀ n ∈ p.snaps, ∃ f sid, n = Name.snap f sid) ∧
    (∀ n ∈ p.chunks, ∃ c, n = Name.chunk u.fam c ∧
      ∀ sid b, get s (.snap u.fam sid) = some (.snap u.fam sid b) → Name.snap u.fam sid ∉ p.snaps → c ∉ b.chunks) := by
  unfold deletePlan at hp
  rw [loadSnapshots_wf enc u _ s hwf] at hp
  dsimp only at hp
  split at hp
  · cases hp
  · split at hp
    · cases hp
    · cases hp
      refine ⟨?_, ?_⟩
      · intro n hn
        obtain ⟨l, _, rfl⟩ := mem_map.mp hn
        exact ⟨_, _, rfl⟩
      · intro n hn
        obtain ⟨c, hc, rfl⟩ := mem_map.mp hn
        refine ⟨c, rfl, ?_⟩
        intro sid b hg hnot hcb
        have hl := own_loaded (enc := enc) hwf hg
        -- `c` is not in the table of a snapshot that is kept, so snapshot `sid` is one of those that go
        have hcf := (mem_filter.mp hc).2
        rw [Bool.not_eq_true', ← Bool.not_eq_true, contains_iff_mem, mem_flatMap] at hcf
        apply hcf
        refine ⟨_, mem_filter.mpr ⟨hl, ?_⟩, hcb⟩
        rw [Bool.not_eq_true', ← Bool.not_eq_true, contains_iff_mem]
        intro hin
        exact hnot (mem_map.mpr ⟨_, mem_filter.mpr ⟨hl, contains_iff_mem.mpr hin⟩, rfl⟩)

theorem delete_crash (enc : Bool) (u : User) (sids : List Nat) (s : Store) (tr : List Mut) (hs : Consistent s)
    (h : acceptsPrefix (deleteMutPlan enc u sids s) tr = true) : Consistent (applyMuts s tr) := by
  apply consistent_dels hs (accepts_forall h fun _ hst _ hm => mem_deleteMutPlan hst hm)
  intro f sid b c hg hc hdel
  unfold deleteMutPlan at h
  cases hp : deletePlan enc u sids s with
  | error e =>
    rw [hp] at h
    rw [acceptsPrefix_nil_plan tr h] at hdel
    cases hdel
  | ok p =>
    rw [hp] at h
    obtain ⟨hsn, hch⟩ := deletePlan_spec hs.1 hp
    have hnot1 : Mut.del (.chunk f c) ∉ p.snaps.map Mut.del := by
      intro hm
      obtain ⟨_, _, hne⟩ := hsn _ (mem_map_del.mp hm)
      cases hne
    -- the chunk deletion belongs to the second stage, so the first stage is complete
    rcases acceptsPrefix_cases _ _ tr h with h1 | ⟨t1, t2, rfl, hperm, hacc⟩
    · exact absurd (h1 _ hdel) hnot1
    · rcases mem_append.mp hdel with hd | hd
      · exact absurd (hperm.mem_iff.mp hd) hnot1
      · obtain ⟨c', heq, hun⟩ := hch _ (mem_map_del.mp (accepts_last_stage _ t2 hacc _ hd))
        cases heq
        apply mem_append_left
        apply hperm.mem_iff.mpr
        apply mem_map_of_mem
        apply Classical.byContradiction
        intro hnot
        exact hun sid b hg hnot hc

def referencedBy (enc : Bool) (u : User) (s : Store) : List Content :=
  (loadedPure enc u (fun _ => true) s).flatMap (·.chunks)

theorem cleanPlan_spec {enc : Bool} {u : User} {s : Store} (hwf : WF s) :
    ∃ ns, cleanPlan enc u s = .ok ns ∧ ∀ n, n ∈ ns ↔
      ∃ f c o, n = Name.chunk f c ∧ (Name.chunk f c, o) ∈ s ∧ ¬(f = u.fam ∧ c ∈ referencedBy enc u s) ∧ ¬(enc = true ∧ f ≠ u.fam) := by
  unfold cleanPlan referencedBy
  rw [loadSnapshots_wf enc u _ s hwf]
  refine ⟨_, rfl, fun n => ?_⟩
  rw [mem_filterMap]
  constructor
  · rintro ⟨⟨n', o⟩, he, hn⟩
    cases n' with
    | chunk f c =>
      obtain ⟨h1, hn⟩ := Option.ite_none_left_eq_some.mp hn
      obtain ⟨h2, hn⟩ := Option.ite_none_left_eq_some.mp hn
      cases hn
      rw [Bool.and_eq_true, beq_iff_eq, contains_iff_mem] at h1
      rw [Bool.and_eq_true, Bool.not_eq_true', beq_eq_false_iff_ne] at h2
      exact ⟨f, c, o, rfl, he, h1, h2⟩
    | _ => cases hn
  · rintro ⟨f, c, o, rfl, he, h1, h2⟩
    refine ⟨(.chunk f c, o), he, ?_⟩
    dsimp only
    rw [if_neg, if_neg]
    · rwa [Bool.and_eq_true, Bool.not_eq_true', beq_eq_false_iff_ne]
    · rwa [Bool.and_eq_true, beq_iff_eq, contains_iff_mem]

theorem cleanPlan_safe {enc : Bool} {u : User} {s : Store} (hwf : WF s) (hf : SnapFam enc u.fam s) {ns : List Name}
    (hp : cleanPlan enc u s = .ok ns) {f : Fam} {sid : Nat} {b : Body} {c : Content}
    (hg : get s (.snap f sid) = some (.snap f sid b)) (hc : c ∈ b.chunks) : Name.chunk f c ∉ ns := by
  obtain ⟨ns', hp', hspec⟩ := cleanPlan_spec (enc := enc) (u := u) hwf
  rw [hp] at hp'
  cases hp'
  intro hn
  obtain ⟨f', c', o, heq, _, h1, h2⟩ := (hspec _).mp hn
  cases heq
  by_cases hfu : f = u.fam
  · subst hfu
    exact h1 ⟨rfl, mem_flatMap.mpr ⟨_, own_loaded hwf hg, hc⟩⟩
  · cases enc with
    | false => exact hfu (hf rfl f sid _ hg)
    | true => exact h2 ⟨rfl, hfu⟩

theorem clean_crash (enc : Bool) (u : User) (s : Store) (tr : List Mut) (hs : Consistent s) (hf : SnapFam enc u.fam s)
    (h : acceptsPrefix (cleanMutPlan enc u s) tr = true) : Consistent (applyMuts s tr) := by
  apply consistent_dels hs (accepts_forall h fun _ hst _ hm => mem_cleanMutPlan hst hm)
  intro f sid b c hg hc hdel
  obtain ⟨ns, hp, _⟩ := cleanPlan_spec (enc := enc) (u := u) hs.1
  unfold cleanMutPlan at h
  rw [hp] at h
  exact absurd (mem_map_del.mp (accepts_last_stage _ tr h _ hdel)) (cleanPlan_safe hs.1 hf hp hg hc)

/-- complete `clean` from a consistent state: succeeds, reaches `Exact` for the caller's family, stays consistent -/
theorem clean_exact (enc : Bool) (u : User) (s : Store) (hs : Consistent s) (hf : FamOK enc u.fam s) :
    ∃ s', clean enc u s = .ok s' ∧ Exact u.fam s' ∧ Consistent s' := by
  obtain ⟨ns, hp, hspec⟩ := cleanPlan_spec (enc := enc) (u := u) hs.1
  refine ⟨delAll s ns, by unfold clean; rw [hp], ?_, ?_⟩
  · have hsnap : ∀ sid, get (delAll s ns) (.snap u.fam sid) = get s (.snap u.fam sid) := by
      intro sid
      rw [get_delAll, if_neg]
      intro hin
      obtain ⟨f, c, o, hh, _⟩ := (hspec _).mp hin
      cases hh
    intro c
    constructor
    · intro hpres
      rw [get_delAll] at hpres
      split at hpres
      · cases hpres
      · rename_i hnot
        obtain ⟨o, ho⟩ := Option.isSome_iff_exists.mp hpres
        -- not deleted although present: it is referenced
        have href : c ∈ referencedBy enc u s := by
          apply Classical.byContradiction
          intro hr
          exact hnot ((hspec _).mpr ⟨u.fam, c, o, rfl, mem_of_get ho, fun h => hr h.2, fun h => h.2 rfl⟩)
        obtain ⟨l, hl, hcl⟩ := mem_flatMap.mp href
        obtain ⟨b, hg, _, hvis, hlb⟩ := (mem_loadedPure hs.1).mp hl
        rw [hf.snapFam.of_visible hg hvis] at hg
        rw [hlb] at hcl
        exact ⟨l.sid, b, by rw [hsnap]; exact hg, hcl⟩
    · rintro ⟨sid, b, hg, hc⟩
      rw [hsnap] at hg
      rw [get_delAll, if_neg (cleanPlan_safe hs.1 hf.snapFam hp hg hc), hs.2.1 u.fam sid b hg c hc]
      rfl
  · rw [← applyMuts_dels]
    apply consistent_dels hs (fun _ => del_of_mem_map)
    intro f sid b c hg hc hdel
    exact absurd (mem_map_del.mp hdel) (cleanPlan_safe hs.1 hf.snapFam hp hg hc)

theorem selected_present {enc : Bool} {u : User} {sre fre : Nat → Bool} {s : Store} (hs : Consistent s) (hf : SnapFam enc u.fam s)
    {fr : FileRec} (hfr : fr ∈ selectFiles fre (readableNewestFirst (loadedPure enc u sre s))) {c : Content} (hc : c ∈ fr.needs) :
    get s (.chunk u.fam c) = some (.chunk u.fam c) := by
  obtain ⟨b, ⟨f, sid, hg, _, hvis, _⟩, hfb⟩ := selected_readable hs.1 hfr
  rw [hf.of_visible hg hvis] at hg
  exact hs.2.1 u.fam sid b hg c (hs.2.2 u.fam sid b hg fr hfb c hc)

theorem restore_ok (enc : Bool) (u : User) (sre fre : Nat → Bool) (s : Store) (hs : Consistent s) (hf : SnapFam enc u.fam s) :
    restore enc u sre fre s = .ok (selectFiles fre (readableNewestFirst (loadedPure enc u sre s))) :=
  restore_ok_of_present hs.1 (fun _ hfr _ hc => selected_present hs hf hfr hc)

end Replicat.Crash
