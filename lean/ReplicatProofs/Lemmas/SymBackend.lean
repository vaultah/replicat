import ReplicatProofs.Lemmas.SymHistory
/-! Histories whose snapshots run against an arbitrary backend (C05): the history invariant survives EVERY answer of `exists`
and every foreign removal, provided the producer queues ciphertext. -/
namespace Replicat.Sym
open Term (pub sec nonce key nil pair mac kdf enc)

def BOp.wf : BOp → Prop
  | .plain op => op.wf
  | .snapshotEv _ _ _ => True

theorem inv_stepB (cfg : Term) (s : St) (op : BOp) (hw : op.wf) (h : Inv cfg s) : Inv cfg (stepBWith true s op) := by
  cases op with
  | plain op => exact inv_step cfg s op hw h
  | snapshotEv user evs data => exact inv_snapshotEv cfg s user evs data h

theorem stepViewB_encrypted (q : Bool) (s : St) (v : Bool) (op : BOp) : (stepViewBWith q s v op).encrypted = s.encrypted := rfl

theorem inv_runB (a : InitArgs) (hw : a.wf) (he : a.encrypted = true) (ops : List (Bool × BOp)) (hops : ∀ vo ∈ ops, vo.2.wf)
    (hv : ∀ vo ∈ ops, vo.1 = true) : Inv a.cfg (runBWith true a ops) := by
  refine foldl_inv (fun s vo hvo hs => ?_) (inv_init a hw he)
  have h0 : vo.1 = s.encrypted := (hv vo hvo).trans hs.enc.symm
  rw [h0, stepViewB_faithful]
  exact inv_stepB a.cfg s vo.2 (hops vo hvo) hs

theorem runB_plain (q : Bool) (a : InitArgs) (ops : List (Bool × Op)) :
    runBWith q a (ops.map (fun vo => (vo.1, BOp.plain vo.2))) = runView a ops := by
  unfold runBWith runView
  generalize initSt a = s
  induction ops generalizing s with
  | nil => rfl
  | cons vo ops ih =>
    simp only [List.map_cons, List.foldl_cons]
    rw [ih]
    rfl

end Replicat.Sym
