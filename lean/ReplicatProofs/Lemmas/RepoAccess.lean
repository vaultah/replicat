import ReplicatProofs.Lemmas.RepoSelect
import ReplicatProofs.Lemmas.RepoGC
/-! Per key family: what a user loads depends on its own family's objects only, and no command changes a name outside the
caller's family (C06, C08 `gc_frame`). -/
namespace Replicat.Repo
open List

/-- the key family a storage name belongs to (its ownership tag); `config` and names outside the two areas have none -/
def nameFam : Name → Option Fam
  | .chunk f _ => some f
  | .snap f _ => some f
  | _ => none

/-- the objects stored under names of family `f` -/
def famPart (f : Fam) (s : Store) : Store := s.filter (fun e => nameFam e.1 == some f)

theorem get_famPart (f : Fam) (s : Store) (n : Name) (hn : nameFam n = some f) : get (famPart f s) n = get s n := by
  refine (get_filter (fun m => nameFam m == some f) s n).trans (if_pos ?_)
  rw [hn, beq_self_eq_true]

/-- in an encrypted repository the snapshots a user loads are a function of the objects of its own family -/
theorem loadSnapshots_famPart (u : User) (re : Nat → Bool) (s : Store) :
    loadSnapshots true u re (famPart u.fam s) = loadSnapshots true u re s := by
  unfold loadSnapshots loadCandidates famPart
  rw [filterMap_filter]
  refine congrArg sequenceE (P18.filterMap_congr' ?_)
  rintro ⟨n, o⟩ _
  cases n with
  | snap f sid =>
    -- a snapshot of another family is dropped by the filter on the left and by the tag check on the right
    show (if (some f == some u.fam) = true then
          (if (re sid && visible true u f) = true then some (loadOne true u f sid o) else none) else none)
        = (if (re sid && visible true u f) = true then some (loadOne true u f sid o) else none)
    by_cases hf : f = u.fam
    · rw [hf, beq_self_eq_true, if_pos rfl]
    · have hv : visible true u f = false := beq_eq_false_iff_ne.mpr hf
      rw [if_neg (fun h => hf (Option.some.inj (beq_iff_eq.mp h))), hv, Bool.and_false, if_neg Bool.false_ne_true]
  | _ => exact ite_self _

theorem step_delete_error {enc : Bool} {u : User} {sids : List Nat} {s : Store} {e : Err}
    (h : deletePlan enc u sids s = .error e) : step enc s (.delete u sids) = s := by
  show (match deleteSnapshots enc u sids s with | .ok s' => s' | .error _ => s) = s
  unfold deleteSnapshots
  rw [h]

theorem DeleteSpec.frame {enc : Bool} {u : User} {sids : List Nat} {s s' : Store} (sp : DeleteSpec enc u sids s s') {n : Name}
    (hn : ∀ f, nameFam n = some f → enc = true ∧ f ≠ u.fam) : get s' n = get s n := by
  cases n with
  | config => exact sp.config_keep
  | other k => exact sp.other_keep k
  | chunk f c => exact sp.chunk_keep f c (Or.inl (hn f rfl).2)
  | snap f sid =>
    obtain ⟨he, hf⟩ := hn f rfl
    subst he
    exact sp.snap_keep f sid (fun h => hf (beq_iff_eq.mp h.2))

theorem CleanSpec.frame {enc : Bool} {u : User} {s s' : Store} (sp : CleanSpec enc u s s') {n : Name}
    (hn : ∀ f, nameFam n = some f → enc = true ∧ f ≠ u.fam) : get s' n = get s n := by
  cases n with
  | config => exact sp.config_keep
  | other k => exact sp.other_keep k
  | chunk f c => exact sp.chunk_keep f c (Or.inr (hn f rfl))
  | snap f sid => exact sp.snap_keep f sid

/-- **Frame**: the names `hn` admits are `config`, anything outside the two areas and, in an encrypted repository, the objects
of every other family -/
theorem step_frame {enc : Bool} {s : Store} (h : WF s) (op : Op) {n : Name}
    (hn : ∀ f, nameFam n = some f → enc = true ∧ f ≠ (opUser op).fam) : get (step enc s op) n = get s n := by
  refine step_cases (P := fun s' => get s' n = get s n) op rfl ?_ ?_ ?_
  · rintro u stream files ts sid rfl
    have hne : ∀ m, nameFam m = some u.fam → n ≠ m := fun m hm hnm => (hn _ (hnm ▸ hm)).2 rfl
    rw [snapshot_get_other u stream files ts sid s (hne _ rfl), fold_get_other]
    exact fun c _ => hne _ rfl
  · rintro u sids s' rfl hd
    exact (delete_spec h hd).frame hn
  · rintro u s' rfl hd
    exact (clean_spec_of_ok h hd).frame hn

/-- a store with snapshots of owner ⟨1,1⟩, shared ⟨2,1⟩ and independent ⟨3,2⟩ -/
def exStore : Store :=
  (snapshot ⟨3, 2⟩ [5, 6] [⟨1, 3, [5, 6]⟩] 30 3
    (snapshot ⟨2, 1⟩ [5, 7] [⟨1, 2, [5, 7]⟩] 20 2
      (snapshot ⟨1, 1⟩ [5, 6] [⟨1, 1, [5, 6]⟩] 10 1 []).1).1).1

theorem exStore_wf : WF exStore := by unfold WF NoDupKeys; decide

end Replicat.Repo
