import ReplicatProofs.Lemmas.RetryCred
/-!
Sessions on one long-lived B2 object: one operation (`runOp`), a whole history (`runSession`), and the loop of a client that keeps
its upload credentials on the object.
-/
namespace Replicat.Cred
open Replicat Replicat.Retry

/-- the operation is one the abstract store has an answer for: a `download` names an object that is there (B2's answer to a
`download` of a missing name is the 404 of defect D9) -/
def Present (st : Store) : Op → Prop
  | .download n => (st n).isSome = true
  | _ => True

/-- the dispatch inside `runOp` -/
def opCall (c : Cfg) (F : Nat) (o : Op) (s0 : Sess) : R Unit × Sess :=
  match o with
  | .upload n d => uploadOp c F n d s0
  | .download n => acctOp c F .download (s0.store n).isNone id s0
  | .exists _ => acctOp c F .head false id s0
  | .delete n => acctOp c F .hide false (fun st m => if m = n then none else st m) s0
  | .list _ => acctOp c F .listNames false id s0

theorem runOp_eq (c : Cfg) (F : Nat) (o : Op) (mid : Option (Nat × Ev)) (s : Sess) :
    runOp c F o mid s =
      let p := opCall c F o { s with pending := mid, log := [] }
      let s1 : Sess := match p.2.pending with
        | some (_, ev) => { p.2.apply ev with pending := none }
        | none => p.2
      (⟨p.1.map (fun _ => specVal s1.store o), s1.requests - s.requests, s1.auths - s.auths, s1.sleeps - s.sleeps, s1.log.reverse⟩, s1) :=
  rfl

theorem opCall_spec (c : Cfg) (hc : Sound c) (f : Nat) (o : Op) (s : Sess) (hw : WF s) (hq : Quiet s) (hp : Present s.store o) :
    ∃ (_ : Unit) (s' : Sess), opCall c (f + 2) o s = (.ok (), s') ∧ Good s s' 3 5 ∧ s'.acctOk = true ∧
      s'.store = specStore s.store o := by
  have hacct : ∀ api eff, ∃ (_ : Unit) (s' : Sess), acctOp c (f + 2) api false eff s = (.ok (), s') ∧ Good s s' 3 5 ∧
      s'.acctOk = true ∧ s'.store = eff s.store := by
    intro api eff
    obtain ⟨_, s', e, g, h⟩ := acctOp_spec c hc f api eff s hw hq
    exact ⟨(), s', e, g.mono (Nat.le_succ 2) (Nat.le_succ 4), h⟩
  cases o with
  | upload n d => exact uploadOp_spec c hc f n d s hw hq
  | download n =>
    have hm : (s.store n).isNone = false := by
      rw [Option.isNone_eq_false_iff]
      exact hp
    show ∃ (_ : Unit) (s' : Sess), acctOp c (f + 2) .download (s.store n).isNone id s = _ ∧ _
    rw [hm]
    exact hacct .download id
  | «exists» n => exact hacct .head id
  | delete n => exact hacct .hide fun st m => if m = n then none else st m
  | list b => exact hacct .listNames id

/-- one operation without an event inside it, on an object in ANY state the service and the client can be in -/
theorem runOp_spec (c : Cfg) (hc : Sound c) (f : Nat) (o : Op) (s : Sess) (hw : WF s) (hp : Present s.store o) :
    (runOp c (f + 2) o none s).1.out = .ok (specVal (specStore s.store o) o) ∧
    (runOp c (f + 2) o none s).2.store = specStore s.store o ∧
    (runOp c (f + 2) o none s).1.requests ≤ 5 ∧ (runOp c (f + 2) o none s).1.auths ≤ 1 ∧ (runOp c (f + 2) o none s).1.sleeps = 0 ∧
    WF (runOp c (f + 2) o none s).2 ∧ Quiet (runOp c (f + 2) o none s).2 ∧ (runOp c (f + 2) o none s).2.acctOk = true := by
  obtain ⟨_, s', e, g, hv, hst⟩ := opCall_spec c hc f o { s with pending := none, log := [] } hw rfl hp
  have hq' : s'.pending = none := g.pres.quiet
  have hr : s'.requests ≤ s.requests + 5 := g.req_le (Nat.le_add_left 3 2)
  have ha : s'.auths ≤ s.auths + 1 := g.auths_le
  have hs : s'.sleeps = s.sleeps := g.pres.sleeps
  rw [runOp_eq, e]
  simp only [hq']
  refine ⟨congrArg (fun st => R.ok (specVal st o)) hst, hst, ?_, ?_, ?_, g.pres.wf, g.pres.quiet, hv⟩
  · exact Nat.sub_le_of_le_add (Nat.add_comm _ _ ▸ hr)
  · exact Nat.sub_le_of_le_add (Nat.add_comm _ _ ▸ ha)
  · exact hs ▸ Nat.sub_self _

/-- histories the abstract store speaks about: credential events anywhere BETWEEN operations, no event scheduled inside one,
downloads of names that are there -/
def StepsOk : Store → List Step → Prop
  | _, [] => True
  | st, .ev _ :: rest => StepsOk st rest
  | st, .op o mid :: rest => mid = none ∧ Present st o ∧ StepsOk (specStore st o) rest

theorem wf_apply (s : Sess) (e : Ev) (hw : WF s) : WF (s.apply e) := by
  obtain ⟨h1, h2, h3⟩ := hw
  cases e
  · exact ⟨Nat.le_refl _, h2, h3⟩
  · exact ⟨h1, Nat.le_refl _, h3⟩
  · exact ⟨Nat.le_refl _, Nat.le_refl _, h3⟩
  · exact ⟨h1, h2, Nat.le_refl _⟩

theorem store_apply (s : Sess) (e : Ev) : (s.apply e).store = s.store := by cases e <;> rfl

theorem runSession_spec (c : Cfg) (hc : Sound c) (f : Nat) :
    ∀ (steps : List Step) (s : Sess), WF s → StepsOk s.store steps →
      (runSession c (f + 2) steps s).map (·.out) = (specSession steps s.store).map R.ok ∧
      ∀ r ∈ runSession c (f + 2) steps s, r.requests ≤ 5 ∧ r.auths ≤ 1 ∧ r.sleeps = 0 := by
  intro steps
  induction steps with
  | nil => intro s _ _; exact ⟨rfl, fun r hr => by cases hr⟩
  | cons x rest ih =>
    intro s hw hok
    cases x with
    | ev e =>
      have := ih (s.apply e) (wf_apply s e hw) (by rw [store_apply]; exact hok)
      simp only [runSession, specSession]
      rw [store_apply] at this
      exact this
    | op o mid =>
      obtain ⟨hm, hp, hrest⟩ := hok
      subst hm
      obtain ⟨h1, h2, h3, h4, h5, h6, _, _⟩ := runOp_spec c hc f o s hw hp
      have := ih (runOp c (f + 2) o none s).2 h6 (by rw [h2]; exact hrest)
      rw [h2] at this
      simp only [runSession, specSession, h1, List.map_cons]
      refine ⟨by rw [this.1], ?_⟩
      intro r hr
      simp only [List.mem_cons] at hr
      rcases hr with rfl | hr
      · exact ⟨h3, h4, h5⟩
      · exact this.2 r hr

theorem reauth_quiet (s : Sess) (a : Api) (h : Quiet s) :
    (s.tick a).authenticate =
      { s with token := s.acctIssued, acctIssued := s.acctIssued + 1, authed := true, bucket := s.bucket || s.restricted,
               auths := s.auths + 1, requests := s.requests + 1 + 1, log := .authorize :: a :: s.log } := by
  rw [auth_quiet _ (by rw [tick_quiet s a h]; exact h), tick_quiet s a h]

/-- under a policy that answers `AuthRequired` with a re-authentication, only the fuel stops an attempt that raises it in every
`Stale` state -/
theorem stale_loop {α : Type} (pol : Err → Nat → Nat → Decision) (hpol : ∀ rounds, pol .auth 1 rounds = .reauth false)
    (att : Sess → R α × Sess) (api : Api) (Stale : Sess → Prop)
    (hatt : ∀ s, Quiet s → Stale s → att s = (.err .auth, s.tick api))
    (hstale : ∀ s, Quiet s → Stale s → Stale (s.tick api).authenticate) :
    ∀ (fuel rounds : Nat) (s : Sess), Quiet s → Stale s →
      ∃ s', call pol att fuel 1 rounds s = (.fuel, s') ∧ s'.store = s.store ∧ s'.auths = s.auths + fuel ∧
        s'.requests = s.requests + 2 * fuel := by
  intro fuel
  induction fuel with
  | zero => exact fun rounds s _ _ => ⟨s, rfl, rfl, rfl, rfl⟩
  | succ fuel ih =>
    intro rounds s hq hs
    have hq' : Quiet (s.tick api).authenticate := by rw [reauth_quiet s api hq]; exact hq
    obtain ⟨s', e, h1, h2, h3⟩ := ih (rounds + 1) _ hq' (hstale s hq hs)
    rw [reauth_quiet s api hq] at h1 h2 h3
    rw [call_reauth (hatt s hq hs) (hpol rounds)]
    exact ⟨s', e, h1, h2.trans (Nat.add_right_comm s.auths 1 fuel), h3.trans (Nat.add_right_comm s.requests 2 (2 * fuel))⟩

/-- Upload credentials kept on the object (`credsFresh = false`) that the service no longer accepts: every attempt presents them
again, is answered 401, re-authenticates — which renews the ACCOUNT token only — and starts over. -/
theorem stale_upload (c : Cfg) (hfresh : c.credsFresh = false) (h401 : c.e401 = .auth) (hpol : ∀ rounds, c.pol .auth 1 rounds = .reauth false)
    (n : Nat) (d : Bytes) (u F : Nat) (s : Sess) (hq : Quiet s) (hau : s.authed = true) (hu : s.upCred = some u) (hx : u < s.upLive) :
    (uploadOp c (F + 1) n d s).1 = .fuel ∧ (uploadOp c (F + 1) n d s).2.store = s.store ∧
    (uploadOp c (F + 1) n d s).2.auths = s.auths + (F + 1) ∧ (uploadOp c (F + 1) n d s).2.requests = s.requests + 2 * (F + 1) := by
  obtain ⟨s', e, h1, h2, h3⟩ : ∃ s', uploadOp c (F + 1) n d s = (.fuel, s') ∧ s'.store = s.store ∧ s'.auths = s.auths + (F + 1) ∧
      s'.requests = s.requests + 2 * (F + 1) := by
    rw [uploadOp, Sess.ensureAuth, if_pos hau]
    refine stale_loop c.pol hpol _ .uploadFile (fun s => s.authed = true ∧ s.upCred = some u ∧ u < s.upLive) ?_
      (fun s hq h => by rw [reauth_quiet s _ hq]; exact ⟨rfl, h.2⟩) (F + 1) 0 s hq ⟨hau, hu, hx⟩
    intro s hq ⟨hau, hu, hx⟩
    have hg : getCreds c (F + 1) s = (.ok u, s) := by
      rw [getCreds, Sess.ensureAuth, if_pos hau]
      exact call_ok (by simp only [hfresh, hu, Bool.false_eq_true, if_false])
    have hl : u < (s.tick .uploadFile).upLive := by rw [tick_quiet s _ hq]; exact hx
    simp only [hg, hl, if_true, h401]
  rw [e]
  exact ⟨rfl, h1, h2, h3⟩

end Replicat.Cred
