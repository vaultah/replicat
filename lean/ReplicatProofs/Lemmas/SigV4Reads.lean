import ReplicatProofs.Lemmas.SigV4Payload
/-! C16: read loops over arbitrary read schedules (`readLoop`): what a loop consumes under each stop rule. -/
namespace Replicat.SigV4

theorem capOf_pos (n : Nat) (hn : 0 < n) (caps : List Nat) (hc : CapsOk caps) : 0 < capOf n caps := by
  cases caps with
  | nil => exact hn
  | cons c t => exact Nat.lt_min.mpr ⟨hn, hc c List.mem_cons_self⟩

theorem capOf_le (n : Nat) (caps : List Nat) : capOf n caps ≤ n := by
  cases caps with
  | nil => exact Nat.le_refl _
  | cons c t => exact Nat.min_le_left n c

theorem CapsOk.tail {caps : List Nat} (h : CapsOk caps) : CapsOk caps.tail := by
  intro k hk
  exact h k (List.mem_of_mem_tail hk)

/-- whatever the rule, the schedule and the fuel: the reads are consecutive pieces of the stream, so what the loop consumes is a
prefix of what was left -/
theorem readLoop_prefix (rule : StopRule) (n : Nat) : ∀ (fuel : Nat) (caps : List Nat) (rest : Bytes),
    (readLoop rule n fuel caps rest).flatten <+: rest
  | 0, _, _ => by simp [readLoop]
  | fuel + 1, caps, rest => by
    have ih := readLoop_prefix rule n fuel caps.tail (rest.drop (capOf n caps))
    have key : ∀ l : List Bytes, l.flatten <+: rest.drop (capOf n caps) → (rest.take (capOf n caps) :: l).flatten <+: rest := by
      intro l hl
      have h := (List.prefix_append_right_inj (rest.take (capOf n caps))).mpr hl
      rwa [List.take_append_drop] at h
    unfold readLoop
    cases rule with
    | emptyRead =>
      dsimp only
      split
      · exact key [] List.nil_prefix
      · exact key _ ih
    | shortRead =>
      dsimp only
      split
      · exact key [] List.nil_prefix
      · exact key _ ih

theorem capOf_of_filled (n : Nat) (caps : List Nat) (h : ∀ k ∈ caps, n ≤ k) : capOf n caps = n := by
  cases caps with
  | nil => rfl
  | cons c t => exact Nat.min_eq_left (h c List.mem_cons_self)

theorem take_isEmpty (k : Nat) (hk : 0 < k) (rest : Bytes) : (rest.take k).isEmpty = rest.isEmpty := by
  cases rest with
  | nil => rw [List.take_nil]
  | cons b t =>
    obtain ⟨m, rfl⟩ := Nat.exists_eq_succ_of_ne_zero (Nat.ne_of_gt hk)
    rfl

/-- the short-read rule needs streams that fill every request (`io.BytesIO`, buffered files), which is why no test that uploads
from such streams can tell the two rules apart -/
theorem readLoop_exhausts (rule : StopRule) (n : Nat) (hn : 0 < n) (fuel : Nat) (caps : List Nat) (rest : Bytes)
    (hc : CapsOk caps) (hf : rule = .shortRead → ∀ k ∈ caps, n ≤ k) (h : rest.length < fuel) :
    (readLoop rule n fuel caps rest).flatten = rest := by
  induction fuel generalizing caps rest with
  | zero => exact absurd h (Nat.not_lt_zero _)
  | succ fuel ih =>
    have hk := capOf_pos n hn caps hc
    replace ih := ih caps.tail (rest.drop (capOf n caps)) hc.tail fun hr k hk => hf hr k (List.mem_of_mem_tail hk)
    rw [List.length_drop] at ih
    unfold readLoop
    cases rule with
    | emptyRead =>
      simp only [take_isEmpty _ hk]
      split
      · rename_i he
        rw [List.isEmpty_iff.mp he, List.take_nil]
        rfl
      · rename_i he
        have hpos := List.length_pos_iff.mpr (mt List.isEmpty_iff.mpr he)
        rw [List.flatten_cons, ih (by omega)]
        exact List.take_append_drop _ _
    | shortRead =>
      simp only [capOf_of_filled n caps (hf rfl), List.length_take] at ih ⊢
      split
      · rename_i hs
        rw [List.flatten_singleton]
        exact List.take_of_length_le (by omega)
      · rename_i hs
        rw [List.flatten_cons, ih (by omega)]
        exact List.take_append_drop _ _

theorem readLoop_emptyRead_last (n : Nat) (hn : 0 < n) (fuel : Nat) (caps : List Nat) (rest : Bytes) (hc : CapsOk caps)
    (h : rest.length < fuel) : (readLoop .emptyRead n fuel caps rest).getLast? = some [] := by
  induction fuel generalizing caps rest with
  | zero => exact absurd h (Nat.not_lt_zero _)
  | succ fuel ih =>
    have hk := capOf_pos n hn caps hc
    replace ih := ih caps.tail (rest.drop (capOf n caps)) hc.tail
    rw [List.length_drop] at ih
    unfold readLoop
    simp only [take_isEmpty _ hk]
    split
    · rename_i he
      rw [List.isEmpty_iff.mp he, List.take_nil]
      rfl
    · rename_i he
      have hpos := List.length_pos_iff.mpr (mt List.isEmpty_iff.mpr he)
      rw [List.getLast?_cons, ih (by omega)]
      rfl

/-- the short-read rule stops at the first call whose cap is below the request: it consumes exactly that prefix -/
theorem readLoop_shortRead_first_short (n c fuel : Nat) (caps : List Nat) (rest : Bytes) (h : c < n) :
    (readLoop .shortRead n (fuel + 1) (c :: caps) rest).flatten = rest.take c := by
  have hs : (rest.take (min n c)).length < n :=
    Nat.lt_of_le_of_lt (Nat.le_trans (List.length_take_le _ _) (Nat.min_le_right n c)) h
  rw [readLoop, capOf, if_pos hs, List.flatten_singleton, Nat.min_eq_right (Nat.le_of_lt h)]

theorem flatten_filter_nonempty (l : List Bytes) : (l.filter (fun p => !p.isEmpty)).flatten = l.flatten := by
  induction l with
  | nil => rfl
  | cons a t ih =>
    cases a with
    | nil => exact ih
    | cons b r => exact congrArg ((b :: r) ++ ·) ih

theorem streamReads_fuel (s : Stream) : (s.data.drop s.pos).length < s.data.length + 2 :=
  Nat.lt_succ_of_lt (stream_rest_length_lt s)

theorem streamReads_exhausts (rule : StopRule) (n : Nat) (hn : 0 < n) (caps : List Nat) (hc : CapsOk caps)
    (hf : rule = .shortRead → ∀ k ∈ caps, n ≤ k) (s : Stream) : (streamReads rule n caps s).flatten = s.data.drop s.pos :=
  readLoop_exhausts rule n hn _ caps _ hc hf (streamReads_fuel s)

theorem streamReads_emptyRead (n : Nat) (hn : 0 < n) (caps : List Nat) (hc : CapsOk caps) (s : Stream) :
    (streamReads .emptyRead n caps s).flatten = s.data.drop s.pos :=
  streamReads_exhausts .emptyRead n hn caps hc (fun h => nomatch h) s

end Replicat.SigV4
