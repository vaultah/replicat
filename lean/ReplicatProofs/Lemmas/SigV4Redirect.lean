import ReplicatModel.SigV4
/-! C16: who puts requests on the wire — lemmas about `sendWith` / `callWith` (replies that could make the HTTP client emit
requests by itself).  `Safe follow hook`: redirects are not followed, or the response hook raises before httpx looks at the
`Location` header.  Each of the two alone suffices; both must be given up for the library to emit a request of its own. -/
namespace Replicat.SigV4

def Safe (follow hookRaises : Bool) : Prop := follow = false ∨ hookRaises = true

theorem sendWith_safe (follow hook : Bool) (h : Safe follow hook) (b : Nat) (w : Wire) (rs : List Reply) :
    (sendWith follow hook b w rs).1 = [w] ∧ (sendWith follow hook b w rs).2.2 = rs.tail := by
  unfold sendWith
  fun_cases sendAux follow hook rs b w
  -- every equation of `sendAux` but the one that follows a redirect sends `w` alone and drops one reply
  case case7 hh hf _ =>
    rcases h with rfl | rfl
    · nomatch hf
    · exact absurd rfl hh
  all_goals exact ⟨rfl, rfl⟩

theorem sendWith_rest (follow hook : Bool) (h : Safe follow hook) (b : Nat) (w : Wire) (rs : List Reply) :
    (sendWith follow hook b w rs).2.2 = rs.tail :=
  (sendWith_safe follow hook h b w rs).2

theorem callWith_requests (follow hook : Bool) (h : Safe follow hook) (mr : Nat) (sign : Nat → Wire) (tries j : Nat)
    (rs : List Reply) : ∃ m ≤ tries,
      (callWith follow hook mr sign tries j rs).1 = (List.range' j m).map (fun n => (n, sign n)) := by
  fun_induction callWith follow hook mr sign tries j rs with
  | case1 => exact ⟨0, Nat.le_refl 0, rfl⟩
  | case2 t j rs r =>
    exact ⟨1, Nat.succ_le_succ (Nat.zero_le t), congrArg (List.map _) (sendWith_safe follow hook h mr (sign j) rs).1⟩
  | case3 t j rs r _ _ r' ih =>
    obtain ⟨m, hm, ih⟩ := ih
    refine ⟨m + 1, Nat.succ_le_succ hm, ?_⟩
    show r.1.map _ ++ r'.1 = _
    rw [(sendWith_safe follow hook h mr (sign j) rs).1, ih]
    rfl

theorem callWith_signed (follow hook : Bool) (h : Safe follow hook) (mr : Nat) (sign : Nat → Wire) (tries j : Nat)
    (rs : List Reply) : ∀ p ∈ (callWith follow hook mr sign tries j rs).1, p.2 = sign p.1 := by
  obtain ⟨m, _, he⟩ := callWith_requests follow hook h mr sign tries j rs
  rw [he]
  intro p hp
  obtain ⟨n, _, rfl⟩ := List.mem_map.mp hp
  rfl

end Replicat.SigV4
