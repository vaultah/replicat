import ReplicatProofs.Lemmas.RepoSafety
/-! `Exact f s` (chunk objects of family `f` = chunks referenced by the family's snapshots) under snapshot / delete / clean;
upload lists of repeated snapshots.  Used by C07 and C08. -/
namespace Replicat.Repo
open List

theorem snapshot_exact (u : User) (stream : List Content) (files : List FileRec) (ts sid : Nat) (s : Store)
    (hfresh : get s (.snap u.fam sid) = none) (f : Fam) (h : Exact f s) : Exact f (snapshot u stream files ts sid s).1 := by
  intro c
  rw [snapshot_chunk_present, h c]
  constructor
  · rintro (⟨sid', b', hg, hc⟩ | ⟨rfl, hc⟩)
    · -- an old snapshot object is still there: the new name was free
      refine ⟨sid', b', ?_, hc⟩
      rw [snapshot_get_snap_other u stream files ts sid s, hg]
      intro hn
      cases hn
      rw [hfresh] at hg
      cases hg
    · exact ⟨sid, _, snapshot_get_snapname u stream files ts sid s, (mem_dedupKeepFirstC stream c).mpr hc⟩
  · rintro ⟨sid', b', hg, hc⟩
    by_cases hn : Name.snap f sid' = .snap u.fam sid
    · cases hn
      rw [snapshot_get_snapname] at hg
      cases hg
      exact Or.inr ⟨rfl, (mem_dedupKeepFirstC stream c).mp hc⟩
    · rw [snapshot_get_snap_other u stream files ts sid s hn] at hg
      exact Or.inl ⟨sid', b', hg, hc⟩

/-- a snapshot whose chunks are all present uploads nothing -/
theorem snapshot_uploads_nil (u : User) (stream : List Content) (files : List FileRec) (ts sid : Nat) (s : Store)
    (hpres : ∀ c ∈ stream, (get s (.chunk u.fam c)).isSome) : (snapshot u stream files ts sid s).2 = [] := by
  rw [eq_nil_iff_forall_not_mem]
  intro n hn
  obtain ⟨⟨c, hc, rfl⟩, hnone⟩ := (snapshot_uploaded_iff u stream files ts sid s n).mp hn
  have := hpres c hc
  rw [hnone] at this
  cases this

theorem delete_exact {enc : Bool} {u : User} {sids : List Nat} {s s' : Store}
    (h : Consistent enc s) (hu : UserOk enc u) (hd : deleteSnapshots enc u sids s = .ok s') (f : Fam) (hex : Exact f s) : Exact f s' := by
  obtain ⟨hwf, hfam, href⟩ := h
  have sp := delete_spec hwf hd
  intro c
  by_cases hf : f = u.fam
  · subst hf
    constructor
    · intro hp
      by_cases h2 : RefBy enc u s (· ∉ sids) c
      · obtain ⟨f1, sid1, b1, hg1, hv1, hs1, hc1⟩ := h2
        cases visible_fam hu hfam hg1 hv1
        exact ⟨sid1, b1, (sp.snap_keep _ sid1 (fun hh => hs1 hh.1)).trans hg1, hc1⟩
      · by_cases h1 : RefBy enc u s (· ∈ sids) c
        · rw [sp.chunk_gone c h1 h2] at hp
          cases hp
        · -- it was there before, so some snapshot referenced it: not a requested one
          rw [sp.chunk_keep u.fam c (Or.inr (Or.inl h1))] at hp
          obtain ⟨sid0, b0, hg0, hc0⟩ := (hex c).mp hp
          have hs0 : sid0 ∉ sids := fun hs0 => h1 ⟨u.fam, sid0, b0, hg0, visible_own enc u, hs0, hc0⟩
          exact ⟨sid0, b0, (sp.snap_keep _ sid0 (fun hh => hs0 hh.1)).trans hg0, hc0⟩
    · rintro ⟨sid1, b1, hg1, hc1⟩
      obtain ⟨hg0, hnot⟩ := sp.snap_old hg1
      have hs1 : sid1 ∉ sids := fun hh => hnot ⟨hh, visible_own enc u⟩
      rw [sp.chunk_keep u.fam c (Or.inr (Or.inr ⟨u.fam, sid1, b1, hg0, visible_own enc u, hs1, hc1⟩))]
      rw [(href _ _ _ hg0).1 c hc1]
      rfl
  · rw [sp.chunk_keep f c (Or.inl hf), hex c]
    constructor
    · rintro ⟨sid0, b0, hg0, hc0⟩
      refine ⟨sid0, b0, ?_, hc0⟩
      rw [sp.snap_keep f sid0 ?_]
      · exact hg0
      · rintro ⟨_, hv⟩
        exact hf (visible_fam hu hfam hg0 hv)
    · rintro ⟨sid0, b0, hg0, hc0⟩
      exact ⟨sid0, b0, (sp.snap_old hg0).1, hc0⟩

/-- from ANY well-formed state (orphans, missing chunks, …): after `clean` by `u` an own-family chunk object is there iff it was
there before and a remaining snapshot of the family references it -/
theorem clean_own_chunks {enc : Bool} {u : User} {s s' : Store} (hwf : WF s) (hfam : FamOk enc s) (hu : UserOk enc u)
    (hd : clean enc u s = .ok s') (c : Content) :
    (get s' (.chunk u.fam c)).isSome ↔
      (get s (.chunk u.fam c)).isSome ∧ ∃ sid b, get s' (.snap u.fam sid) = some (.snap u.fam sid b) ∧ c ∈ b.chunks := by
  have sp := clean_spec_of_ok hwf hd
  have hiff : RefBy enc u s (fun _ => True) c ↔ ∃ sid b, get s' (.snap u.fam sid) = some (.snap u.fam sid b) ∧ c ∈ b.chunks := by
    constructor
    · rintro ⟨f1, sid1, b1, hg1, hv1, _, hc1⟩
      have := visible_fam hu hfam hg1 hv1
      subst this
      exact ⟨sid1, b1, (sp.snap_keep _ sid1).trans hg1, hc1⟩
    · rintro ⟨sid1, b1, hg1, hc1⟩
      rw [sp.snap_keep] at hg1
      exact ⟨u.fam, sid1, b1, hg1, visible_own enc u, trivial, hc1⟩
  by_cases hr : RefBy enc u s (fun _ => True) c
  · rw [sp.chunk_keep u.fam c (Or.inl ⟨rfl, hr⟩)]
    exact ⟨fun hp => ⟨hp, hiff.mp hr⟩, fun hp => hp.1⟩
  · rw [sp.chunk_gone u.fam c (fun h => h.elim (fun h1 => hr h1.2) (fun h1 => h1.2 rfl))]
    constructor
    · exact fun hp => nomatch hp
    · exact fun hp => absurd (hiff.mpr hp.2) hr

theorem clean_exact_own {enc : Bool} {u : User} {s s' : Store} (h : Consistent enc s) (hu : UserOk enc u)
    (hd : clean enc u s = .ok s') : Exact u.fam s' := by
  intro c
  rw [clean_own_chunks h.1 h.2.1 hu hd c]
  have sp := clean_spec_of_ok h.1 hd
  constructor
  · exact fun hp => hp.2
  · rintro ⟨sid1, b1, hg1, hc1⟩
    refine ⟨?_, sid1, b1, hg1, hc1⟩
    rw [sp.snap_keep] at hg1
    rw [(h.2.2 _ _ _ hg1).1 c hc1]
    rfl

theorem clean_exact_other {enc : Bool} {u : User} {s s' : Store} (h : Consistent enc s) (hu : UserOk enc u)
    (hd : clean enc u s = .ok s') (f : Fam) (hf : f ≠ u.fam) (hex : Exact f s) : Exact f s' := by
  have sp := clean_spec_of_ok h.1 hd
  intro c
  cases enc with
  | true =>
    rw [sp.chunk_keep f c (Or.inr ⟨rfl, hf⟩), hex c]
    simp only [sp.snap_keep]
  | false =>
    rw [sp.chunk_gone f c (fun h => h.elim (fun h1 => hf h1.1) (fun h1 => nomatch h1.1))]
    constructor
    · exact fun hp => nomatch hp
    · rintro ⟨sid1, b1, hg1, _⟩
      rw [sp.snap_keep] at hg1
      exact absurd ((h.2.1 rfl f sid1 _ hg1).trans (hu rfl).symm) hf

theorem step_exact {enc : Bool} {s : Store} {op : Op} (h : Consistent enc s) (hop : OpOk enc op) (hfresh : FreshOp s op)
    (f : Fam) (hex : Exact f s) : Exact f (step enc s op) := by
  refine step_cases op hex ?_ ?_ ?_
  · rintro u stream files ts sid rfl
    exact snapshot_exact u stream files ts sid s hfresh f hex
  · rintro u sids s' rfl hd
    exact delete_exact h hop hd f hex
  · rintro u s' rfl hd
    by_cases hf : f = u.fam
    · exact hf ▸ clean_exact_own h hop hd
    · exact clean_exact_other h hop hd f hf hex

/-- an admissible crash-free history: every command is admissible and every snapshot gets a name not present at that moment -/
def RunOk (enc : Bool) : Store → List Op → Prop
  | _, [] => True
  | s, op :: ops => OpOk enc op ∧ FreshOp s op ∧ RunOk enc (step enc s op) ops

theorem RunOk.ops {enc : Bool} {s : Store} {ops : List Op} (h : RunOk enc s ops) : ∀ op ∈ ops, OpOk enc op := by
  induction ops generalizing s with
  | nil => simp
  | cons op ops ih =>
    intro o ho
    rcases mem_cons.mp ho with rfl | ho
    · exact h.1
    · exact ih h.2.2 o ho

theorem run_exact {enc : Bool} (ops : List Op) (s : Store) (h : Consistent enc s) (hrun : RunOk enc s ops)
    (f : Fam) (hex : Exact f s) : Exact f (run enc s ops) := by
  unfold run
  induction ops generalizing s with
  | nil => exact hex
  | cons op ops ih =>
    simp only [foldl_cons]
    exact ih _ (step_consistent h hrun.1) hrun.2.2 (step_exact h hrun.1 hrun.2.1 f hex)

theorem initStore_exact (f : Fam) : Exact f initStore := by
  intro c
  simp [initStore, get]

theorem stored_once_wf {s : Store} (h : WF s) (f : Fam) (c : Content) :
    (s.filter (fun e => e.2 == Obj.chunk f c)).length ≤ 1 ∧ ∀ e ∈ s, e.2 = Obj.chunk f c → e.1 = Name.chunk f c := by
  have hname : ∀ e ∈ s, e.2 = Obj.chunk f c → e.1 = Name.chunk f c := by
    rintro ⟨n, o⟩ he rfl
    have hm := h.2 _ he
    cases n with
    | chunk f' c' =>
      obtain ⟨rfl, rfl⟩ := hm
      rfl
    | _ => exact False.elim hm
  refine ⟨?_, hname⟩
  -- the entries holding this object all have the same key, and keys are unique
  have hall : ∀ x ∈ (s.filter (fun e => e.2 == Obj.chunk f c)).map (·.1), x = Name.chunk f c := by
    intro x hx
    obtain ⟨e, he, rfl⟩ := mem_map.mp hx
    exact hname e (mem_filter.mp he).1 (beq_iff_eq.mp (mem_filter.mp he).2)
  have hnd : ((s.filter (fun e => e.2 == Obj.chunk f c)).map (·.1)).Nodup := h.1.sublist filter_sublist
  rw [eq_replicate_of_mem hall, nodup_replicate, length_map] at hnd
  exact hnd

end Replicat.Repo
