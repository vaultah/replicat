import ReplicatModel.Sym
/-! base64 on byte lists: `decode (encode bs) = some bs`, by induction in steps of three bytes.  Every sextet the encoder emits
is a join `hi * k + lo` of the low bits of one byte and the high bits of the next; the decoder takes the joins apart again. -/
namespace Replicat.B64

theorem dec_enc_fin : ∀ n : Fin 64, decSextet (encSextet n.val) = some n.val ∧ encSextet n.val ≠ padChar := by decide +kernel

theorem decSextet_encSextet {n : Nat} (h : n < 64) : decSextet (encSextet n) = some n := (dec_enc_fin ⟨n, h⟩).1

theorem encSextet_ne_pad {n : Nat} (h : n < 64) : encSextet n ≠ padChar := (dec_enc_fin ⟨n, h⟩).2

theorem decode_pad2 {p q : Nat} (hp : p < 64) (hq : q < 64) :
    decode [encSextet p, encSextet q, padChar, padChar] = some [UInt8.ofNat (p * 4 + q / 16)] := by
  rw [decode]
  simp only [decSextet_encSextet hp, decSextet_encSextet hq, and_self, if_true]

theorem decode_pad1 {p q r : Nat} (hp : p < 64) (hq : q < 64) (hr : r < 64) :
    decode [encSextet p, encSextet q, encSextet r, padChar] =
      some [UInt8.ofNat (p * 4 + q / 16), UInt8.ofNat (q % 16 * 16 + r / 4)] := by
  rw [decode]
  simp only [decSextet_encSextet hp, decSextet_encSextet hq, decSextet_encSextet hr,
    encSextet_ne_pad hr, false_and, and_self, if_false, if_true]

theorem decode_quad {p q r t : Nat} (hp : p < 64) (hq : q < 64) (hr : r < 64) (ht : t < 64) (rest : List Nat) :
    decode (encSextet p :: encSextet q :: encSextet r :: encSextet t :: rest) =
      (decode rest).map fun bs =>
        UInt8.ofNat (p * 4 + q / 16) :: UInt8.ofNat (q % 16 * 16 + r / 4) :: UInt8.ofNat (r % 4 * 64 + t) :: bs := by
  rw [decode]
  simp only [decSextet_encSextet hp, decSextet_encSextet hq, decSextet_encSextet hr, decSextet_encSextet ht,
    encSextet_ne_pad hr, encSextet_ne_pad ht, false_and, if_false]
  cases decode rest <;> rfl

theorem hi_of_join {k lo : Nat} (hi : Nat) (h : lo < k) : (hi * k + lo) / k = hi := by
  rw [Nat.add_comm, Nat.add_mul_div_right _ _ (Nat.zero_lt_of_lt h), Nat.div_eq_of_lt h, Nat.zero_add]

theorem ofNat_join (a : UInt8) (k : Nat) : UInt8.ofNat (a.toNat / k * k + a.toNat % k) = a := by
  rw [Nat.div_add_mod']
  exact UInt8.ofNat_toNat

theorem join_lt {hi lo k m : Nat} (hhi : hi < m) (hlo : lo < k) : hi * k + lo < m * k :=
  calc hi * k + lo < hi * k + k := Nat.add_lt_add_left hlo _
    _ = (hi + 1) * k := (Nat.succ_mul hi k).symm
    _ ≤ m * k := Nat.mul_le_mul_right k hhi

theorem div_lt_of_byte (a : UInt8) {k m : Nat} (h : 256 ≤ k * m) : a.toNat / k < m :=
  Nat.div_lt_of_lt_mul (Nat.lt_of_lt_of_le a.toNat_lt h)

theorem decode_encode (bs : List UInt8) : decode (encode bs) = some bs := by
  fun_induction encode bs with
  | case1 => rfl
  | case2 a =>
    have h1 : a.toNat / 4 < 64 := div_lt_of_byte a (by decide)
    have h2 : a.toNat % 4 * 16 < 64 := join_lt (m := 4) (lo := 0) (Nat.mod_lt _ (by decide)) (by decide)
    rw [decode_pad2 h1 h2, Nat.mul_div_cancel _ (by decide), ofNat_join]
  | case3 a b =>
    have hb : b.toNat / 16 < 16 := div_lt_of_byte b (by decide)
    have h1 : a.toNat / 4 < 64 := div_lt_of_byte a (by decide)
    have h2 : a.toNat % 4 * 16 + b.toNat / 16 < 64 := join_lt (m := 4) (Nat.mod_lt _ (by decide)) hb
    have h3 : b.toNat % 16 * 4 < 64 := join_lt (m := 16) (lo := 0) (Nat.mod_lt _ (by decide)) (by decide)
    rw [decode_pad1 h1 h2 h3, hi_of_join _ hb, Nat.mul_add_mod_of_lt hb, Nat.mul_div_cancel _ (by decide), ofNat_join, ofNat_join]
  | case4 a b c rest ih =>
    have hb : b.toNat / 16 < 16 := div_lt_of_byte b (by decide)
    have hc : c.toNat / 64 < 4 := div_lt_of_byte c (by decide)
    have h1 : a.toNat / 4 < 64 := div_lt_of_byte a (by decide)
    have h2 : a.toNat % 4 * 16 + b.toNat / 16 < 64 := join_lt (m := 4) (Nat.mod_lt _ (by decide)) hb
    have h3 : b.toNat % 16 * 4 + c.toNat / 64 < 64 := join_lt (m := 16) (Nat.mod_lt _ (by decide)) hc
    have h4 : c.toNat % 64 < 64 := Nat.mod_lt _ (by decide)
    rw [decode_quad h1 h2 h3 h4, ih]
    rw [hi_of_join _ hb, Nat.mul_add_mod_of_lt hb, hi_of_join _ hc, Nat.mul_add_mod_of_lt hc, ofNat_join, ofNat_join, ofNat_join]
    rfl

end Replicat.B64
