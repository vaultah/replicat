import ReplicatModel.SigV4
/-! C16: payload lemmas (the body iterator delivers exactly the bytes from the current position to EOF). -/
namespace Replicat.SigV4

theorem chunksFrom_flatten (chunk : Nat) (hc : 0 < chunk) (fuel : Nat) (rest : Bytes) (h : rest.length < fuel) :
    (chunksFrom chunk fuel rest).flatten = rest := by
  have hne : (chunk == 0) = false := beq_false_of_ne (Nat.ne_of_gt hc)
  fun_induction chunksFrom chunk fuel rest with
  | case1 => exact absurd h (Nat.not_lt_zero _)
  | case2 fuel rest hstop =>
    rw [hne, Bool.or_false, List.isEmpty_iff] at hstop
    exact hstop.symm
  | case3 fuel rest hgo ih =>
    rw [hne, Bool.or_false, List.isEmpty_iff] at hgo
    have hlt : (rest.drop chunk).length < fuel := by
      have hpos := List.length_pos_iff.mpr hgo
      rw [List.length_drop]
      omega
    rw [List.flatten_cons, ih hlt]
    exact List.take_append_drop chunk rest

theorem stream_rest_length_lt (s : Stream) : (s.data.drop s.pos).length < s.data.length + 1 := by
  rw [List.length_drop]
  omega

theorem streamBody_eq (chunk : Nat) (hc : 0 < chunk) (s : Stream) : streamBody chunk s = s.data.drop s.pos :=
  chunksFrom_flatten chunk hc _ _ (stream_rest_length_lt s)

theorem uploadStream_eq (c : Crypto) (s : Stream) (length chunk : Nat) (hc : 0 < chunk) :
    uploadStream c s length chunk = ⟨c.sha (s.data.drop s.pos), length, s.data.drop (streamDigest c s).2.pos⟩ := by
  show (⟨_, _, streamBody chunk _⟩ : Put) = _
  rw [streamBody_eq chunk hc]
  rfl

theorem take_flatten_prefix (k : Nat) (l : List Bytes) : (l.take k).flatten <+: l.flatten := by
  refine ⟨(l.drop k).flatten, ?_⟩
  rw [← List.flatten_append, List.take_append_drop]

theorem attemptsWith_rewinding (rew : FaultClass → Bool) (hrew : ∀ k, rew k = true) (to : Nat) (d : Bytes) (length chunk : Nat)
    (hc : 0 < chunk) (faults : List Fault) (s : Stream) (hp : s.pos = to) :
    ∀ a ∈ attemptsWith rew to d length chunk faults s, a.put = ⟨d, length, s.data.drop to⟩ ∧ a.sent <+: s.data.drop to := by
  fun_induction attemptsWith rew to d length chunk faults s with
  | case1 s =>
    intro a ha
    rw [List.mem_singleton.mp ha, streamBody_eq chunk hc, hp]
    exact ⟨rfl, List.prefix_refl _⟩
  | case2 f fs s ih =>
    rw [afterFaultWith, hrew, if_pos rfl] at ih ⊢
    refine List.forall_mem_cons.mpr ⟨⟨by rw [streamBody_eq chunk hc, hp], ?_⟩, ih rfl⟩
    -- `streamBody chunk s` unfolds to `(streamParts chunk s).flatten`
    rw [← hp, ← streamBody_eq chunk hc]
    exact take_flatten_prefix f.pulled (streamParts chunk s)

theorem attemptsWith_length (rew : FaultClass → Bool) (to : Nat) (d : Bytes) (length chunk : Nat) (faults : List Fault) (s : Stream) :
    (attemptsWith rew to d length chunk faults s).length = faults.length + 1 := by
  fun_induction attemptsWith rew to d length chunk faults s with
  | case1 => rfl
  | case2 _ _ _ ih => exact congrArg (· + 1) ih

end Replicat.SigV4
