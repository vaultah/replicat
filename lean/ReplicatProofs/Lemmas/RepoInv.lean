import ReplicatProofs.Lemmas.RepoBasic
/-! The upload loop of `snapshot` seen through `get`; the invariants of the repository state machine (`Consistent`, `Exact`) and
the three ways a store may change that keep `Consistent`: a chunk put, a snapshot put over a complete chunk table, and going
down to a part that keeps what its snapshots reference. -/
namespace Replicat.Repo
open List

theorem uploadChunk_get (u : User) (acc : Store × List Name) (c : Content) (n : Name) :
    get (uploadChunk u acc c).1 n =
      if n = .chunk u.fam c ∧ get acc.1 n = none then some (.chunk u.fam c) else get acc.1 n := by
  unfold uploadChunk
  split
  · rename_i hc
    rw [if_neg]
    rintro ⟨rfl, hn⟩
    rw [hn] at hc
    cases hc
  · rename_i hc
    by_cases hn : n = .chunk u.fam c
    · subst hn
      rw [get_put_same, if_pos ⟨rfl, Option.not_isSome_iff_eq_none.mp hc⟩]
    · rw [get_put_other _ _ _ _ hn, if_neg (fun h => hn h.1)]

theorem uploadChunk_names (u : User) (acc : Store × List Name) (c : Content) (n : Name) :
    n ∈ (uploadChunk u acc c).2 ↔ n ∈ acc.2 ∨ (n = .chunk u.fam c ∧ get acc.1 n = none) := by
  unfold uploadChunk
  split
  · rename_i hc
    refine (or_iff_left ?_).symm
    rintro ⟨rfl, hn⟩
    rw [hn] at hc
    cases hc
  · rename_i hc
    rw [mem_append, mem_singleton]
    refine or_congr_right (iff_self_and.mpr ?_)
    rintro rfl
    exact Option.not_isSome_iff_eq_none.mp hc

/-- objects present before the loop are never replaced (no chunk is overwritten) -/
theorem fold_get_some (u : User) (stream : List Content) (acc : Store × List Name) {n : Name} {o : Obj}
    (h : get acc.1 n = some o) : get (stream.foldl (uploadChunk u) acc).1 n = some o := by
  induction stream generalizing acc with
  | nil => exact h
  | cons c cs ih =>
    apply ih
    rw [uploadChunk_get, if_neg, h]
    rintro ⟨_, hn⟩
    rw [h] at hn
    cases hn

theorem fold_get_other (u : User) (stream : List Content) (acc : Store × List Name) {n : Name}
    (hn : ∀ c ∈ stream, n ≠ .chunk u.fam c) : get (stream.foldl (uploadChunk u) acc).1 n = get acc.1 n := by
  induction stream generalizing acc with
  | nil => rfl
  | cons c cs ih =>
    rw [foldl_cons, ih _ (fun c' hc' => hn c' (mem_cons_of_mem _ hc')), uploadChunk_get,
      if_neg (fun h => hn c mem_cons_self h.1)]

/-- every chunk of the stream is present afterwards, with the old payload if there was one, else with its own content -/
theorem fold_get_stream (u : User) (stream : List Content) (acc : Store × List Name) {c : Content} (hc : c ∈ stream) :
    get (stream.foldl (uploadChunk u) acc).1 (.chunk u.fam c) = some ((get acc.1 (.chunk u.fam c)).getD (.chunk u.fam c)) := by
  induction stream generalizing acc with
  | nil => cases hc
  | cons d ds ih =>
    -- after the round for `d` the name of `c` is either filled (and stays so) or `c` comes later in the stream
    have hstep := uploadChunk_get u acc d (.chunk u.fam c)
    rw [foldl_cons]
    cases hg : get acc.1 (.chunk u.fam c) with
    | some o =>
      rw [hg, if_neg (fun h => by cases h.2)] at hstep
      exact fold_get_some u ds _ hstep
    | none =>
      by_cases hcd : c = d
      · subst hcd
        rw [if_pos ⟨rfl, hg⟩] at hstep
        exact fold_get_some u ds _ hstep
      · rw [if_neg (fun h => hcd (Name.chunk.inj h.1).2), hg] at hstep
        rw [ih _ ((mem_cons.mp hc).resolve_left hcd), hstep]

theorem fold_names (u : User) (stream : List Content) (acc : Store × List Name) (n : Name) :
    n ∈ (stream.foldl (uploadChunk u) acc).2 ↔ n ∈ acc.2 ∨ (∃ c ∈ stream, n = .chunk u.fam c) ∧ get acc.1 n = none := by
  induction stream generalizing acc with
  | nil =>
    refine (or_iff_left ?_).symm
    rintro ⟨⟨c, hc, _⟩, _⟩
    cases hc
  | cons d ds ih =>
    rw [foldl_cons, ih, uploadChunk_names, uploadChunk_get]
    constructor
    · rintro ((h | ⟨rfl, h⟩) | ⟨⟨c, hc, rfl⟩, h⟩)
      · exact Or.inl h
      · exact Or.inr ⟨⟨d, mem_cons_self, rfl⟩, h⟩
      · split at h
        · cases h
        · exact Or.inr ⟨⟨c, mem_cons_of_mem _ hc, rfl⟩, h⟩
    · rintro (h | ⟨⟨c, hc, rfl⟩, h⟩)
      · exact Or.inl (Or.inl h)
      · by_cases hcd : c = d
        · exact Or.inl (Or.inr ⟨hcd ▸ rfl, h⟩)
        · refine Or.inr ⟨⟨c, (mem_cons.mp hc).resolve_left hcd, rfl⟩, ?_⟩
          rw [if_neg (fun h' => hcd (Name.chunk.inj h'.1).2)]
          exact h

/-- nothing is uploaded twice by one (sequential) snapshot -/
theorem fold_names_nodup (u : User) (stream : List Content) (acc : Store × List Name)
    (hnd : acc.2.Nodup) (hpres : ∀ n ∈ acc.2, (get acc.1 n).isSome) :
    (stream.foldl (uploadChunk u) acc).2.Nodup := by
  induction stream generalizing acc with
  | nil => exact hnd
  | cons d ds ih =>
    apply ih
    · unfold uploadChunk
      split
      · exact hnd
      · rename_i hc
        refine nodup_append.mpr ⟨hnd, nodup_cons.mpr ⟨not_mem_nil, nodup_nil⟩, ?_⟩
        intro a ha b hb hab
        rw [mem_singleton.mp hb] at hab
        exact hc (hab ▸ hpres a ha)
    · intro n hn
      rw [uploadChunk_get]
      split
      · rfl
      · rename_i hnew
        exact hpres n (((uploadChunk_names u acc d n).mp hn).resolve_right hnew)

theorem mem_dedupKeepFirstC (l : List Content) (c : Content) : c ∈ dedupKeepFirstC l ↔ c ∈ l := by
  have key : ∀ (l acc : List Content),
      c ∈ l.foldl (fun acc a => if acc.contains a then acc else acc ++ [a]) acc ↔ c ∈ acc ∨ c ∈ l := by
    intro l
    induction l with
    | nil => exact fun acc => (or_iff_left not_mem_nil).symm
    | cons a l ih =>
      intro acc
      rw [foldl_cons, ih, mem_cons, ← or_assoc]
      refine or_congr_left ?_
      split
      · rename_i ha
        refine (or_iff_left_of_imp ?_).symm
        rintro rfl
        exact contains_iff_mem.mp ha
      · rw [mem_append, mem_singleton]
  exact (key l []).trans (or_iff_right not_mem_nil)

/-- a snapshot body as `snapshot` writes it: every file only needs chunks of the table, each path once -/
def BodyOk (b : Body) : Prop := (∀ fr ∈ b.files, ∀ c ∈ fr.needs, c ∈ b.chunks) ∧ (b.files.map (·.path)).Nodup

/-- modelling convention for an unencrypted repository: one family (number 0) — there are no keys, names are plain digests -/
def UserOk (enc : Bool) (u : User) : Prop := enc = false → u.fam = 0

def FamOk (enc : Bool) (s : Store) : Prop := enc = false → ∀ f sid o, get s (.snap f sid) = some o → f = 0

/-- **the safety invariant**: well-formed, and every snapshot object's chunk table entries exist as valid chunk objects of
its own family -/
def Consistent (enc : Bool) (s : Store) : Prop :=
  WF s ∧ FamOk enc s ∧
    ∀ f sid b, get s (.snap f sid) = some (.snap f sid b) →
      (∀ c ∈ b.chunks, get s (.chunk f c) = some (.chunk f c)) ∧ BodyOk b

/-- the chunk objects of family `f` are exactly the chunks referenced by the family's snapshots -/
def Exact (f : Fam) (s : Store) : Prop :=
  ∀ c, (get s (.chunk f c)).isSome ↔ ∃ sid b, get s (.snap f sid) = some (.snap f sid b) ∧ c ∈ b.chunks

def opUser : Op → User
  | .snapshot u .. => u
  | .delete u _ => u
  | .clean u => u

/-- admissible commands: the user respects the unencrypted-repository convention; the files of a snapshot reference chunks
of its own stream (C01) and each path occurs once (C01 `flatten_nodup`) -/
def OpOk (enc : Bool) : Op → Prop
  | .snapshot u stream files _ _ => UserOk enc u ∧ (∀ fr ∈ files, ∀ c ∈ fr.needs, c ∈ stream) ∧ (files.map (·.path)).Nodup
  | .delete u _ => UserOk enc u
  | .clean u => UserOk enc u

/-- a snapshot's id is the digest of its stored bytes: a new snapshot never reuses the name of a present one -/
def FreshOp (s : Store) : Op → Prop
  | .snapshot u _ _ _ sid => get s (.snap u.fam sid) = none
  | _ => True

def initStore : Store := [(.config, .config)]

theorem visible_fam {enc : Bool} {u : User} {f : Fam} {s : Store} {sid : Nat} {o : Obj} (hu : UserOk enc u) (hf : FamOk enc s)
    (hg : get s (.snap f sid) = some o) (hv : visible enc u f = true) : f = u.fam := by
  cases enc with
  | true => exact beq_iff_eq.mp hv
  | false => rw [hf rfl f sid o hg, hu rfl]

theorem visible_own (enc : Bool) (u : User) : visible enc u u.fam = true := by
  unfold visible
  rw [beq_self_eq_true, Bool.or_true]

theorem Consistent.put_chunk {enc : Bool} {s : Store} (h : Consistent enc s) (f : Fam) (c : Content) :
    Consistent enc (put s (.chunk f c) (.chunk f c)) := by
  obtain ⟨hwf, hfam, href⟩ := h
  have hsnap : ∀ f' sid, get (put s (.chunk f c) (.chunk f c)) (.snap f' sid) = get s (.snap f' sid) :=
    fun f' sid => get_put_other _ _ _ _ Name.noConfusion
  refine ⟨hwf.put _ _ ⟨rfl, rfl⟩, ?_, ?_⟩
  · intro he f' sid o hg
    rw [hsnap] at hg
    exact hfam he f' sid o hg
  · intro f' sid b hg
    rw [hsnap] at hg
    obtain ⟨h1, h2⟩ := href f' sid b hg
    refine ⟨fun c' hc' => ?_, h2⟩
    by_cases hn : Name.chunk f' c' = Name.chunk f c
    · cases hn
      exact get_put_same _ _ _
    · rw [get_put_other _ _ _ _ hn]
      exact h1 c' hc'

theorem Consistent.put_snap {enc : Bool} {s : Store} (h : Consistent enc s) {f : Fam} {sid : Nat} {b : Body} (hb : BodyOk b)
    (hf : enc = false → f = 0) (hs : ∀ c ∈ b.chunks, get s (.chunk f c) = some (.chunk f c)) :
    Consistent enc (put s (.snap f sid) (.snap f sid b)) := by
  obtain ⟨hwf, hfam, href⟩ := h
  have hchunk : ∀ f' c, get (put s (.snap f sid) (.snap f sid b)) (.chunk f' c) = get s (.chunk f' c) :=
    fun f' c => get_put_other _ _ _ _ Name.noConfusion
  refine ⟨hwf.put _ _ ⟨rfl, rfl⟩, ?_, ?_⟩
  · intro he f' sid' o hg
    by_cases hn : Name.snap f' sid' = Name.snap f sid
    · cases hn
      exact hf he
    · rw [get_put_other _ _ _ _ hn] at hg
      exact hfam he f' sid' o hg
  · intro f' sid' b' hg
    by_cases hn : Name.snap f' sid' = Name.snap f sid
    · cases hn
      rw [get_put_same] at hg
      cases hg
      exact ⟨fun c hc => (hchunk _ c).trans (hs c hc), hb⟩
    · rw [get_put_other _ _ _ _ hn] at hg
      obtain ⟨h1, h2⟩ := href f' sid' b' hg
      exact ⟨fun c hc => (hchunk f' c).trans (h1 c hc), h2⟩

theorem Consistent.of_gc {enc : Bool} {s s' : Store} (h : Consistent enc s) (hwf : WF s')
    (hsnap : ∀ f sid o, get s' (.snap f sid) = some o → get s (.snap f sid) = some o)
    (hchunk : ∀ f sid b, get s' (.snap f sid) = some (.snap f sid b) → ∀ c ∈ b.chunks, get s' (.chunk f c) = get s (.chunk f c)) :
    Consistent enc s' := by
  obtain ⟨_, hfam, href⟩ := h
  refine ⟨hwf, fun he f sid o hg => hfam he f sid o (hsnap f sid o hg), ?_⟩
  intro f sid b hg
  obtain ⟨h1, h2⟩ := href f sid b (hsnap f sid _ hg)
  exact ⟨fun c hc => (hchunk f sid b hg c hc).trans (h1 c hc), h2⟩

theorem snapshot_get_snapname (u : User) (stream : List Content) (files : List FileRec) (ts sid : Nat) (s : Store) :
    get (snapshot u stream files ts sid s).1 (.snap u.fam sid) = some (.snap u.fam sid ⟨u.key, ts, dedupKeepFirstC stream, files⟩) :=
  get_put_same _ _ _

theorem snapshot_get_other (u : User) (stream : List Content) (files : List FileRec) (ts sid : Nat) (s : Store) {n : Name}
    (hn : n ≠ .snap u.fam sid) : get (snapshot u stream files ts sid s).1 n = get (stream.foldl (uploadChunk u) (s, [])).1 n :=
  get_put_other _ _ _ _ hn

theorem snapshot_get_snap_other (u : User) (stream : List Content) (files : List FileRec) (ts sid : Nat) (s : Store) {f : Fam} {sid' : Nat}
    (hn : Name.snap f sid' ≠ .snap u.fam sid) : get (snapshot u stream files ts sid s).1 (.snap f sid') = get s (.snap f sid') := by
  rw [snapshot_get_other u stream files ts sid s hn, fold_get_other]
  exact fun _ _ => Name.noConfusion

theorem snapshot_get_chunk (u : User) (stream : List Content) (files : List FileRec) (ts sid : Nat) (s : Store) (f : Fam) (c : Content) :
    get (snapshot u stream files ts sid s).1 (.chunk f c) = get (stream.foldl (uploadChunk u) (s, [])).1 (.chunk f c) :=
  snapshot_get_other u stream files ts sid s Name.noConfusion

theorem snapshot_chunk_present (u : User) (stream : List Content) (files : List FileRec) (ts sid : Nat) (s : Store) (f : Fam) (c : Content) :
    (get (snapshot u stream files ts sid s).1 (.chunk f c)).isSome ↔ (get s (.chunk f c)).isSome ∨ (f = u.fam ∧ c ∈ stream) := by
  rw [snapshot_get_chunk]
  by_cases h : f = u.fam ∧ c ∈ stream
  · obtain ⟨rfl, hc⟩ := h
    rw [fold_get_stream u stream (s, []) hc]
    exact iff_of_true rfl (Or.inr ⟨rfl, hc⟩)
  · rw [fold_get_other u stream (s, []), or_iff_left h]
    intro c' hc' heq
    cases heq
    exact h ⟨rfl, hc'⟩

theorem snapshot_uploaded_iff (u : User) (stream : List Content) (files : List FileRec) (ts sid : Nat) (s : Store) (n : Name) :
    n ∈ (snapshot u stream files ts sid s).2 ↔ (∃ c ∈ stream, n = .chunk u.fam c) ∧ get s n = none :=
  (fold_names u stream (s, []) n).trans (or_iff_right not_mem_nil)

theorem fold_consistent {enc : Bool} (u : User) (stream : List Content) (acc : Store × List Name) (h : Consistent enc acc.1) :
    Consistent enc (stream.foldl (uploadChunk u) acc).1 := by
  induction stream generalizing acc with
  | nil => exact h
  | cons c cs ih =>
    apply ih
    unfold uploadChunk
    split
    · exact h
    · exact h.put_chunk u.fam c

end Replicat.Repo
