import ReplicatProofs.Lemmas.LocalUpload
/-! Lemmas for two concurrent uploads of one object (`LocalUpload.lean`, section "duel"; C03). -/
namespace Replicat.LocalUpload
open List

/-- what every observer may see: the old map, or the old map with ONE of the payloads `ds` put atomically under `name` -/
def Vis (fs0 : FS) (name : Path) (ds : List Bytes) (fs : FS) : Prop :=
  (∀ n, vget fs n = vget fs0 n) ∨ ∃ d, d ∈ ds ∧ ∀ n, vget fs n = vget (putObj fs0 name d) n

/-- the worker's own temporary holds exactly what the worker has written so far (nobody else touched it) -/
def Own (c : UpCfg) (s : UpSt) (fs : FS) : Prop :=
  match s with
  | .opened w todo => lookup fs.files c.tmp = some w ∧ w ++ todo.flatten = c.pieces.flatten
  | _ => True

theorem vis_congr {fs0 fs fs' : FS} {name : Path} {ds : List Bytes} (h : ∀ n, vget fs' n = vget fs n) (hv : Vis fs0 name ds fs) :
    Vis fs0 name ds fs' := by
  rcases hv with hv | ⟨d, hd, hv⟩
  · exact Or.inl (fun n => (h n).trans (hv n))
  · exact Or.inr ⟨d, hd, fun n => (h n).trans (hv n)⟩

theorem own_congr {c : UpCfg} {s : UpSt} {fs fs' : FS} (h : lookup fs'.files c.tmp = lookup fs.files c.tmp) (ho : Own c s fs) :
    Own c s fs' := by
  cases s with
  | opened w todo => exact ⟨h.trans ho.1, ho.2⟩
  | init => trivial
  | made => trivial
  | done => trivial

theorem vis_off_name (fs0 fs : FS) (name : Path) (ds : List Bytes) (hv : Vis fs0 name ds fs) (n : Path) (h : n ≠ name) :
    vget fs n = vget fs0 n := by
  rcases hv with hv | ⟨d, _, hv⟩
  · exact hv n
  · rw [hv n, vget_putObj, if_neg h]

theorem next_cases (c : UpCfg) (s sn : UpSt) (st : Step) (h : s.next c = some (st, sn)) :
    TmpOnly c.tmp st ∨ ∃ w, s = .opened w [] ∧ st = .rename c.tmp c.name ∧ sn = .done := by
  cases s with
  | init => cases h; exact Or.inl trivial
  | made => cases h; exact Or.inl rfl
  | opened w todo =>
    cases todo with
    | cons p ps => cases h; exact Or.inl rfl
    | nil => cases h; exact Or.inr ⟨w, rfl, rfl, rfl⟩
  | done => cases h

theorem own_next (c : UpCfg) (s sn : UpSt) (st : Step) (fs : FS) (h : s.next c = some (st, sn)) (ho : Own c s fs) :
    Own c sn (apply fs st) := by
  cases s with
  | init => cases h; trivial
  | made => cases h; exact ⟨(lookup_setFile ..).trans (if_pos rfl), rfl⟩
  | opened w todo =>
    cases todo with
    | cons p ps =>
      cases h
      refine ⟨?_, ?_⟩
      · rw [apply, ho.1]
        exact (lookup_setFile ..).trans (if_pos rfl)
      · rw [← ho.2, flatten_cons, append_assoc]
    | nil => cases h; trivial
  | done => cases h

/-- ONE step of the worker that moves keeps: the visible map in `Vis`, its own temporary as it left it, the other worker's
temporary untouched — provided the two temporaries differ. -/
theorem mover_step (fs0 fs : FS) (name : Path) (ds : List Bytes) (c c' : UpCfg) (s s' : UpSt)
    (hname : c.name = name) (hnt : isTmp name = false) (ht : isTmp c.tmp = true) (ht' : isTmp c'.tmp = true)
    (hne : c'.tmp ≠ c.tmp) (hd : c.pieces.flatten ∈ ds)
    (hv : Vis fs0 name ds fs) (ho : Own c s fs) (ho' : Own c' s' fs) (st : Step) (sn : UpSt) (h : s.next c = some (st, sn)) :
    Vis fs0 name ds (apply fs st) ∧ Own c sn (apply fs st) ∧ Own c' s' (apply fs st) := by
  rcases next_cases c s sn st h with htmp | ⟨w, rfl, rfl, rfl⟩
  · exact ⟨vis_congr (vget_apply_tmpOnly fs c.tmp ht st htmp) hv, own_next c s sn st fs h ho,
      own_congr (lookup_apply_tmpOnly fs c.tmp c'.tmp st htmp hne) ho'⟩
  · have hw : w = c.pieces.flatten := by simpa using ho.2
    have hne' : c'.tmp ≠ c.name := fun e => by rw [e, hname, hnt] at ht'; cases ht'
    refine ⟨Or.inr ⟨c.pieces.flatten, hd, fun n => ?_⟩, trivial,
      own_congr (lookup_apply_rename fs c.tmp c.name c'.tmp hne hne') ho'⟩
    rw [hname, vget_rename fs c.tmp name w ht hnt ho.1 n, hw]
    exact vget_putObj_agree fs fs0 name _ (vis_off_name fs0 fs name ds hv) n

def DuelInv (fs0 : FS) (name : Path) (c0 c1 : UpCfg) (d : Duel) : Prop :=
  Vis fs0 name [c0.pieces.flatten, c1.pieces.flatten] d.fs ∧ Own c0 d.s0 d.fs ∧ Own c1 d.s1 d.fs

section duel
variable (fs0 : FS) (name : Path) (c0 c1 : UpCfg) (h0 : c0.name = name) (h1 : c1.name = name)
  (hnt : isTmp name = false) (ht0 : isTmp c0.tmp = true) (ht1 : isTmp c1.tmp = true) (hne : c0.tmp ≠ c1.tmp)
include h0 h1 hnt ht0 ht1 hne

theorem duelStep_inv (d : Duel) (w : Bool) (hi : DuelInv fs0 name c0 c1 d) : DuelInv fs0 name c0 c1 (duelStep c0 c1 d w) := by
  obtain ⟨hv, ho0, ho1⟩ := hi
  unfold duelStep
  cases w with
  | true =>
    rw [if_pos rfl]
    cases hn : d.s1.next c1 with
    | none => exact ⟨hv, ho0, ho1⟩
    | some r =>
      obtain ⟨a, b, c⟩ := mover_step fs0 d.fs name _ c1 c0 d.s1 d.s0 h1 hnt ht1 ht0 hne (mem_cons_of_mem _ mem_cons_self)
        hv ho1 ho0 r.1 r.2 hn
      exact ⟨a, c, b⟩
  | false =>
    rw [if_neg Bool.false_ne_true]
    cases hn : d.s0.next c0 with
    | none => exact ⟨hv, ho0, ho1⟩
    | some r => exact mover_step fs0 d.fs name _ c0 c1 d.s0 d.s1 h0 hnt ht0 ht1 (Ne.symm hne) mem_cons_self hv ho0 ho1 r.1 r.2 hn

theorem duelRun_inv (sched : List Bool) : DuelInv fs0 name c0 c1 (duelRun c0 c1 fs0 sched) := by
  have gen : ∀ d, DuelInv fs0 name c0 c1 d → DuelInv fs0 name c0 c1 (sched.foldl (duelStep c0 c1) d) := by
    induction sched with
    | nil => exact fun d hd => hd
    | cons w ws ih => exact fun d hd => ih _ (duelStep_inv fs0 name c0 c1 h0 h1 hnt ht0 ht1 hne d w hd)
  exact gen _ ⟨Or.inl (fun _ => rfl), trivial, trivial⟩

end duel

theorem rest_init (c : UpCfg) : UpSt.rest c .init = uploadSteps c.dir c.name c.tmp c.pieces := rfl

theorem rest_eq_next (c : UpCfg) (s : UpSt) :
    s.rest c = match s.next c with
      | some (st, s') => st :: s'.rest c
      | none => [] := by
  cases s with
  | init => rfl
  | made => rfl
  | opened w todo => cases todo <;> rfl
  | done => rfl

theorem solo_rest (c0 c1 : UpCfg) (s1 : UpSt) (k : Nat) : ∀ (s : UpSt) (fs : FS),
    ((replicate k false).foldl (duelStep c0 c1) ⟨fs, s, s1⟩).fs = run fs ((s.rest c0).take k) := by
  induction k with
  | zero => intro s fs; rfl
  | succ k ih =>
    intro s fs
    have hr := rest_eq_next c0 s
    rw [replicate_succ, foldl_cons, duelStep, if_neg Bool.false_ne_true]
    cases hn : s.next c0 with
    | none =>
      rw [hn] at hr
      rw [ih, hr, take_nil, take_nil]
    | some r =>
      rw [hn] at hr
      rw [hr, take_succ_cons]
      exact ih r.2 (apply fs r.1)

end Replicat.LocalUpload
