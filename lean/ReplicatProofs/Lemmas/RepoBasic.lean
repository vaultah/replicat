import ReplicatModel.Repo
import ReplicatProofs.Lemmas.Common
/-! The object map (`get` / `put` / `del`), well-formedness, and loading under well-formedness.
`del`, `delAll` (and `famPart` of C06) are filters on the key: one `get` lemma and one sublist lemma serve them all. -/
namespace Replicat.P18
open List

theorem filterMap_congr' {α β : Type} {f g : α → Option β} {l : List α} (h : ∀ x ∈ l, f x = g x) :
    l.filterMap f = l.filterMap g := by
  induction l with
  | nil => rfl
  | cons a l ih =>
    rw [filterMap_cons, filterMap_cons, h a mem_cons_self, ih (fun x hx => h x (mem_cons_of_mem _ hx))]

end Replicat.P18

namespace Replicat.Repo
open List

theorem get_eq_lookup (s : Store) (n : Name) : get s n = s.lookup n :=
  find?_key_eq_lookup s n

theorem get_cons (e : Name × Obj) (s : Store) (n : Name) : get (e :: s) n = if e.1 = n then some e.2 else get s n := by
  rw [get_eq_lookup, get_eq_lookup]
  exact lookup_cons_eq_ite e s n

theorem get_filter (p : Name → Bool) (s : Store) (n : Name) :
    get (s.filter (fun e => p e.1)) n = if p n = true then get s n else none := by
  rw [get_eq_lookup, get_eq_lookup]
  exact lookup_filter_key p s n

theorem get_del_same (s : Store) (n : Name) : get (del s n) n = none := by
  refine (get_filter (fun m => !(m == n)) s n).trans (if_neg ?_)
  simp only [beq_self_eq_true, Bool.not_true, Bool.false_eq_true, not_false_eq_true]

theorem get_del_other (s : Store) (n m : Name) (h : m ≠ n) : get (del s n) m = get s m := by
  refine (get_filter (fun m => !(m == n)) s m).trans (if_pos ?_)
  simp only [Bool.not_eq_true', beq_eq_false_iff_ne, ne_eq, h, not_false_eq_true]

theorem get_put_same (s : Store) (n : Name) (o : Obj) : get (put s n o) n = some o := by
  unfold put
  rw [get_cons, if_pos rfl]

theorem get_put_other (s : Store) (n m : Name) (o : Obj) (h : m ≠ n) : get (put s n o) m = get s m := by
  unfold put
  rw [get_cons, if_neg (Ne.symm h), get_del_other s n m h]

theorem delAll_eq_filter (s : Store) (ns : List Name) : delAll s ns = s.filter (fun e => !ns.contains e.1) := by
  unfold delAll
  induction ns generalizing s with
  | nil => exact (filter_eq_self.mpr (fun _ _ => rfl)).symm
  | cons n ns ih =>
    rw [foldl_cons, ih, del, filter_filter]
    apply filter_congr
    intro e _
    rw [contains_cons, Bool.not_or, Bool.and_comm]

theorem get_delAll (s : Store) (ns : List Name) (m : Name) : get (delAll s ns) m = if m ∈ ns then none else get s m := by
  rw [delAll_eq_filter, get_filter (fun k => !ns.contains k)]
  simp only [Bool.not_eq_true', ← Bool.not_eq_true, contains_iff_mem, ite_not]

def NoDupKeys (s : Store) : Prop := (s.map (·.1)).Nodup

theorem mem_del (s : Store) (n : Name) (e : Name × Obj) : e ∈ del s n ↔ e ∈ s ∧ e.1 ≠ n := by
  unfold del
  rw [mem_filter, Bool.not_eq_true', beq_eq_false_iff_ne]

theorem NoDupKeys.sublist {s s' : Store} (h : NoDupKeys s) (hs : s' <+ s) : NoDupKeys s' :=
  Nodup.sublist (hs.map _) h

theorem NoDupKeys.del {s : Store} (h : NoDupKeys s) (n : Name) : NoDupKeys (del s n) :=
  h.sublist filter_sublist

theorem NoDupKeys.put {s : Store} (h : NoDupKeys s) (n : Name) (o : Obj) : NoDupKeys (put s n o) := by
  unfold NoDupKeys Repo.put
  rw [map_cons, nodup_cons]
  refine ⟨?_, h.del n⟩
  intro hmem
  obtain ⟨e, he, hen⟩ := mem_map.mp hmem
  exact ((mem_del s n e).mp he).2 hen

theorem NoDupKeys.delAll {s : Store} (h : NoDupKeys s) (ns : List Name) : NoDupKeys (delAll s ns) := by
  rw [delAll_eq_filter]
  exact h.sublist filter_sublist

theorem get_of_mem {s : Store} (h : NoDupKeys s) {e : Name × Obj} (he : e ∈ s) : get s e.1 = some e.2 :=
  (get_eq_lookup s e.1).trans (lookup_eq_some_of_mem h he)

theorem mem_of_get {s : Store} {n : Name} {o : Obj} (h : get s n = some o) : (n, o) ∈ s :=
  mem_of_lookup_eq_some ((get_eq_lookup s n).symm.trans h)

theorem mem_iff_get {s : Store} (h : NoDupKeys s) (n : Name) (o : Obj) : (n, o) ∈ s ↔ get s n = some o :=
  ⟨fun he => get_of_mem h he, mem_of_get⟩

def Matches : Name → Obj → Prop
  | .config, .config => True
  | .chunk f c, .chunk f' c' => f' = f ∧ c' = c
  | .snap f sid, .snap f' sid' _ => f' = f ∧ sid' = sid
  | .other _, .blob _ => True
  | _, _ => False

instance (n : Name) (o : Obj) : Decidable (Matches n o) := by
  cases n <;> cases o <;> unfold Matches <;> infer_instance

/-- every stored object is what its name says (no corruption / substitution — those are C04) and keys are unique -/
def WF (s : Store) : Prop := NoDupKeys s ∧ ∀ e ∈ s, Matches e.1 e.2

theorem WF.sublist {s s' : Store} (h : WF s) (hs : s' <+ s) : WF s' :=
  ⟨h.1.sublist hs, fun e he => h.2 e (hs.subset he)⟩

theorem WF.del {s : Store} (h : WF s) (n : Name) : WF (del s n) :=
  h.sublist filter_sublist

theorem WF.delAll {s : Store} (h : WF s) (ns : List Name) : WF (delAll s ns) := by
  rw [delAll_eq_filter]
  exact h.sublist filter_sublist

theorem WF.put {s : Store} (h : WF s) (n : Name) (o : Obj) (hm : Matches n o) : WF (put s n o) := by
  refine ⟨h.1.put n o, ?_⟩
  intro e he
  rcases mem_cons.mp he with rfl | he'
  · exact hm
  · exact (h.del n).2 e he'

theorem WF.get_chunk {s : Store} (h : WF s) {f : Fam} {c : Content} {o : Obj} (hg : get s (.chunk f c) = some o) :
    o = .chunk f c := by
  have hm := h.2 _ (mem_of_get hg)
  cases o with
  | chunk f' c' =>
    obtain ⟨rfl, rfl⟩ := hm
    rfl
  | _ => exact False.elim hm

theorem WF.getD_chunk {s : Store} (h : WF s) (f : Fam) (c : Content) :
    (get s (.chunk f c)).getD (.chunk f c) = .chunk f c := by
  cases hg : get s (.chunk f c) with
  | none => rfl
  | some o => exact h.get_chunk hg

theorem WF.get_snap {s : Store} (h : WF s) {f : Fam} {sid : Nat} {o : Obj} (hg : get s (.snap f sid) = some o) :
    ∃ b, o = .snap f sid b := by
  have hm := h.2 _ (mem_of_get hg)
  cases o with
  | snap f' sid' b =>
    obtain ⟨rfl, rfl⟩ := hm
    exact ⟨b, rfl⟩
  | _ => exact False.elim hm

theorem fold_wf (u : User) (stream : List Content) (acc : Store × List Name) (h : WF acc.1) :
    WF (stream.foldl (uploadChunk u) acc).1 := by
  induction stream generalizing acc with
  | nil => exact h
  | cons c cs ih =>
    apply ih
    unfold uploadChunk
    split
    · exact h
    · exact h.put _ _ ⟨rfl, rfl⟩

theorem snapshot_wf (u : User) (stream : List Content) (files : List FileRec) (ts sid : Nat) (s : Store) (h : WF s) :
    WF (snapshot u stream files ts sid s).1 :=
  (fold_wf u stream (s, []) h).put _ _ ⟨rfl, rfl⟩

theorem deleteSnapshots_wf {enc : Bool} {u : User} {sids : List Nat} {s s' : Store} (h : WF s)
    (hd : deleteSnapshots enc u sids s = .ok s') : WF s' := by
  unfold deleteSnapshots at hd
  split at hd
  · cases hd
  · cases hd
    exact (h.delAll _).delAll _

theorem clean_wf {enc : Bool} {u : User} {s s' : Store} (h : WF s) (hd : clean enc u s = .ok s') : WF s' := by
  unfold clean at hd
  split at hd
  · cases hd
  · cases hd
    exact h.delAll _

theorem step_cases {enc : Bool} {s : Store} {P : Store → Prop} (op : Op) (h0 : P s)
    (hsnap : ∀ u stream files ts sid, op = .snapshot u stream files ts sid → P (snapshot u stream files ts sid s).1)
    (hdel : ∀ u sids s', op = .delete u sids → deleteSnapshots enc u sids s = .ok s' → P s')
    (hclean : ∀ u s', op = .clean u → clean enc u s = .ok s' → P s') : P (step enc s op) := by
  cases op with
  | snapshot u stream files ts sid => exact hsnap u stream files ts sid rfl
  | delete u sids =>
    show P (match deleteSnapshots enc u sids s with | .ok s' => s' | .error _ => s)
    cases hd : deleteSnapshots enc u sids s with
    | ok s' => exact hdel u sids s' rfl hd
    | error e => exact h0
  | clean u =>
    show P (match clean enc u s with | .ok s' => s' | .error _ => s)
    cases hd : clean enc u s with
    | ok s' => exact hclean u s' rfl hd
    | error e => exact h0

def toLoaded (enc : Bool) (u : User) (f : Fam) (sid : Nat) (b : Body) : Loaded :=
  ⟨f, sid, b.chunks, if !enc || b.owner == u.key then some b else none⟩

theorem toLoaded_data (enc : Bool) (u : User) (f : Fam) (sid : Nat) (b : Body) :
    (toLoaded enc u f sid b).data = if (!enc || b.owner == u.key) = true then some b else none := rfl

/-- the snapshots a user's command sees -/
def loadedPure (enc : Bool) (u : User) (re : Nat → Bool) (s : Store) : List Loaded :=
  s.filterMap fun e =>
    match e.1, e.2 with
    | .snap f sid, .snap _ _ b => if re sid && visible enc u f then some (toLoaded enc u f sid b) else none
    | _, _ => none

theorem sequenceE_map_ok {ε α : Type} (l : List α) : sequenceE (l.map (fun a => (Except.ok a : Except ε α))) = .ok l := by
  induction l with
  | nil => rfl
  | cons a l ih =>
    rw [map_cons, sequenceE, ih]

theorem loadOne_snap (enc : Bool) (u : User) (f : Fam) (sid : Nat) (b : Body) :
    loadOne enc u f sid (.snap f sid b) = .ok (toLoaded enc u f sid b) := by
  simp only [loadOne, beq_self_eq_true, Bool.and_self, if_true, toLoaded]

theorem loadCandidates_wf (enc : Bool) (u : User) (re : Nat → Bool) (s : Store) (h : ∀ e ∈ s, Matches e.1 e.2) :
    loadCandidates enc u re s = (loadedPure enc u re s).map Except.ok := by
  unfold loadCandidates loadedPure
  rw [map_filterMap]
  apply P18.filterMap_congr'
  -- a snapshot name holds a snapshot object of that name, which `loadOne` accepts
  rintro ⟨n, o⟩ he
  have hm := h _ he
  cases n with
  | snap f sid =>
    cases o with
    | snap f' sid' b =>
      obtain ⟨rfl, rfl⟩ := hm
      dsimp only
      rw [loadOne_snap]
      split <;> rfl
    | _ => exact False.elim hm
  | _ => rfl

theorem loadSnapshots_wf (enc : Bool) (u : User) (re : Nat → Bool) (s : Store) (h : WF s) :
    loadSnapshots enc u re s = .ok (loadedPure enc u re s) := by
  unfold loadSnapshots
  rw [loadCandidates_wf enc u re s h.2, sequenceE_map_ok]

theorem toLoaded_mem {enc : Bool} {u : User} {re : Nat → Bool} {s : Store} {f : Fam} {sid : Nat} {b : Body}
    (hg : get s (.snap f sid) = some (.snap f sid b)) (hre : re sid = true) (hvis : visible enc u f = true) :
    toLoaded enc u f sid b ∈ loadedPure enc u re s := by
  unfold loadedPure
  refine mem_filterMap.mpr ⟨(.snap f sid, .snap f sid b), mem_of_get hg, ?_⟩
  dsimp only
  rw [hre, hvis]
  rfl

theorem mem_loadedPure {enc : Bool} {u : User} {re : Nat → Bool} {s : Store} (h : WF s) {l : Loaded} :
    l ∈ loadedPure enc u re s ↔
      ∃ b, get s (.snap l.fam l.sid) = some (.snap l.fam l.sid b) ∧ re l.sid = true ∧ visible enc u l.fam = true ∧
        l = toLoaded enc u l.fam l.sid b := by
  constructor
  · intro hl
    unfold loadedPure at hl
    obtain ⟨⟨n, o⟩, he, hl⟩ := mem_filterMap.mp hl
    have hm := h.2 _ he
    cases n with
    | snap f sid =>
      cases o with
      | snap f' sid' b =>
        obtain ⟨rfl, rfl⟩ := hm
        dsimp only at hl
        split at hl
        · rename_i hc
          cases hl
          rw [Bool.and_eq_true] at hc
          exact ⟨b, get_of_mem h.1 he, hc.1, hc.2, rfl⟩
        · cases hl
      | _ => exact False.elim hm
    | _ => cases hl
  · rintro ⟨b, hg, hre, hvis, hl⟩
    rw [hl]
    exact toLoaded_mem hg hre hvis

theorem loadedPure_filter (enc : Bool) (u : User) (re : Nat → Bool) (s : Store) :
    loadedPure enc u re s = (loadedPure enc u (fun _ => true) s).filter (fun l => re l.sid) := by
  unfold loadedPure
  rw [filter_filterMap]
  apply P18.filterMap_congr'
  rintro ⟨n, o⟩ _
  cases n with
  | snap f sid =>
    cases o with
    | snap f' sid' b =>
      dsimp only
      cases visible enc u f with
      | false =>
        rw [Bool.and_false, Bool.and_false]
        rfl
      | true =>
        rw [Bool.and_true, Bool.and_true, if_pos rfl, Option.filter_some]
        rfl
    | _ => rfl
  | _ => rfl

end Replicat.Repo
