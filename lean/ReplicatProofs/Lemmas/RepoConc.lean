import ReplicatModel.RepoConc
import ReplicatProofs.Lemmas.RepoSafety
/-! The concurrent semantics of `ReplicatModel/RepoConc.lean` as a relation (`CStep` = what an accepted `cstep` did), induction
principles over accepted traces, and the basic invariant of overlapping snapshot commands (`ConcInv`): the store is consistent
and every chunk of every command's data is still to be observed, or held by a worker that saw it absent, or stored.
Used by C02 and C07. -/
namespace Replicat.Repo
open List

instance decUserOk (enc : Bool) (u : User) : Decidable (UserOk enc u) := by
  unfold UserOk
  infer_instance

instance decOpOk (enc : Bool) : (op : Op) → Decidable (OpOk enc op)
  | .snapshot u stream files _ _ => by unfold OpOk; infer_instance
  | .delete u _ => by unfold OpOk; infer_instance
  | .clean u => by unfold OpOk; infer_instance

theorem run_consistent {enc : Bool} {s : Store} {ops : List Op} (h : Consistent enc s) (hops : ∀ op ∈ ops, OpOk enc op) :
    Consistent enc (run enc s ops) := by
  induction ops generalizing s with
  | nil => exact h
  | cons op ops ih =>
    exact ih (step_consistent h (hops op mem_cons_self)) (fun o ho => hops o (mem_cons_of_mem _ ho))

theorem set_lookup {α : Type} {l : List α} {i j : Nat} {a x : α} (h : (l.set i a)[j]? = some x) :
    (j = i ∧ x = a) ∨ (j ≠ i ∧ l[j]? = some x) := by
  by_cases hij : i = j
  · subst hij
    rw [getElem?_set_self'] at h
    obtain ⟨_, _, rfl⟩ := Option.map_eq_some_iff.mp h
    exact Or.inl ⟨rfl, rfl⟩
  · rw [getElem?_set_ne hij] at h
    exact Or.inr ⟨fun e => hij e.symm, h⟩

theorem set_lookup_self {α : Type} {l : List α} {i : Nat} {a x : α} (h : l[i]? = some x) : (l.set i a)[i]? = some a := by
  rw [getElem?_set_self', h]
  rfl

theorem set_lookup_ne {α : Type} {l : List α} {i j : Nat} {a : α} (h : j ≠ i) : (l.set i a)[j]? = l[j]? :=
  getElem?_set_ne (fun e => h e.symm)

theorem forall_set {α β : Type} {l : List α} {m : List β} {P Q : Nat → α → β → Prop} {i : Nat} {a : α} {b' : β}
    (ha : l[i]? = some a) (hall : ∀ j x y, l[j]? = some x → m[j]? = some y → P j x y) (hact : Q i a b')
    (hframe : ∀ j x y, j ≠ i → P j x y → Q j x y) :
    ∀ j x y, l[j]? = some x → (m.set i b')[j]? = some y → Q j x y := by
  intro j x y hx hy
  rcases set_lookup hy with ⟨rfl, rfl⟩ | ⟨hne, hold⟩
  · rw [ha] at hx
    cases hx
    exact hact
  · exact hframe j x y hne (hall j x y hx hold)

/-- what an accepted backend call did -/
inductive CStep (cmds : List SnapCmd) : CState → Ev → CState → Prop
  | exists {st : CState} {i : Nat} {c : Content} {r : Bool} {cmd : SnapCmd} {p : Prog} :
      cmds[i]? = some cmd → st.progs[i]? = some p → c ∈ window cmd p → r = (get st.store (.chunk cmd.u.fam c)).isSome →
      CStep cmds st (.exists i c r) ⟨st.store, st.progs.set i ⟨p.todo.erase c, if r then p.pending else p.pending ++ [c], p.done⟩⟩
  | upload {st : CState} {i : Nat} {c : Content} {cmd : SnapCmd} {p : Prog} :
      cmds[i]? = some cmd → st.progs[i]? = some p → c ∈ p.pending →
      CStep cmds st (.upload i (.chunk cmd.u.fam c) (.chunk cmd.u.fam c))
        ⟨put st.store (.chunk cmd.u.fam c) (.chunk cmd.u.fam c), st.progs.set i ⟨p.todo, p.pending.erase c, p.done⟩⟩
  | commit {st : CState} {i : Nat} {cmd : SnapCmd} {p : Prog} :
      cmds[i]? = some cmd → st.progs[i]? = some p → p.todo = [] → p.pending = [] → p.done = false →
      CStep cmds st (.commit i) ⟨put st.store cmd.name cmd.obj, st.progs.set i ⟨[], [], true⟩⟩
  | read {st : CState} {q : Query} : CStep cmds st (.read q) st

theorem cstep_sound {cmds : List SnapCmd} {st st' : CState} {e : Ev} (h : cstep cmds st e = some st') : CStep cmds st e st' := by
  cases e with
  | «exists» i c r =>
    simp only [cstep] at h
    split at h
    · rename_i cmd p hc hp
      split at h
      · rename_i hcond
        simp only [Bool.and_eq_true, beq_iff_eq, contains_iff_mem] at hcond
        cases h
        exact CStep.exists hc hp hcond.1 hcond.2
      · cases h
    · cases h
  | upload i n o =>
    simp only [cstep] at h
    split at h
    · rename_i cmd p hc hp
      split at h
      · rename_i f c f' c'
        split at h
        · rename_i hcond
          simp only [Bool.and_eq_true, beq_iff_eq, contains_iff_mem] at hcond
          obtain ⟨⟨⟨rfl, rfl⟩, rfl⟩, hm⟩ := hcond
          cases h
          exact CStep.upload hc hp hm
        · cases h
      · cases h
    · cases h
  | commit i =>
    simp only [cstep] at h
    split at h
    · rename_i cmd p hc hp
      split at h
      · rename_i hcond
        simp only [Bool.and_eq_true, isEmpty_iff, Bool.not_eq_true'] at hcond
        cases h
        exact CStep.commit hc hp hcond.1.1 hcond.1.2 hcond.2
      · cases h
    · cases h
  | read q =>
    simp only [cstep] at h
    cases h
    exact CStep.read

theorem cstep_complete {cmds : List SnapCmd} {st st' : CState} {e : Ev} (h : CStep cmds st e st') : cstep cmds st e = some st' := by
  cases h with
  | «exists» hc hp hw hr =>
    simp only [cstep, hc, hp]
    rw [if_pos]
    simp only [Bool.and_eq_true, beq_iff_eq, contains_iff_mem]
    exact ⟨hw, hr⟩
  | upload hc hp hm =>
    simp only [cstep, hc, hp]
    rw [if_pos]
    simp [hm]
  | commit hc hp ht hpe hd =>
    simp only [cstep, hc, hp]
    rw [if_pos]
    simp [ht, hpe, hd]
  | read => rfl

theorem crun_nil (cmds : List SnapCmd) (st : CState) : crun cmds st [] = some st := rfl

theorem crun_cons_eq (cmds : List SnapCmd) (st : CState) (e : Ev) (es : List Ev) :
    crun cmds st (e :: es) = (cstep cmds st e).bind fun st1 => crun cmds st1 es := by
  rw [crun]
  cases cstep cmds st e <;> rfl

theorem crun_append_eq (cmds : List SnapCmd) (st : CState) (a b : List Ev) :
    crun cmds st (a ++ b) = (crun cmds st a).bind fun st1 => crun cmds st1 b := by
  induction a generalizing st with
  | nil => rfl
  | cons e es ih => simp only [cons_append, crun_cons_eq, Option.bind_assoc, ih]

theorem crun_cons {cmds : List SnapCmd} {st st' : CState} {e : Ev} {es : List Ev} (h : crun cmds st (e :: es) = some st') :
    ∃ st1, cstep cmds st e = some st1 ∧ crun cmds st1 es = some st' :=
  Option.bind_eq_some_iff.mp (crun_cons_eq cmds st e es ▸ h)

theorem crun_append {cmds : List SnapCmd} {st st' : CState} {a b : List Ev} (h : crun cmds st (a ++ b) = some st') :
    ∃ st1, crun cmds st a = some st1 ∧ crun cmds st1 b = some st' :=
  Option.bind_eq_some_iff.mp (crun_append_eq cmds st a b ▸ h)

theorem crun_append_of {cmds : List SnapCmd} {st st1 st' : CState} {a b : List Ev} (h1 : crun cmds st a = some st1)
    (h2 : crun cmds st1 b = some st') : crun cmds st (a ++ b) = some st' := by
  rw [crun_append_eq, h1]
  exact h2

theorem crun_step {cmds : List SnapCmd} {st st1 st' : CState} {e : Ev} {es : List Ev} (h : CStep cmds st e st1)
    (h2 : crun cmds st1 es = some st') : crun cmds st (e :: es) = some st' := by
  rw [crun_cons_eq, cstep_complete h]
  exact h2

/-- induction over an accepted trace for an invariant that also speaks about the calls made so far -/
theorem crun_invariant_tr {cmds : List SnapCmd} (P : List Ev → CState → Prop)
    (hstep : ∀ d st e st', P d st → CStep cmds st e st' → P (d ++ [e]) st') :
    ∀ (tr d : List Ev) (st st' : CState), P d st → crun cmds st tr = some st' → P (d ++ tr) st' := by
  intro tr
  induction tr with
  | nil =>
    intro d st st' h0 h
    cases h
    rwa [append_nil]
  | cons e es ih =>
    intro d st st' h0 h
    obtain ⟨s1, h1, h2⟩ := crun_cons h
    have := ih (d ++ [e]) s1 st' (hstep d st e s1 h0 (cstep_sound h1)) h2
    rwa [append_assoc] at this

theorem crun_invariant {cmds : List SnapCmd} (P : CState → Prop)
    (hstep : ∀ st e st', P st → CStep cmds st e st' → P st') :
    ∀ (tr : List Ev) (st st' : CState), P st → crun cmds st tr = some st' → P st' :=
  fun tr => crun_invariant_tr (fun _ => P) (fun _ => hstep) tr []

theorem name_ne_chunk (cmd : SnapCmd) (f : Fam) (c : Content) : cmd.name ≠ .chunk f c := by
  intro h
  cases h

theorem cstep_get_cases {cmds : List SnapCmd} {st st' : CState} {e : Ev} (h : CStep cmds st e st') (n : Name) :
    get st'.store n = get st.store n ∨
    (∃ (cmd : SnapCmd) (c : Content), n = .chunk cmd.u.fam c ∧ get st'.store n = some (.chunk cmd.u.fam c) ∧
      ∃ (i : Nat) (p : Prog), cmds[i]? = some cmd ∧ st.progs[i]? = some p ∧ c ∈ p.pending) ∨
    (∃ cmd ∈ cmds, n = cmd.name ∧ get st'.store n = some cmd.obj) := by
  cases h with
  | «exists» => exact Or.inl rfl
  | upload hc hp hm =>
    rename_i i c cmd p
    by_cases hne : n = .chunk cmd.u.fam c
    · subst hne
      exact Or.inr (Or.inl ⟨cmd, c, rfl, get_put_same _ _ _, i, p, hc, hp, hm⟩)
    · exact Or.inl (get_put_other _ _ _ _ hne)
  | commit hc hp ht hpe hd =>
    rename_i i cmd p
    by_cases hne : n = cmd.name
    · subst hne
      exact Or.inr (Or.inr ⟨cmd, mem_of_getElem? hc, rfl, get_put_same _ _ _⟩)
    · exact Or.inl (get_put_other _ _ _ _ hne)
  | read => exact Or.inl rfl

theorem CStep.get_none {cmds : List SnapCmd} {st st' : CState} {e : Ev} (h : CStep cmds st e st') {n : Name}
    (hn : get st'.store n = none) : get st.store n = none := by
  rcases cstep_get_cases h n with h0 | ⟨_, _, _, hg, _⟩ | ⟨_, _, _, hg⟩
  · rw [← h0]
    exact hn
  · rw [hn] at hg
    cases hg
  · rw [hn] at hg
    cases hg

theorem CStep.get_foreign {cmds : List SnapCmd} {st st' : CState} {e : Ev} (h : CStep cmds st e st') {n : Name}
    (hch : ∀ f c, n ≠ .chunk f c) (hnm : ∀ cmd ∈ cmds, cmd.name ≠ n) : get st'.store n = get st.store n := by
  rcases cstep_get_cases h n with h0 | ⟨cmd, c, hn, _⟩ | ⟨cmd, hm, hn, _⟩
  · exact h0
  · exact absurd hn (hch cmd.u.fam c)
  · exact absurd hn.symm (hnm cmd hm)

theorem CStep.length_progs {cmds : List SnapCmd} {st st' : CState} {e : Ev} (h : CStep cmds st e st') :
    st'.progs.length = st.progs.length := by
  cases h <;> simp

theorem chunkLe_step {cmds : List SnapCmd} {st st' : CState} {e : Ev} (h : CStep cmds st e st') : ChunkLe st.store st'.store := by
  intro f c hg
  rcases cstep_get_cases h (.chunk f c) with h0 | ⟨_, _, hn, hg', _⟩ | ⟨cmd, _, hn, _⟩
  · rw [h0]
    exact hg
  · cases hn
    exact hg'
  · exact absurd hn.symm (name_ne_chunk cmd f c)

theorem chunkLe_run {cmds : List SnapCmd} {tr : List Ev} {st st' : CState} (h : crun cmds st tr = some st') :
    ChunkLe st.store st'.store :=
  crun_invariant (fun x => ChunkLe st.store x.store) (fun _ _ _ hi hs => hi.trans (chunkLe_step hs)) tr st st' (ChunkLe.refl _) h

def Covered (s : Store) (cmd : SnapCmd) (p : Prog) : Prop :=
  ∀ c ∈ cmd.stream, c ∉ p.todo → c ∉ p.pending → get s (.chunk cmd.u.fam c) = some (.chunk cmd.u.fam c)

def ConcInv (enc : Bool) (cmds : List SnapCmd) (st : CState) : Prop :=
  Consistent enc st.store ∧ ∀ (i : Nat) cmd p, cmds[i]? = some cmd → st.progs[i]? = some p → Covered st.store cmd p

theorem init_lookup {s : Store} {cmds : List SnapCmd} {i : Nat} {cmd : SnapCmd} {p : Prog}
    (hc : cmds[i]? = some cmd) (hp : (CState.init s cmds).progs[i]? = some p) : p = Prog.init cmd := by
  simp only [CState.init, getElem?_map, hc, Option.map_some] at hp
  cases hp; rfl

theorem covered_mono {s s' : Store} {cmd : SnapCmd} {p : Prog} (hle : ChunkLe s s') (h : Covered s cmd p) : Covered s' cmd p :=
  fun c hc ht hpe => hle _ _ (h c hc ht hpe)

theorem Covered.stored {s : Store} {cmd : SnapCmd} {p : Prog} (h : Covered s cmd p) (ht : p.todo = []) (hpe : p.pending = [])
    {c : Content} (hc : c ∈ cmd.stream) : get s (.chunk cmd.u.fam c) = some (.chunk cmd.u.fam c) :=
  h c hc (ht ▸ not_mem_nil) (hpe ▸ not_mem_nil)

theorem goodPut_cmd {enc : Bool} {cmd : SnapCmd} (hop : OpOk enc cmd.op) : GoodPut enc (.put cmd.name cmd.obj) := by
  obtain ⟨hu, hneeds, hpaths⟩ := hop
  refine ⟨rfl, rfl, ⟨?_, hpaths⟩, hu⟩
  intro fr hfr c hc
  exact (mem_dedupKeepFirstC cmd.stream c).mpr (hneeds fr hfr c hc)

/-- the part of the basic invariant that needs no more than a well-formed store -/
def CovInv (cmds : List SnapCmd) (st : CState) : Prop :=
  WF st.store ∧ ∀ (i : Nat) cmd p, cmds[i]? = some cmd → st.progs[i]? = some p → Covered st.store cmd p

theorem covInv_init {s : Store} (cmds : List SnapCmd) (h : WF s) : CovInv cmds (CState.init s cmds) := by
  refine ⟨h, ?_⟩
  intro i cmd p hc hp c hcs ht
  rw [init_lookup hc hp] at ht
  exact absurd hcs ht

theorem concInv_init {enc : Bool} {s : Store} (cmds : List SnapCmd) (h : Consistent enc s) : ConcInv enc cmds (CState.init s cmds) :=
  ⟨h, (covInv_init cmds h.1).2⟩

theorem covInv_step {cmds : List SnapCmd} {st st' : CState} {e : Ev} (hinv : CovInv cmds st) (h : CStep cmds st e st') :
    CovInv cmds st' := by
  obtain ⟨hwf, hcov⟩ := hinv
  have hle := chunkLe_step h
  cases h with
  | «exists» hc hp hw hr =>
    rename_i i c r cmd p
    refine ⟨hwf, forall_set hc hcov ?_ (fun _ _ _ _ h => h)⟩
    intro c' hc's ht hpe
    by_cases hcc : c' = c
    · subst hcc
      cases r with
      | true =>
        obtain ⟨o, ho⟩ := Option.isSome_iff_exists.mp hr.symm
        rw [ho, hwf.get_chunk ho]
      | false => exact absurd (mem_append_right _ (mem_singleton.mpr rfl)) hpe
    · apply hcov i cmd p hc hp c' hc's (fun h => ht ((mem_erase_of_ne hcc).mpr h))
      intro h
      cases r with
      | true => exact hpe h
      | false => exact hpe (mem_append_left _ h)
  | upload hc hp hm =>
    rename_i i c cmd p
    refine ⟨hwf.put _ _ ⟨rfl, rfl⟩, forall_set hc hcov ?_ (fun _ _ _ _ h => covered_mono hle h)⟩
    intro c' hc's ht hpe
    by_cases hcc : c' = c
    · subst hcc
      exact get_put_same _ _ _
    · exact hle _ _ (hcov i cmd p hc hp c' hc's ht (fun h => hpe ((mem_erase_of_ne hcc).mpr h)))
  | commit hc hp ht hpe hd =>
    rename_i i cmd p
    refine ⟨hwf.put _ _ ⟨rfl, rfl⟩, forall_set hc hcov ?_ (fun _ _ _ _ h => covered_mono hle h)⟩
    intro c' hc's _ _
    exact hle _ _ ((hcov i cmd p hc hp).stored ht hpe hc's)
  | read => exact ⟨hwf, hcov⟩

theorem covInv_run {cmds : List SnapCmd} {tr : List Ev} {st st' : CState} (hinv : CovInv cmds st)
    (h : crun cmds st tr = some st') : CovInv cmds st' :=
  crun_invariant (CovInv cmds) (fun _ _ _ hi hs => covInv_step hi hs) tr st st' hinv h

theorem concInv_step {enc : Bool} {cmds : List SnapCmd} (hok : ∀ cmd ∈ cmds, OpOk enc cmd.op) {st st' : CState} {e : Ev}
    (hinv : ConcInv enc cmds st) (h : CStep cmds st e st') : ConcInv enc cmds st' := by
  obtain ⟨hcons, hcov⟩ := hinv
  refine ⟨?_, (covInv_step ⟨hcons.1, hcov⟩ h).2⟩
  cases h with
  | «exists» hc hp hw hr => exact hcons
  | upload hc hp hm => exact applyMut_consistent (m := .put _ _) hcons ⟨rfl, rfl⟩ (by intro f sid f' sid' b hm'; cases hm')
  | commit hc hp ht hpe hd =>
    rename_i i cmd p
    apply applyMut_consistent hcons (goodPut_cmd (hok cmd (mem_of_getElem? hc)))
    intro f sid f' sid' b hm c hcb
    cases hm
    exact (hcov i cmd p hc hp).stored ht hpe ((mem_dedupKeepFirstC cmd.stream c).mp hcb)
  | read => exact hcons

theorem concInv_run {enc : Bool} {cmds : List SnapCmd} (hok : ∀ cmd ∈ cmds, OpOk enc cmd.op) {tr : List Ev} {st st' : CState}
    (hinv : ConcInv enc cmds st) (h : crun cmds st tr = some st') : ConcInv enc cmds st' :=
  crun_invariant (ConcInv enc cmds) (fun _ _ _ hi hs => concInv_step hok hi hs) tr st st' hinv h

end Replicat.Repo
