import ReplicatModel.SettingsCli
import ReplicatProofs.Lemmas.Common
/-! Lemmas about `ReplicatModel/SettingsCli.lean` for the command-line part of `Properties/C17.lean`.  `flat_to_nested` is a loop
over a sorted dict, with the scalars of the tree (`Tree.leafAt`) as its invariant. -/
namespace Replicat.SettingsCli
open Replicat.Gen

theorem parseLoop_none {β : Type} (g : Str → β) (args : List Str) :
    ∀ (m : List (Str × β)) (u : List Str),
      parseLoop g args none m u =
        ((cliPairs args).foldl (fun m p => dictSet m (normKey p.1) (g p.2)) m, u ++ cliLeftover args) := by
  induction args using cliPairs.induct with
  | case1 => intro m u; simp [parseLoop, cliPairs, cliLeftover, pushPending]
  | case2 a =>
    intro m u
    by_cases h : isFlag a = true <;> simp [parseLoop, cliPairs, cliLeftover, pushPending, h]
  | case3 a b rest h ih =>
    intro m u
    simp only [Bool.and_eq_true, Bool.not_eq_true'] at h
    simp [parseLoop, cliPairs, cliLeftover, pushPending, h.1, h.2, ih]
  | case4 a b rest h ih =>
    intro m u
    by_cases ha : isFlag a = true
    · have hb : isFlag b = true := by
        cases hb : isFlag b with
        | true => rfl
        | false => exact absurd (by simp [ha, hb]) h
      simpa [parseLoop, cliPairs, cliLeftover, pushPending, ha, hb] using ih m (u ++ [a])
    · have ha' : isFlag a = false := by simpa using ha
      simpa [parseLoop, cliPairs, cliLeftover, pushPending, ha'] using ih m (u ++ [a])

theorem parseWith_spec {β : Type} (g : Str → β) (args : List Str) :
    parseWith g args = (toDict ((cliPairs args).map (fun p => (normKey p.1, g p.2))), cliLeftover args) := by
  simp [parseWith, parseLoop_none, toDict, List.foldl_map]

theorem cli_perm (args : List Str) :
    args.Perm ((cliPairs args).flatMap (fun p => [p.1, p.2]) ++ cliLeftover args) := by
  induction args using cliPairs.induct with
  | case1 => simp [cliPairs, cliLeftover]
  | case2 a => simp [cliPairs, cliLeftover]
  | case3 a b rest h ih =>
    simp only [cliPairs, cliLeftover, h, if_true, List.flatMap_cons, List.cons_append, List.nil_append]
    exact (ih.cons b).cons a
  | case4 a b rest h ih =>
    have h' : (isFlag a && !isFlag b) = false := by simpa using h
    simp only [cliPairs, cliLeftover, h', Bool.false_eq_true, if_false]
    exact (ih.cons a).trans List.perm_middle.symm

theorem cliPairs_flags (args : List Str) : ∀ p ∈ cliPairs args, isFlag p.1 = true ∧ isFlag p.2 = false := by
  induction args using cliPairs.induct with
  | case1 => simp [cliPairs]
  | case2 a => simp [cliPairs]
  | case3 a b rest h ih =>
    simp only [cliPairs, h, if_true, List.mem_cons]
    rintro p (rfl | hp)
    · simpa using h
    · exact ih p hp
  | case4 a b rest h ih =>
    have h' : (isFlag a && !isFlag b) = false := by simpa using h
    simp only [cliPairs, h', Bool.false_eq_true, if_false]
    exact ih

theorem cliPairs_argsOfPairs (ps : List (Str × Str)) (h : ∀ p ∈ ps, isFlag p.1 = true ∧ isFlag p.2 = false) :
    cliPairs (argsOfPairs ps) = ps ∧ cliLeftover (argsOfPairs ps) = [] := by
  induction ps with
  | nil => simp [argsOfPairs, cliPairs, cliLeftover]
  | cons p ps ih =>
    have hp := h p (by simp)
    have ih' := ih (fun q hq => h q (List.mem_cons_of_mem _ hq))
    simp only [argsOfPairs, List.flatMap_cons, List.cons_append, List.nil_append] at ih' ⊢
    simp [cliPairs, cliLeftover, hp.1, hp.2, ih'.1, ih'.2]

theorem argsOfPairs_isEmpty (ps : List (Str × Str)) : (argsOfPairs ps).isEmpty = ps.isEmpty := by
  cases ps <;> simp [argsOfPairs]

theorem dictGet_dictSet {γ : Type} (m : List (Str × γ)) (k k' : Str) (v : γ) :
    dictGet (dictSet m k v) k' = if k = k' then some v else dictGet m k' := by
  induction m with
  | nil => simp [dictSet, dictGet]
  | cons x xs ih =>
    obtain ⟨kx, vx⟩ := x
    by_cases h : kx = k
    · subst h
      by_cases h3 : kx = k' <;> simp [dictSet, dictGet, h3]
    · by_cases h2 : kx = k'
      · subst h2
        have : ¬ k = kx := fun e => h e.symm
        simp [dictSet, dictGet, h, this]
      · simp [dictSet, dictGet, h, h2, ih]

theorem dictSet_keys {γ : Type} (m : List (Str × γ)) (k : Str) (v : γ) :
    (dictSet m k v).map (·.1) = if k ∈ m.map (·.1) then m.map (·.1) else m.map (·.1) ++ [k] := by
  induction m with
  | nil => simp [dictSet]
  | cons x xs ih =>
    obtain ⟨kx, vx⟩ := x
    by_cases h : kx = k
    · subst h; simp [dictSet]
    · have h' : ¬ k = kx := fun e => h e.symm
      by_cases hm : k ∈ xs.map (·.1)
      · simp only [dictSet, h, if_false, List.map_cons, ih, hm, if_true, List.mem_cons, or_true]
      · simp only [dictSet, h, if_false, List.map_cons, ih, hm, List.mem_cons, h', or_self, List.cons_append]

theorem dictSet_fresh {γ : Type} (m : List (Str × γ)) (k : Str) (v : γ) (h : k ∉ m.map (·.1)) :
    dictSet m k v = m ++ [(k, v)] := by
  induction m with
  | nil => simp [dictSet]
  | cons x xs ih =>
    obtain ⟨kx, vx⟩ := x
    simp only [List.map_cons, List.mem_cons, not_or] at h
    have : ¬ kx = k := fun e => h.1 e.symm
    simp [dictSet, this, ih h.2]

theorem dictSet_nodup {γ : Type} (m : List (Str × γ)) (k : Str) (v : γ) (h : (m.map (·.1)).Nodup) :
    ((dictSet m k v).map (·.1)).Nodup := by
  rw [dictSet_keys]
  split
  · exact h
  · rename_i hk
    refine List.nodup_append.mpr ⟨h, List.pairwise_singleton _ k, ?_⟩
    rintro a ha b hb rfl
    exact hk (List.mem_singleton.mp hb ▸ ha)

theorem mem_keys_dictSet {γ : Type} (m : List (Str × γ)) (k : Str) (v : γ) (a : Str) :
    a ∈ (dictSet m k v).map (·.1) ↔ a = k ∨ a ∈ m.map (·.1) := by
  rw [dictSet_keys]
  split
  · rename_i hk
    exact ⟨Or.inr, fun h => h.elim (fun e => e ▸ hk) id⟩
  · rw [List.mem_append, List.mem_singleton]
    exact or_comm

theorem toDict_snoc {γ : Type} (l : List (Str × γ)) (x : Str × γ) : toDict (l ++ [x]) = dictSet (toDict l) x.1 x.2 := by
  rw [toDict, List.foldl_append]
  rfl

theorem toDict_nodup {γ : Type} (l : List (Str × γ)) : ((toDict l).map (·.1)).Nodup := by
  induction l using snoc_induction with
  | nil => exact List.nodup_nil
  | snoc l x ih =>
    rw [toDict_snoc]
    exact dictSet_nodup _ _ _ ih

theorem toDict_keys_mem {γ : Type} (l : List (Str × γ)) (k : Str) : k ∈ (toDict l).map (·.1) ↔ k ∈ l.map (·.1) := by
  induction l using snoc_induction with
  | nil => rfl
  | snoc l x ih =>
    rw [toDict_snoc, mem_keys_dictSet, ih, List.map_append, List.mem_append, List.map_cons, List.map_nil, List.mem_singleton]
    exact or_comm

theorem lastFor_snoc {γ : Type} (k : Str) (l : List (Str × γ)) (x : Str × γ) :
    lastFor k (l ++ [x]) = if x.1 = k then some x.2 else lastFor k l := by
  obtain ⟨kx, vx⟩ := x
  induction l with
  | nil => rfl
  | cons y ys ih =>
    obtain ⟨ky, vy⟩ := y
    simp only [List.cons_append, lastFor, ih]
    by_cases hk : kx = k <;> simp only [hk, if_true, if_false]

theorem dictGet_toDict {γ : Type} (l : List (Str × γ)) (k : Str) : dictGet (toDict l) k = lastFor k l := by
  induction l using snoc_induction with
  | nil => rfl
  | snoc l x ih => rw [toDict_snoc, dictGet_dictSet, lastFor_snoc, ih]

theorem dictGet_eq_lookup {γ : Type} (m : List (Str × γ)) (k : Str) : dictGet m k = m.lookup k := by
  induction m with
  | nil => rfl
  | cons x xs ih =>
    rw [lookup_cons_eq_ite, ← ih]
    rfl

theorem mem_iff_dictGet {γ : Type} (m : List (Str × γ)) (h : (m.map (·.1)).Nodup) (k : Str) (v : γ) :
    (k, v) ∈ m ↔ dictGet m k = some v := by
  rw [dictGet_eq_lookup]
  exact ⟨lookup_eq_some_of_mem h, mem_of_lookup_eq_some⟩

theorem toDict_of_nodup {γ : Type} (l : List (Str × γ)) (h : (l.map (·.1)).Nodup) : toDict l = l := by
  induction l using snoc_induction with
  | nil => rfl
  | snoc l x ih =>
    rw [List.map_append, List.nodup_append] at h
    rw [toDict_snoc, ih h.1]
    exact dictSet_fresh l x.1 x.2 fun hm => h.2.2 _ hm _ List.mem_cons_self rfl

theorem lastFor_eq_dictGet {γ : Type} (m : List (Str × γ)) (h : (m.map (·.1)).Nodup) (k : Str) : lastFor k m = dictGet m k := by
  rw [← dictGet_toDict, toDict_of_nodup m h]

theorem lastFor_eq_some_iff {γ : Type} {m : List (Str × γ)} (h : (m.map (·.1)).Nodup) {k : Str} {v : γ} :
    lastFor k m = some v ↔ (k, v) ∈ m := by
  rw [lastFor_eq_dictGet _ h, ← mem_iff_dictGet _ h]

theorem lastFor_toDict {γ : Type} (l : List (Str × γ)) (k : Str) : lastFor k (toDict l) = lastFor k l := by
  rw [lastFor_eq_dictGet _ (toDict_nodup l), dictGet_toDict]

theorem mem_toDict {γ : Type} (l : List (Str × γ)) (k : Str) (v : γ) : (k, v) ∈ toDict l ↔ lastFor k l = some v := by
  rw [mem_iff_dictGet _ (toDict_nodup l), dictGet_toDict]

theorem lastFor_map {γ δ : Type} (f : γ → δ) (l : List (Str × γ)) (k : Str) :
    lastFor k (l.map (fun kv => (kv.1, f kv.2))) = (lastFor k l).map f := by
  induction l with
  | nil => rfl
  | cons x xs ih =>
    obtain ⟨kx, vx⟩ := x
    simp only [List.map_cons, lastFor, ih]
    cases lastFor k xs with
    | some w => rfl
    | none => by_cases hk : kx = k <;> simp [hk]

theorem strLt_iff (a b : Str) : strLt a b = true ↔ a < b := by
  induction a generalizing b with
  | nil =>
    cases b with
    | nil => exact ⟨fun h => absurd h Bool.false_ne_true, fun h => absurd h (List.lt_irrefl [])⟩
    | cons y ys => exact ⟨fun _ => List.nil_lt_cons y ys, fun _ => rfl⟩
  | cons x xs ih =>
    cases b with
    | nil => exact ⟨fun h => absurd h Bool.false_ne_true, fun h => absurd h (List.not_lt_nil _)⟩
    | cons y ys =>
      rw [strLt, List.cons_lt_cons_iff, ← ih]
      split
      · rename_i h
        rw [h]
        exact ⟨fun h' => Or.inr ⟨rfl, h'⟩, fun h' => h'.elim (fun h'' => absurd h'' (Char.lt_irrefl _)) And.right⟩
      · rename_i h
        rw [decide_eq_true_eq]
        exact ⟨Or.inl, fun h' => h'.elim id fun h'' => absurd h''.1 h⟩

theorem strLt_irrefl (a : Str) : strLt a a = false :=
  Bool.eq_false_iff.mpr fun h => List.lt_irrefl a ((strLt_iff a a).mp h)

theorem strLt_trans (a b c : Str) (h1 : strLt a b = true) (h2 : strLt b c = true) : strLt a c = true :=
  (strLt_iff a c).mpr (List.lt_trans ((strLt_iff a b).mp h1) ((strLt_iff b c).mp h2))

theorem strLt_total (a b : Str) (h : a ≠ b) : strLt a b = true ∨ strLt b a = true := by
  rw [strLt_iff, strLt_iff]
  exact (Decidable.em (a < b)).imp_right fun hn => (List.le_iff_lt_or_eq.mp (List.not_lt.mp hn)).resolve_right (Ne.symm h)

theorem strLt_asymm {a b : Str} (h : strLt a b = true) : strLt b a = false :=
  Bool.eq_false_iff.mpr fun h' => List.lt_asymm ((strLt_iff a b).mp h) ((strLt_iff b a).mp h')

theorem strLt_append (q : Str) (c : Char) (r : Str) : strLt q (q ++ c :: r) = true := by
  have h : q ++ [] < q ++ c :: r := List.append_left_lt (List.nil_lt_cons c r)
  rwa [List.append_nil, ← strLt_iff] at h

def KeyLt {β : Type} (a b : Str × β) : Prop := strLt a.1 b.1 = true

theorem sortKeys_eq {β : Type} (l : List (Str × β)) : sortKeys l = insertionSort (fun a b => strLt a.1 b.1) l := by
  refine congrArg (fun f => l.foldr f []) (funext fun kv => funext fun s => ?_)
  induction s with
  | nil => exact (List.merge_right [kv]).symm
  | cons x xs ih => rw [insertSorted, merge_singleton_cons, ih]

theorem sortKeys_perm {β : Type} (l : List (Str × β)) : (sortKeys l).Perm l :=
  sortKeys_eq l ▸ perm_insertionSort _ l

theorem sortKeys_sorted {β : Type} (l : List (Str × β)) (h : (l.map (·.1)).Nodup) : (sortKeys l).Pairwise KeyLt := by
  rw [sortKeys_eq]
  exact pairwise_insertionSort (fun a b c => strLt_trans a.1 b.1 c.1) ((List.pairwise_map.mp h).imp fun hne => strLt_total _ _ hne)

theorem sortKeys_eq_of_perm {β : Type} {l₁ l₂ : List (Str × β)} (hp : l₁.Perm l₂) (hn : (l₁.map (·.1)).Nodup) :
    sortKeys l₁ = sortKeys l₂ := by
  have hn2 : (l₂.map (·.1)).Nodup := (hp.map _).nodup hn
  refine List.Perm.eq_of_pairwise (le := KeyLt) ?_ (sortKeys_sorted l₁ hn) (sortKeys_sorted l₂ hn2)
    ((sortKeys_perm l₁).trans (hp.trans (sortKeys_perm l₂).symm))
  exact fun a b _ _ hab hba => absurd hba (Bool.eq_false_iff.mp (strLt_asymm hab))

theorem splitOn_eq (sep : Char) (k : Str) : splitOn sep k = List.splitOn sep k := by
  induction k with
  | nil => rfl
  | cons c cs ih =>
    rw [splitOn, List.splitOn_cons_eq_if_modifyHead, ih]
    simp only [beq_iff_eq]
    cases hs : List.splitOn sep cs with
    | nil => exact absurd hs (List.splitOn_ne_nil sep cs)
    | cons w ws => rfl

theorem joinOn_eq (sep : Char) (p : List Str) : joinOn sep p = [sep].intercalate p := by
  induction p with
  | nil => rfl
  | cons w ws ih =>
    cases ws with
    | nil => exact List.intercalate_singleton.symm
    | cons w' ws' => rw [joinOn, ih, List.intercalate_cons_cons, List.append_assoc, List.singleton_append]

theorem splitOn_ne_nil (sep : Char) (k : Str) : splitOn sep k ≠ [] :=
  splitOn_eq sep k ▸ List.splitOn_ne_nil sep k

theorem joinOn_cons_cons (sep : Char) (w : Str) (ws : List Str) (h : ws ≠ []) :
    joinOn sep (w :: ws) = w ++ sep :: joinOn sep ws := by
  cases ws with
  | nil => exact absurd rfl h
  | cons w' ws' => rfl

theorem joinOn_splitOn (sep : Char) (k : Str) : joinOn sep (splitOn sep k) = k := by
  rw [splitOn_eq, joinOn_eq]
  exact List.intercalate_splitOn sep

theorem splitOn_injective (sep : Char) {a b : Str} (h : splitOn sep a = splitOn sep b) : a = b := by
  rw [← joinOn_splitOn sep a, ← joinOn_splitOn sep b, h]

theorem splitOn_append_sep (sep : Char) (q r : Str) : splitOn sep (q ++ sep :: r) = splitOn sep q ++ splitOn sep r := by
  rw [splitOn_eq, splitOn_eq, splitOn_eq]
  exact List.splitOn_append_cons_self q r

theorem joinOn_append (sep : Char) (a b : List Str) (ha : a ≠ []) (hb : b ≠ []) :
    joinOn sep (a ++ b) = joinOn sep a ++ sep :: joinOn sep b := by
  induction a with
  | nil => exact absurd rfl ha
  | cons w ws ih =>
    cases ws with
    | nil => exact joinOn_cons_cons sep w b hb
    | cons w' ws' =>
      show w ++ sep :: joinOn sep (w' :: ws' ++ b) = (w ++ sep :: joinOn sep (w' :: ws')) ++ sep :: joinOn sep b
      rw [ih (List.cons_ne_nil _ _), List.append_assoc]
      rfl

theorem splitOn_joinOn (sep : Char) (p : List Str) (hne : p ≠ []) (hc : ∀ w ∈ p, sep ∉ w) :
    splitOn sep (joinOn sep p) = p := by
  rw [joinOn_eq, splitOn_eq]
  exact List.splitOn_intercalate sep hc hne

theorem joinOn_no_char (sep c : Char) (hsc : c ≠ sep) (p : List Str) (h : ∀ w ∈ p, c ∉ w) : c ∉ joinOn sep p := by
  induction p with
  | nil => simp [joinOn]
  | cons w ws ih =>
    cases ws with
    | nil => simpa [joinOn] using h w (by simp)
    | cons w' ws' =>
      rw [joinOn_cons_cons sep w _ (by simp)]
      simp only [List.mem_append, List.mem_cons, not_or]
      exact ⟨h w (by simp), hsc, ih (fun x hx => h x (List.mem_cons_of_mem _ hx))⟩

theorem isProperPrefix_iff (q p : List Str) : isProperPrefix q p = true ↔ ∃ w ws, p = q ++ w :: ws := by
  simp only [isProperPrefix, Bool.and_eq_true, decide_eq_true_eq, List.isPrefixOf_iff_prefix]
  constructor
  · rintro ⟨⟨t, rfl⟩, hl⟩
    cases t with
    | nil => simp at hl
    | cons w ws => exact ⟨w, ws, rfl⟩
  · rintro ⟨w, ws, rfl⟩
    exact ⟨⟨w :: ws, rfl⟩, by simp⟩

theorem isProperPrefix_nil_right (q : List Str) : isProperPrefix q [] = false := by
  cases q <;> simp [isProperPrefix]

theorem isProperPrefix_cons_cons (x z : Str) (p q : List Str) :
    isProperPrefix (x :: p) (z :: q) = (decide (x = z) && isProperPrefix p q) := by
  simp only [isProperPrefix, List.isPrefixOf_cons_cons, List.length_cons, Nat.add_lt_add_iff_right, Bool.and_assoc]
  by_cases h : x = z <;> simp [h]

theorem isProperPrefix_nil_cons (z : Str) (q : List Str) : isProperPrefix [] (z :: q) = true := by
  simp [isProperPrefix]

theorem isProperPrefix_irrefl (p : List Str) : isProperPrefix p p = false := by
  simp [isProperPrefix]

theorem dotted_prefix_iff (sep : Char) (q p : Str) :
    (∃ r, p = q ++ sep :: r) ↔ isProperPrefix (splitOn sep q) (splitOn sep p) = true := by
  rw [isProperPrefix_iff]
  constructor
  · rintro ⟨r, rfl⟩
    rw [splitOn_append_sep]
    cases hs : splitOn sep r with
    | nil => exact absurd hs (splitOn_ne_nil sep r)
    | cons w ws => exact ⟨w, ws, rfl⟩
  · rintro ⟨w, ws, h⟩
    refine ⟨joinOn sep (w :: ws), ?_⟩
    have := joinOn_splitOn sep p
    rw [h, joinOn_append sep _ _ (splitOn_ne_nil sep q) (List.cons_ne_nil _ _), joinOn_splitOn] at this
    exact this.symm

theorem leafAt_nil_node {β : Type} (kids : List (Str × Tree β)) : Tree.leafAt [] (.node kids) = none := rfl
theorem leafAt_nil_leaf {β : Type} (v : β) : Tree.leafAt [] (.leaf v) = some v := rfl
theorem leafAt_cons_leaf {β : Type} (x : Str) (r : List Str) (v : β) : Tree.leafAt (x :: r) (.leaf v) = none := rfl

theorem leafAt_cons_node {β : Type} (x : Str) (r : List Str) (kids : List (Str × Tree β)) :
    Tree.leafAt (x :: r) (.node kids) = match dictGet kids x with | some c => Tree.leafAt r c | none => none := by
  simp only [Tree.leafAt, Tree.get]
  cases dictGet kids x <;> rfl

/-- `current.setdefault(x, {})` and the existing child carry the same scalars below `x` -/
theorem leafAt_child {β : Type} (kids : List (Str × Tree β)) (x : Str) (q : List Str) :
    Tree.leafAt q ((dictGet kids x).getD (.node [])) = Tree.leafAt (x :: q) (.node kids) := by
  rw [leafAt_cons_node]
  cases h : dictGet kids x with
  | some c => rfl
  | none =>
    cases q with
    | nil => rfl
    | cons a r => simp [leafAt_cons_node, dictGet]

/-- `insertPath` with the last step recognised by the path being exhausted instead of by its length: the value replaces
whatever sits at the end of the path.  One recursive case instead of two; agrees with `insertPath` on every path that
`split` can return (`insertPath_eq_put`). -/
def put {β : Type} : List Str → β → Tree β → Option (Tree β)
  | [], v, _ => some (.leaf v)
  | _ :: _, _, .leaf _ => none
  | x :: r, v, .node kids => (put r v ((dictGet kids x).getD (.node []))).map fun c => .node (dictSet kids x c)

theorem insertPath_eq_put {β : Type} (v : β) : ∀ (p : List Str) (t : Tree β), p ≠ [] → insertPath p v t = put p v t
  | [], _, h => absurd rfl h
  | _ :: r, .leaf _, _ => by cases r <;> rfl
  | [_], .node _, _ => rfl
  | x :: y :: rest, .node kids, _ => by
    simp only [insertPath, put]
    rw [insertPath_eq_put v (y :: rest) _ (List.cons_ne_nil _ _)]
    cases put (y :: rest) v ((dictGet kids x).getD (.node [])) <;> rfl

/-- the item fails (AttributeError / TypeError → `Conflicting options`) exactly when a scalar sits at a proper prefix of its path -/
theorem put_none_iff {β : Type} (v : β) (p : List Str) :
    ∀ t : Tree β, put p v t = none ↔ ∃ q w, isProperPrefix q p = true ∧ Tree.leafAt q t = some w := by
  induction p with
  | nil =>
    intro t
    refine iff_of_false nofun (fun ⟨q, w, hq, _⟩ => ?_)
    rw [isProperPrefix_nil_right] at hq
    cases hq
  | cons x r ih =>
    intro t
    cases t with
    | leaf w0 => exact iff_of_true rfl ⟨[], w0, isProperPrefix_nil_cons _ _, rfl⟩
    | node kids =>
      simp only [put, Option.map_eq_none_iff, ih]
      constructor
      · rintro ⟨q, w, hq, hl⟩
        refine ⟨x :: q, w, ?_, ?_⟩
        · rw [isProperPrefix_cons_cons, hq]
          simp
        · rw [← leafAt_child]
          exact hl
      · rintro ⟨q, w, hq, hl⟩
        cases q with
        | nil => cases hl
        | cons z q' =>
          rw [isProperPrefix_cons_cons] at hq
          simp only [Bool.and_eq_true, decide_eq_true_eq] at hq
          obtain ⟨rfl, hq⟩ := hq
          rw [← leafAt_child] at hl
          exact ⟨q', w, hq, hl⟩

/-- after a successful item: its own path holds the value, everything below that path is gone, every other scalar stays -/
theorem leafAt_put {β : Type} (v : β) (p : List Str) :
    ∀ (t t' : Tree β), put p v t = some t' →
      ∀ q, Tree.leafAt q t' = if q = p then some v else if isProperPrefix p q = true then none else Tree.leafAt q t := by
  induction p with
  | nil =>
    intro t t' h q
    cases h
    cases q with
    | nil => rfl
    | cons a r => simp [leafAt_cons_leaf, isProperPrefix_nil_cons]
  | cons x r ih =>
    intro t t' h q
    cases t with
    | leaf w0 => cases h
    | node kids =>
      simp only [put, Option.map_eq_some_iff] at h
      obtain ⟨c, hc, rfl⟩ := h
      cases q with
      | nil => simp [leafAt_nil_node, isProperPrefix_nil_right]
      | cons z q' =>
        rw [leafAt_cons_node, dictGet_dictSet, isProperPrefix_cons_cons]
        by_cases hxz : x = z
        · subst hxz
          simp only [if_true, ih _ c hc q', leafAt_child, decide_true, Bool.true_and, List.cons.injEq, true_and]
        · have hzx : ¬ z = x := fun e => hxz e.symm
          simp [hxz, hzx, leafAt_cons_node]

/-- the scalars of the tree are exactly the items processed so far -/
def TreeHolds {β : Type} (t : Tree β) (done : List (List Str × β)) : Prop :=
  ∀ q w, Tree.leafAt q t = some w ↔ (q, w) ∈ done

/-- what sorting buys: no item has the path of an EARLIER one or is a proper prefix of one -/
def PrefixFirst {β : Type} (items : List (List Str × β)) : Prop :=
  items.Pairwise (fun a b => a.1 ≠ b.1 ∧ isProperPrefix b.1 a.1 = false)

theorem insertAll_spec {β : Type} (items : List (List Str × β)) :
    ∀ (t : Tree β) (done : List (List Str × β)),
      TreeHolds t done → PrefixFirst (done ++ items) → (∀ b ∈ items, b.1 ≠ []) →
      (insertAll items t = none ↔ ∃ a ∈ done ++ items, ∃ b ∈ items, isProperPrefix a.1 b.1 = true) ∧
      (∀ t', insertAll items t = some t' → TreeHolds t' (done ++ items)) := by
  induction items with
  | nil =>
    intro t done hinv _ _
    refine ⟨iff_of_false nofun (fun ⟨_, _, _, hb, _⟩ => nomatch hb), fun t' e => ?_⟩
    cases e
    rwa [List.append_nil]
  | cons it rest ih =>
    intro t done hinv hpf hne
    obtain ⟨p, v⟩ := it
    obtain ⟨_, hrest, hdone⟩ := List.pairwise_append.mp hpf
    have hdone : ∀ a ∈ done, a.1 ≠ p ∧ isProperPrefix p a.1 = false := fun a ha => hdone a ha (p, v) List.mem_cons_self
    have hrest : ∀ b ∈ rest, isProperPrefix b.1 p = false := fun b hb => ((List.pairwise_cons.mp hrest).1 b hb).2
    simp only [insertAll, insertPath_eq_put v p t (hne (p, v) List.mem_cons_self)]
    cases hins : put p v t with
    | none =>
      obtain ⟨q, w, hq, hl⟩ := (put_none_iff v p t).mp hins
      exact ⟨iff_of_true rfl ⟨(q, w), List.mem_append_left _ ((hinv q w).mp hl), (p, v), List.mem_cons_self, hq⟩, nofun⟩
    | some t1 =>
      have hleaf := leafAt_put v p t t1 hins
      have hinv1 : TreeHolds t1 (done ++ [(p, v)]) := by
        intro q w
        rw [hleaf q, List.mem_append, List.mem_singleton, Prod.mk.injEq]
        by_cases hqp : q = p
        · subst hqp
          rw [if_pos rfl, Option.some.injEq]
          exact ⟨fun e => .inr ⟨rfl, e.symm⟩, fun h => h.elim (fun hm => absurd rfl (hdone (q, w) hm).1) (fun e => e.2.symm)⟩
        · rw [if_neg hqp]
          by_cases hpp : isProperPrefix p q = true
          · rw [if_pos hpp]
            exact iff_of_false nofun (fun h => h.elim (fun hm => by rw [(hdone (q, w) hm).2] at hpp; cases hpp) (fun e => hqp e.1))
          · rw [if_neg hpp, hinv q w]
            exact ⟨.inl, fun h => h.elim id (fun e => absurd e.1 hqp)⟩
      obtain ⟨ih1, ih2⟩ := ih t1 (done ++ [(p, v)]) hinv1 (by rwa [List.append_assoc])
        (fun b hb => hne b (List.mem_cons_of_mem _ hb))
      rw [List.append_assoc] at ih1 ih2
      refine ⟨ih1.trans ⟨fun ⟨a, ha, b, hb, hab⟩ => ⟨a, ha, b, List.mem_cons_of_mem _ hb, hab⟩, ?_⟩, ih2⟩
      rintro ⟨a, ha, b, hb, hab⟩
      rcases List.mem_cons.mp hb with rfl | hb
      · -- a conflict with the item that has just gone in: excluded by `hins`, by irreflexivity, by the order
        exfalso
        rcases List.mem_append.mp ha with ha | ha
        · have := (put_none_iff v p t).mpr ⟨a.1, a.2, hab, (hinv a.1 a.2).mpr ha⟩
          rw [hins] at this
          cases this
        · rcases List.mem_cons.mp ha with rfl | ha
          · rw [isProperPrefix_irrefl] at hab
            cases hab
          · rw [hrest a ha] at hab
            cases hab
      · exact ⟨a, ha, b, hb, hab⟩

/-- the source iterates `sorted(flat.items())` (regenerated; dropping `sorted` breaks this and everything below) -/
theorem flatSorted_true : flatSorted = true := by decide

theorem prefixFirst_paths {β : Type} (sep : Char) {m : List (Str × β)} (hs : m.Pairwise KeyLt) :
    PrefixFirst (m.map fun kv => (splitOn sep kv.1, kv.2)) := by
  unfold PrefixFirst
  rw [List.pairwise_map]
  refine hs.imp ?_
  intro a b (hab : strLt a.1 b.1 = true)
  have hba := strLt_asymm hab
  refine ⟨fun e => ?_, ?_⟩
  · rw [splitOn_injective sep e, strLt_irrefl] at hab
    cases hab
  · cases hpp : isProperPrefix (splitOn sep b.1) (splitOn sep a.1) with
    | false => rfl
    | true =>
      obtain ⟨r, hr⟩ := (dotted_prefix_iff sep b.1 a.1).mpr hpp
      rw [hr, strLt_append] at hba
      cases hba

/-- **The loop on a dict whose items come sorted** fails exactly when one key is a dotted prefix of another. -/
theorem insertAll_sorted {β : Type} {m : List (Str × β)} (hs : m.Pairwise KeyLt) :
    (insertAll (m.map fun kv => (splitDots kv.1, kv.2)) (.node []) = none ↔
      ∃ q ∈ m.map (·.1), ∃ p ∈ m.map (·.1), ∃ r, p = q ++ flatSep :: r) ∧
    (∀ t, insertAll (m.map fun kv => (splitDots kv.1, kv.2)) (.node []) = some t →
      TreeHolds t (m.map fun kv => (splitDots kv.1, kv.2))) := by
  have hinv0 : TreeHolds (Tree.node ([] : List (Str × Tree β))) [] := by
    intro q w
    cases q with
    | nil => exact iff_of_false nofun nofun
    | cons x r => exact iff_of_false nofun nofun
  have h := insertAll_spec _ (.node []) [] hinv0 (prefixFirst_paths flatSep hs)
    (fun b hb => by
      obtain ⟨kv, _, rfl⟩ := List.mem_map.mp hb
      exact splitOn_ne_nil _ _)
  simpa only [splitDots, List.nil_append, exists_mem_map, dotted_prefix_iff] using h

theorem flatToNested_spec {β : Type} (flat : List (Str × β)) :
    (flatToNested flat = .error .conflictingOptions ↔
      ∃ q ∈ flat.map (·.1), ∃ p ∈ flat.map (·.1), ∃ r, p = q ++ flatSep :: r) ∧
    (∀ t, flatToNested flat = .ok t → TreeHolds t ((toDict flat).map fun kv => (splitDots kv.1, kv.2))) := by
  have hperm := sortKeys_perm (toDict flat)
  obtain ⟨h1, h2⟩ := insertAll_sorted (sortKeys_sorted _ (toDict_nodup flat))
  have hkeys : ∀ k, k ∈ (sortKeys (toDict flat)).map (·.1) ↔ k ∈ flat.map (·.1) := fun k => by
    rw [(hperm.map _).mem_iff, toDict_keys_mem]
  simp only [hkeys] at h1
  unfold flatToNested flatItems
  rw [flatSorted_true, if_pos rfl]
  cases hins : insertAll ((sortKeys (toDict flat)).map fun kv => (splitDots kv.1, kv.2)) (.node []) with
  | none => exact ⟨iff_of_true rfl (h1.mp hins), fun t ht => nomatch ht⟩
  | some t =>
    refine ⟨iff_of_false (fun h => nomatch h) (fun h => nomatch hins.symm.trans (h1.mpr h)), ?_⟩
    intro t' ht' q w
    cases ht'
    exact (h2 t hins q w).trans (hperm.map _).mem_iff

theorem flatToNested_leafAt {β : Type} {flat : List (Str × β)} {t : Tree β} (h : flatToNested flat = .ok t) (k : Str) :
    t.leafAt (splitDots k) = lastFor k flat := by
  apply Option.ext
  intro v
  rw [(flatToNested_spec flat).2 t h, ← mem_toDict, List.mem_map]
  constructor
  · rintro ⟨kv, hkv, e⟩
    cases splitOn_injective flatSep (Prod.mk.inj e).1
    cases (Prod.mk.inj e).2
    exact hkv
  · exact fun hv => ⟨(k, v), hv, rfl⟩

theorem flatToNested_perm {β : Type} {flat₁ flat₂ : List (Str × β)} (hp : flat₁.Perm flat₂)
    (hn : (flat₁.map (·.1)).Nodup) : flatToNested flat₁ = flatToNested flat₂ := by
  have hn2 : (flat₂.map (·.1)).Nodup := (hp.map _).nodup hn
  unfold flatToNested flatItems
  rw [flatSorted_true, toDict_of_nodup _ hn, toDict_of_nodup _ hn2, sortKeys_eq_of_perm hp hn]
  simp

theorem ite_ne_left {α : Type} {c : Prop} [Decidable c] {a b x : α} (h : (if c then a else b) = x) (ha : a ≠ x) :
    ¬ c ∧ b = x := by
  by_cases hc : c
  · rw [if_pos hc] at h
    exact absurd h ha
  · rw [if_neg hc] at h
    exact ⟨hc, h⟩

theorem cliMainWith_eq {β : Type} (g : Str → β) (action : String) (args : List Str) :
    cliMainWith g action args =
      if args.isEmpty then .noSettings
      else if !(mainSettingsActions.contains action) then .unrecognised args
      else if !(cliLeftover args).isEmpty then .unrecognised (cliLeftover args)
      else match flatToNested (toDict ((cliPairs args).map (fun p => (normKey p.1, g p.2)))) with
        | .ok t => .settings t
        | .error _ => .conflict := by
  unfold cliMainWith
  rw [parseWith_spec]
  rfl

theorem cliMain_eq (action : String) (args : List Str) :
    cliMain action args =
      if args.isEmpty then .noSettings
      else if !(mainSettingsActions.contains action) then .unrecognised args
      else if !(cliLeftover args).isEmpty then .unrecognised (cliLeftover args)
      else match guessedAll (toDict ((cliPairs args).map (fun p => (normKey p.1, guessType p.2)))) with
        | none => .unmodelled
        | some flatV =>
          match flatToNested flatV with
          | .ok t => .settings t
          | .error _ => .conflict := by
  unfold cliMain parseCliSettings
  rw [parseWith_spec]
  rfl

theorem guessedAll_vals (l : List (Str × Val)) : guessedAll (l.map (fun kv => (kv.1, Guess.val kv.2))) = some l := by
  induction l with
  | nil => rfl
  | cons x xs ih => obtain ⟨k, v⟩ := x; simp [guessedAll, ih]

theorem guessedAll_some {flat : List (Str × Guess)} {flatV : List (Str × Val)} (h : guessedAll flat = some flatV) :
    flat = flatV.map (fun kv => (kv.1, Guess.val kv.2)) := by
  induction flat generalizing flatV with
  | nil => simp [guessedAll] at h; subst h; rfl
  | cons x xs ih =>
    obtain ⟨k, g⟩ := x
    cases g with
    | unmodelled => simp [guessedAll] at h
    | val v =>
      simp only [guessedAll, Option.map_eq_some_iff] at h
      obtain ⟨l, hl, rfl⟩ := h
      simp [ih hl]

theorem cliKeyOps_eq : cliKeyOps = [.lstrip ['-'], .replace '-' '_'] := by decide
theorem cliFlagPrefix_eq : cliFlagPrefix = ['-', '-'] := by decide

theorem replaceChar_id (a b : Char) (k : Str) (h : a ∉ k) : replaceChar a b k = k := by
  unfold replaceChar
  induction k with
  | nil => rfl
  | cons c cs ih =>
    simp only [List.mem_cons, not_or] at h
    have : ¬ c = a := fun e => h.1 e.symm
    simp [this, ih h.2]

theorem normKey_canonical (k : Str) (h : '-' ∉ k) : normKey (cliFlagPrefix ++ k) = k := by
  have hl : lstripChars ['-'] k = k := by
    cases k with
    | nil => rfl
    | cons c cs =>
      simp only [List.mem_cons, not_or] at h
      have : ¬ c = '-' := fun e => h.1 e.symm
      simp [lstripChars, this]
  have hr : replaceChar '-' '_' k = k := replaceChar_id '-' '_' k h
  simp [normKey, cliKeyOps_eq, cliFlagPrefix_eq, applyKeyOp, lstripChars, hl, hr]

theorem isFlag_canonical (k : Str) : isFlag (cliFlagPrefix ++ k) = true := by
  simp [isFlag, List.isPrefixOf_iff_prefix]

/-- what `leavesExpressible` says about one leaf -/
structure LeafOk (l : List Str × Val) : Prop where
  ne : l.1 ≠ []
  noSep : ∀ w ∈ l.1, flatSep ∉ w
  noDash : ∀ w ∈ l.1, '-' ∉ w
  text : ∃ t, textOf l.2 = some t ∧ isFlag t = false ∧ guessType t = .val l.2

theorem allPairs_iff {α : Type} (r : α → α → Bool) (l : List α) : allPairs r l = true ↔ l.Pairwise (fun a b => r a b = true) := by
  induction l with
  | nil => simp [allPairs]
  | cons a rest ih => simp [allPairs, List.pairwise_cons, ih, List.all_eq_true]

/-- what `leavesExpressible` asks of two leaves -/
def Apart (a b : List Str × Val) : Prop :=
  a.1 ≠ b.1 ∧ isProperPrefix a.1 b.1 = false ∧ isProperPrefix b.1 a.1 = false

theorem allPairs_apart (ls : List (List Str × Val)) :
    allPairs (fun a b => !(a.1 == b.1) && !isProperPrefix a.1 b.1 && !isProperPrefix b.1 a.1) ls = true ↔ ls.Pairwise Apart := by
  rw [allPairs_iff]
  refine List.Pairwise.iff fun a b => ?_
  simp only [Apart, Bool.and_eq_true, Bool.not_eq_true', beq_eq_false_iff_ne, ne_eq, and_assoc]

theorem leavesExpressible_facts (ls : List (List Str × Val)) (h : leavesExpressible ls = true) :
    (∀ l ∈ ls, LeafOk l) ∧ ls.Pairwise Apart := by
  simp only [leavesExpressible, leafWritable, componentOk, Bool.and_eq_true, List.all_eq_true, bne_iff_ne, ne_eq,
    allPairs_apart] at h
  obtain ⟨h1, h2⟩ := h
  refine ⟨fun l hl => ?_, h2⟩
  obtain ⟨⟨hne, hc⟩, htxt⟩ := h1 l hl
  refine ⟨?_, fun w hw hm => (hc w hw _ hm).1 rfl, fun w hw hm => (hc w hw _ hm).2 rfl, ?_⟩
  · intro e; rw [e] at hne; simp at hne
  · cases ht : textOf l.2 with
    | none => rw [ht] at htxt; cases htxt
    | some t =>
      rw [ht] at htxt
      simp only [Bool.and_eq_true, Bool.not_eq_true', beq_iff_eq] at htxt
      exact ⟨t, rfl, htxt.1, htxt.2⟩

theorem renderLeaves_eq (ls : List (List Str × Val)) (h : ∀ l ∈ ls, ∃ t, textOf l.2 = some t) :
    renderLeaves ls = argsOfPairs (ls.map (fun l => (cliFlagPrefix ++ joinOn flatSep l.1, (textOf l.2).getD []))) := by
  induction ls with
  | nil => rfl
  | cons l ls ih =>
    obtain ⟨t, ht⟩ := h l (by simp)
    have := ih (fun x hx => h x (List.mem_cons_of_mem _ hx))
    simp only [renderLeaves, argsOfPairs, List.flatMap_cons, List.map_cons] at this ⊢
    rw [this]
    simp [renderLeaf, ht]

theorem parse_renderLeaves {ls : List (List Str × Val)} (hok : ∀ l ∈ ls, LeafOk l)
    (hnd : ((ls.map fun l => (joinOn flatSep l.1, l.2)).map (·.1)).Nodup) :
    parseCliSettings (renderLeaves ls) =
      ((ls.map fun l => (joinOn flatSep l.1, l.2)).map (fun kv => (kv.1, Guess.val kv.2)), []) := by
  have hps : ∀ p ∈ ls.map (fun l => (cliFlagPrefix ++ joinOn flatSep l.1, (textOf l.2).getD [])),
      isFlag p.1 = true ∧ isFlag p.2 = false := by
    intro p hp
    obtain ⟨l, hl, rfl⟩ := List.mem_map.mp hp
    obtain ⟨t, ht, hnf, _⟩ := (hok l hl).text
    exact ⟨isFlag_canonical _, by rw [ht]; exact hnf⟩
  obtain ⟨hpairs, hleft⟩ := cliPairs_argsOfPairs _ hps
  have hmapped : (ls.map (fun l => (cliFlagPrefix ++ joinOn flatSep l.1, (textOf l.2).getD []))).map
        (fun p => (normKey p.1, guessType p.2)) =
      (ls.map (fun l => (joinOn flatSep l.1, l.2))).map (fun kv => (kv.1, Guess.val kv.2)) := by
    rw [List.map_map, List.map_map]
    apply List.map_congr_left
    intro l hl
    obtain ⟨t, ht, _, hg⟩ := (hok l hl).text
    simp only [Function.comp, ht, Option.getD_some, hg,
      normKey_canonical _ (joinOn_no_char flatSep '-' (by decide) l.1 (hok l hl).noDash)]
  unfold parseCliSettings
  rw [parseWith_spec, renderLeaves_eq ls (fun l hl => let ⟨t, ht, _⟩ := (hok l hl).text; ⟨t, ht⟩), hpairs, hleft, hmapped,
    toDict_of_nodup _ (by rw [List.map_map]; exact hnd)]

theorem cliMain_renderLeaves (action : String) (hact : mainSettingsActions.contains action = true)
    (ls : List (List Str × Val)) (hne : ls.isEmpty = false) (hexp : leavesExpressible ls = true) :
    ∃ t, cliMain action (renderLeaves ls) = .settings t ∧ ∀ p v, Tree.leafAt p t = some v ↔ (p, v) ∈ ls := by
  obtain ⟨hok, hpw⟩ := leavesExpressible_facts ls hexp
  have hsplit : ∀ l ∈ ls, splitDots (joinOn flatSep l.1) = l.1 :=
    fun l hl => splitOn_joinOn flatSep l.1 (hok l hl).ne (hok l hl).noSep
  have hnd : ((ls.map fun l => (joinOn flatSep l.1, l.2)).map (·.1)).Nodup := by
    rw [List.map_map, List.Nodup, List.pairwise_map]
    refine (List.Pairwise.and_mem.mp hpw).imp ?_
    intro a b ⟨ha, hb, hab, _⟩ e
    apply hab
    rw [← hsplit a ha, ← hsplit b hb]
    exact congrArg splitDots e
  have hpp : ∀ a ∈ ls, ∀ b ∈ ls, isProperPrefix a.1 b.1 = false := fun a ha b hb =>
    List.Pairwise.forall_of_forall_of_flip (R := fun a b => isProperPrefix a.1 b.1 = false)
      (fun x _ => isProperPrefix_irrefl x.1) (hpw.imp (·.2.1)) (hpw.imp (·.2.2)) ha hb
  have hnonempty : (renderLeaves ls).isEmpty = false := by
    cases ls with
    | nil => cases hne
    | cons l rest =>
      obtain ⟨t, ht, _⟩ := (hok l List.mem_cons_self).text
      simp only [renderLeaves, List.flatMap_cons, renderLeaf, ht]
      rfl
  obtain ⟨hconf, hleaves⟩ := flatToNested_spec (ls.map fun l => (joinOn flatSep l.1, l.2))
  cases hft : flatToNested (ls.map fun l => (joinOn flatSep l.1, l.2)) with
  | error e =>
    cases e
    simp only [List.map_map, exists_mem_map, dotted_prefix_iff, Function.comp] at hconf
    obtain ⟨a, ha, b, hb, hab⟩ := hconf.mp hft
    rw [← splitDots, ← splitDots, hsplit a ha, hsplit b hb, hpp a ha b hb] at hab
    cases hab
  | ok t =>
    refine ⟨t, ?_, ?_⟩
    · unfold cliMain
      simp only [hnonempty, hact, parse_renderLeaves hok hnd, Bool.false_eq_true, if_false, Bool.not_true, List.isEmpty_nil,
        guessedAll_vals, hft]
    · intro p v
      have hback : (ls.map fun l => (splitDots (joinOn flatSep l.1), l.2)) = ls.map id :=
        List.map_congr_left fun l hl => Prod.ext (hsplit l hl) rfl
      rw [hleaves t hft p v, toDict_of_nodup _ hnd, List.map_map]
      exact iff_of_eq (congrArg _ (hback.trans (List.map_id ls)))

def digitChar (k : Nat) : Char := Char.ofNat (48 + k)

theorem digitChar_facts : ∀ k, k < 10 →
    isDigit (digitChar k) = true ∧ isPrintable (digitChar k) = true ∧ isLetter (digitChar k) = false ∧
    digitChar k ≠ '_' ∧ digitChar k ≠ '-' ∧ digitChar k ≠ '+' ∧ hexDigitVal (digitChar k) = k ∧ (digitChar k = '0' → k = 0) := by
  decide +kernel

def IsDigitChar (c : Char) : Prop := ∃ k, k < 10 ∧ c = digitChar k

theorem decDigitsAux_acc : ∀ (fuel n : Nat) (acc : Str), decDigitsAux fuel n acc = decDigitsAux fuel n [] ++ acc := by
  intro fuel
  induction fuel with
  | zero => intro n acc; rfl
  | succ f ih =>
    intro n acc
    simp only [decDigitsAux]
    split
    · rfl
    · rw [ih (n / 10) (_ :: acc), ih (n / 10) [_], List.append_assoc]
      rfl

theorem digitsVal_snoc (t : Str) (d : Char) (hd : d ≠ '_') : digitsVal 10 (t ++ [d]) = digitsVal 10 t * 10 + hexDigitVal d := by
  simp only [digitsVal, List.foldl_append, List.foldl_cons, List.foldl_nil, hd, if_false]

theorem decDigitsAux_spec : ∀ (fuel n : Nat), n < 10 ^ (fuel + 1) →
    ∃ c rest, decDigitsAux (fuel + 1) n [] = c :: rest ∧ (∀ x ∈ c :: rest, IsDigitChar x) ∧
      digitsVal 10 (c :: rest) = n ∧ (c = '0' → n = 0) := by
  have one : ∀ fuel n, n < 10 → ∃ c rest, decDigitsAux (fuel + 1) n [] = c :: rest ∧ (∀ x ∈ c :: rest, IsDigitChar x) ∧
      digitsVal 10 (c :: rest) = n ∧ (c = '0' → n = 0) := by
    intro fuel n hn
    obtain ⟨_, _, _, hu, _, _, hv, hz⟩ := digitChar_facts n hn
    refine ⟨digitChar n, [], by simp only [decDigitsAux, hn, if_true, digitChar], ?_, ?_, hz⟩
    · intro x hx
      exact ⟨n, hn, List.mem_singleton.mp hx⟩
    · simp only [digitsVal, List.foldl_cons, List.foldl_nil, hu, if_false, hv, Nat.zero_mul, Nat.zero_add]
  intro fuel
  induction fuel with
  | zero => exact fun n hn => one 0 n hn
  | succ f ih =>
    intro n hn
    by_cases hlt : n < 10
    · exact one _ n hlt
    · have hdiv : n / 10 < 10 ^ (f + 1) := by
        rw [Nat.div_lt_iff_lt_mul (by decide), ← Nat.pow_succ]
        exact hn
      obtain ⟨c, rest, ht, hall, hval, hz⟩ := ih (n / 10) hdiv
      have hmod : n % 10 < 10 := Nat.mod_lt _ (by decide)
      obtain ⟨_, _, _, hu, _, _, hv, _⟩ := digitChar_facts (n % 10) hmod
      refine ⟨c, rest ++ [digitChar (n % 10)], ?_, ?_, ?_, ?_⟩
      · have : decDigitsAux (f + 1 + 1) n [] = decDigitsAux (f + 1) (n / 10) [digitChar (n % 10)] := by
          simp only [decDigitsAux, hlt, if_false, digitChar]
        rw [this, decDigitsAux_acc, ht]
        rfl
      · intro x hx
        rw [← List.cons_append, List.mem_append] at hx
        rcases hx with hx | hx
        · exact hall x hx
        · exact ⟨n % 10, hmod, List.mem_singleton.mp hx⟩
      · rw [← List.cons_append, digitsVal_snoc _ _ hu, hval, hv]
        exact Nat.div_add_mod' n 10
      · intro hc
        exact absurd (Nat.lt_of_div_eq_zero (by decide) (hz hc)) hlt

theorem decDigits_spec (n : Nat) :
    ∃ c rest, decDigits n = c :: rest ∧ (∀ x ∈ c :: rest, IsDigitChar x) ∧ digitsVal 10 (c :: rest) = n ∧ (c = '0' → n = 0) :=
  decDigitsAux_spec n n (Nat.lt_of_lt_of_le (Nat.lt_pow_self (by decide)) (Nat.pow_le_pow_right (by decide) (Nat.le_succ n)))

theorem groupsOk_digits (l : Str) (h : ∀ x ∈ l, isDigit x = true) : groupsOk isDigit l = true := by
  induction l with
  | nil => rfl
  | cons c l' ih =>
    cases l' with
    | nil => exact h c List.mem_cons_self
    | cons d rest =>
      simp only [groupsOk, h c List.mem_cons_self, if_true]
      exact ih (fun x hx => h x (List.mem_cons_of_mem _ hx))

theorem natLiteral_decDigits (n : Nat) : natLiteral (decDigits n) = some n := by
  obtain ⟨c, rest, ht, hall, hval, hz⟩ := decDigits_spec n
  have hdig : ∀ x ∈ c :: rest, isDigit x = true := by
    intro x hx
    obtain ⟨k, hk, rfl⟩ := hall x hx
    exact (digitChar_facts k hk).1
  have hlead : (c != '0' || rest.all (fun c => c = '0' || c = '_')) = true := by
    by_cases hc : c = '0'
    · have h0 : decDigits 0 = ['0'] := by decide
      rw [hz hc, h0] at ht
      cases ht
      rfl
    · simp only [bne_iff_ne.mpr hc, Bool.true_or]
  simp only [natLiteral, ht, decLiteral, hdig c List.mem_cons_self,
    groupsOk_digits rest (fun x hx => hdig x (List.mem_cons_of_mem _ hx)), hlead, Bool.and_self, if_true, hval]

theorem title_heads : ∀ w ∈ guessTitleWords, w.head?.map isLetter = some true := by decide

theorem not_title_of_not_letter {c : Char} (rest : Str) (hc : isLetter c = false) :
    guessTitleWords.contains (lowerAscii (c :: rest)) = false := by
  cases h : guessTitleWords.contains (lowerAscii (c :: rest)) with
  | false => rfl
  | true =>
    have := title_heads _ (List.contains_iff_mem.mp h)
    simp only [isLetter, Bool.or_eq_false_iff] at hc
    simp only [lowerAscii, List.map_cons, List.head?_cons, Option.map_some, lowerChar, hc.2, Bool.false_eq_true, if_false, isLetter,
      hc.1, Bool.or_self, Option.some.injEq] at this

theorem guessType_not_title {t : Str} (hp : t.all isPrintable = true) (hlen : t.length ≤ guessMaxLen)
    (hnt : guessTitleWords.contains (lowerAscii t) = false) :
    guessType t = literalEval t ∧ t ≠ "None".toList ∧ t ≠ "True".toList ∧ t ≠ "False".toList := by
  have hkw : ∀ w : Str, guessTitleWords.contains (lowerAscii w) = true → t ≠ w := by
    intro w hw e
    rw [e, hw] at hnt
    cases hnt
  refine ⟨?_, hkw _ (by decide +kernel), hkw _ (by decide +kernel), hkw _ (by decide +kernel)⟩
  simp only [guessType, hp, Nat.not_lt.mpr hlen, hnt, Bool.not_true, Bool.false_or, decide_false, Bool.false_eq_true, if_false]

theorem guessType_of_intLiteral (c : Char) (rest : Str) (i : Int) (hp : (c :: rest).all isPrintable = true)
    (hlen : (c :: rest).length ≤ guessMaxLen) (hc : isLetter c = false) (hint : intLiteral (c :: rest) = some i) :
    guessType (c :: rest) = .val (.int i) := by
  obtain ⟨hg, h1, h2, h3⟩ := guessType_not_title hp hlen (not_title_of_not_letter rest hc)
  rw [hg]
  simp only [literalEval, reduceCtorEq, if_false, h1, h2, h3, hint]

theorem intLiteral_unsigned {c : Char} (rest : Str) (hm : c ≠ '-') (hp : c ≠ '+') :
    intLiteral (c :: rest) = (natLiteral (c :: rest)).map (fun n => (n : Int)) := by
  unfold intLiteral
  split
  · rename_i r heq
    exact absurd (List.cons.inj heq).1 hm
  · rename_i r heq
    exact absurd (List.cons.inj heq).1 hp
  · rfl

theorem guessType_int (i : Int) (hlen : (decDigits i.natAbs).length < guessMaxLen) :
    ∃ t, textOf (.int i) = some t ∧ guessType t = .val (.int i) ∧ isFlag t = false := by
  obtain ⟨c, rest, ht, hall, _, _⟩ := decDigits_spec i.natAbs
  have hprint : (c :: rest).all isPrintable = true := by
    rw [List.all_eq_true]
    intro x hx
    obtain ⟨k, hk, rfl⟩ := hall x hx
    exact (digitChar_facts k hk).2.1
  obtain ⟨kc, hkc, rfl⟩ := hall c List.mem_cons_self
  obtain ⟨_, _, hcl, _, hdash, hplus, _, _⟩ := digitChar_facts kc hkc
  have hnat := natLiteral_decDigits i.natAbs
  rw [ht] at hnat hlen
  have hflag : ∀ t : Str, isFlag ('-' :: digitChar kc :: t) = false ∧ isFlag (digitChar kc :: t) = false := by
    intro t
    simp only [isFlag, cliFlagPrefix_eq, List.isPrefixOf, beq_self_eq_true, Bool.true_and, beq_eq_false_iff_ne.mpr hdash.symm,
      Bool.false_and, and_self]
  by_cases hneg : i < 0
  · refine ⟨'-' :: digitChar kc :: rest, by simp only [textOf, hneg, if_true, ht], ?_, (hflag rest).1⟩
    have hi : -((i.natAbs : Int)) = i := by rw [Int.ofNat_natAbs_of_nonpos (Int.le_of_lt hneg), Int.neg_neg]
    apply guessType_of_intLiteral
    · rw [List.all_cons, hprint]
      decide
    · exact hlen
    · decide
    · simp only [intLiteral, hnat]
      exact congrArg some hi
  · refine ⟨digitChar kc :: rest, by simp only [textOf, hneg, if_false, ht], ?_, (hflag rest).2⟩
    have hi : ((i.natAbs : Int)) = i := Int.natAbs_of_nonneg (Int.not_lt.mp hneg)
    apply guessType_of_intLiteral _ _ _ hprint (Nat.le_of_lt hlen) hcl
    rw [intLiteral_unsigned _ hdash hplus, hnat]
    exact congrArg some hi

theorem range_facts {c : Char} {lo hi : Nat} (h : (decide (lo ≤ c.toNat) && decide (c.toNat ≤ hi)) = true) (hlo : 32 ≤ lo)
    (hhi : hi ≤ 126) : isPrintable c = true ∧ (58 ≤ lo → isDigit c = false) := by
  simp only [Bool.and_eq_true, decide_eq_true_eq] at h
  simp only [isPrintable, isDigit, Bool.and_eq_true, decide_eq_true_eq, Bool.and_eq_false_iff, decide_eq_false_iff_not,
    Nat.not_le]
  exact ⟨⟨Nat.le_trans hlo h.1, Nat.le_trans h.2 hhi⟩, fun h58 => .inr (Nat.lt_of_lt_of_le h58 h.1)⟩

theorem wordStart_facts (c : Char) (h : isWordStart c = true) :
    c ≠ '-' ∧ c ≠ '+' ∧ c ≠ '0' ∧ c ≠ '\'' ∧ c ≠ '"' ∧ isDigit c = false ∧ isPrintable c = true := by
  have hno : ∀ x : Char, isWordStart x = false → c ≠ x := fun x hx e => Bool.false_ne_true ((e ▸ hx).symm.trans h)
  refine ⟨hno _ (by decide), hno _ (by decide), hno _ (by decide), hno _ (by decide), hno _ (by decide), ?_⟩
  simp only [isWordStart, isLetter, Bool.or_eq_true, decide_eq_true_eq] at h
  rcases h with (h | h) | h
  · exact ⟨(range_facts h (by decide) (by decide)).2 (by decide), (range_facts h (by decide) (by decide)).1⟩
  · exact ⟨(range_facts h (by decide) (by decide)).2 (by decide), (range_facts h (by decide) (by decide)).1⟩
  · subst h
    decide

theorem wordChar_printable (c : Char) (h : isWordChar c = true) : isPrintable c = true := by
  simp only [isWordChar, isLetter, Bool.or_eq_true, decide_eq_true_eq] at h
  rcases h with ((((h | h) | h) | h) | h) | h
  · exact (range_facts h (by decide) (by decide)).1
  · exact (range_facts h (by decide) (by decide)).1
  · exact (range_facts h (by decide) (by decide)).1
  · subst h; decide
  · subst h; decide
  · subst h; decide

theorem guessType_plainWord (s : String) (hw : plainWord s.toList = true)
    (hnt : guessTitleWords.contains (lowerAscii s.toList) = false) (hlen : s.toList.length ≤ guessMaxLen) :
    textOf (.str s) = some s.toList ∧ guessType s.toList = .val (.str s) ∧ isFlag s.toList = false := by
  have hs : String.ofList s.toList = s := String.ofList_toList
  generalize ht : s.toList = t at *
  cases t with
  | nil => cases hw
  | cons c rest =>
    have hpw := hw
    simp only [plainWord, Bool.and_eq_true, List.all_eq_true] at hw
    obtain ⟨hc, hrest⟩ := hw
    obtain ⟨hdash, hplus, hzero, hq, hdq, hnd, hpc⟩ := wordStart_facts c hc
    have hp : (c :: rest).all isPrintable = true := by
      rw [List.all_cons, hpc, Bool.true_and, List.all_eq_true]
      exact fun x hx => wordChar_printable x (hrest x hx)
    refine ⟨by simp only [textOf, ht, hpw, hnt, Bool.not_false, Bool.and_self, if_true], ?_,
      by simp only [isFlag, cliFlagPrefix_eq, List.isPrefixOf, beq_eq_false_iff_ne.mpr hdash.symm, Bool.false_and]⟩
    have hint : intLiteral (c :: rest) = none := by
      have hdec : decLiteral (c :: rest) = none := by
        simp only [decLiteral, hnd, Bool.false_and, Bool.false_eq_true, if_false]
      have hhex : hexLiteral (c :: rest) = none := by
        unfold hexLiteral
        split
        · rename_i heq
          exact absurd (List.cons.inj heq).1 hzero
        · rfl
      rw [intLiteral_unsigned _ hdash hplus, natLiteral, hdec, hhex]
      rfl
    have hquo : quotedLiteral (c :: rest) = none := by
      simp only [quotedLiteral, hq, hdq, decide_false, Bool.or_self, Bool.false_and, Bool.false_eq_true, if_false]
    obtain ⟨hg, h1, h2, h3⟩ := guessType_not_title hp hlen hnt
    rw [hg]
    simp only [literalEval, reduceCtorEq, if_false, h1, h2, h3, hint, hquo, hpw, if_true, hs]

theorem apart_of_diverge {pre : List Str} {k k' : Str} (h : k ≠ k') {a b : List Str × Val}
    (ha : ∃ s, a.1 = pre ++ k :: s) (hb : ∃ s, b.1 = pre ++ k' :: s) : Apart a b := by
  obtain ⟨s, ha⟩ := ha
  obtain ⟨s', hb⟩ := hb
  have key : ∀ (k k' : Str) (s s' : List Str), k ≠ k' → isProperPrefix (pre ++ k :: s) (pre ++ k' :: s') = false := by
    intro k k' s s' h
    cases hp : isProperPrefix (pre ++ k :: s) (pre ++ k' :: s') with
    | false => rfl
    | true =>
      obtain ⟨w, ws, e⟩ := (isProperPrefix_iff _ _).mp hp
      rw [List.append_assoc] at e
      exact absurd (List.cons.inj (List.append_cancel_left e)).1.symm h
  rw [Apart, ha, hb]
  exact ⟨fun e => h (List.cons.inj (List.append_cancel_left e)).1, key k k' s s' h, key k' k s' s h.symm⟩

theorem keysDistinct_iff {γ : Type} (l : List (String × γ)) :
    keysDistinct l = true ↔ l.Pairwise (fun a b => a.1.toList ≠ b.1.toList) := by
  unfold keysDistinct
  rw [allPairs_iff]
  refine List.Pairwise.iff fun a b => ?_
  rw [Bool.not_eq_true', beq_eq_false_iff_ne, ne_eq, ne_eq, String.toList_inj]

theorem apart_flatMap {γ : Type} (pre : List Str) {f : String × γ → List (List Str × Val)} {l : List (String × γ)}
    (hk : keysDistinct l = true) (hin : ∀ x ∈ l, (f x).Pairwise Apart)
    (hf : ∀ x, ∀ a ∈ f x, ∃ s, a.1 = pre ++ x.1.toList :: s) : (l.flatMap f).Pairwise Apart :=
  List.pairwise_flatMap.mpr
    ⟨hin, ((keysDistinct_iff l).mp hk).imp fun hxy a ha b hb => apart_of_diverge hxy (hf _ a ha) (hf _ b hb)⟩

open Replicat.Settings

theorem mem_leavesOfArgs {k1 k2 : Str} {l : Args} {a : List Str × Val} (h : a ∈ leavesOfArgs k1 k2 l) :
    ∃ z ∈ l, a.1 = [k1, k2, z.1.toList] := by
  obtain ⟨z, hz, hz2⟩ := List.mem_filterMap.mp h
  cases hv : z.2 with
  | mapping => rw [hv] at hz2; cases hz2
  | val v => rw [hv] at hz2; cases hz2; exact ⟨z, hz, rfl⟩

theorem mem_leavesOfSub (k1 : Str) (kv2 : String × V2) (a : List Str × Val) (h : a ∈ leavesOfSub k1 kv2) :
    ∃ s, a.1 = [k1] ++ kv2.1.toList :: s := by
  unfold leavesOfSub at h
  cases hv : kv2.2 with
  | val v => rw [hv] at h; cases List.mem_singleton.mp h; exact ⟨[], rfl⟩
  | args l =>
    rw [hv] at h
    obtain ⟨z, _, e⟩ := mem_leavesOfArgs h
    exact ⟨[z.1.toList], e⟩

theorem mem_leavesOfEntry (kv : String × V1) (a : List Str × Val) (h : a ∈ leavesOfEntry kv) :
    ∃ s, a.1 = [] ++ kv.1.toList :: s := by
  unfold leavesOfEntry at h
  cases hv : kv.2 with
  | val v => rw [hv] at h; cases List.mem_singleton.mp h; exact ⟨[], rfl⟩
  | m kvs =>
    rw [hv] at h
    obtain ⟨kv2, _, h⟩ := List.mem_flatMap.mp h
    obtain ⟨s, e⟩ := mem_leavesOfSub _ _ _ h
    exact ⟨kv2.1.toList :: s, e⟩

theorem leavesOf_apart (s : Settings) (h : dictLike s = true) : (leavesOf s).Pairwise Apart := by
  simp only [dictLike, Bool.and_eq_true, List.all_eq_true] at h
  refine apart_flatMap [] h.1 (fun kv hkv => ?_) mem_leavesOfEntry
  have h1 := h.2 kv hkv
  unfold leavesOfEntry
  cases hv : kv.2 with
  | val v => exact List.pairwise_singleton _ _
  | m kvs =>
    simp only [hv, Bool.and_eq_true, List.all_eq_true] at h1
    refine apart_flatMap [kv.1.toList] h1.1 (fun kv2 hkv2 => ?_) (mem_leavesOfSub _)
    have h2 := h1.2 kv2 hkv2
    unfold leavesOfSub
    cases hv2 : kv2.2 with
    | val v => exact List.pairwise_singleton _ _
    | args a =>
      rw [hv2, keysDistinct_iff] at h2
      refine List.pairwise_filterMap.mpr (h2.imp fun {x y} hxy b hb b' hb' => ?_)
      cases hx : x.2 with
      | mapping => rw [hx] at hb; cases hb
      | val vx =>
        cases hy : y.2 with
        | mapping => rw [hy] at hb'; cases hb'
        | val vy =>
          rw [hx] at hb
          rw [hy] at hb'
          cases hb
          cases hb'
          exact apart_of_diverge (pre := [kv.1.toList, kv2.1.toList]) hxy ⟨[], rfl⟩ ⟨[], rfl⟩

end Replicat.SettingsCli
