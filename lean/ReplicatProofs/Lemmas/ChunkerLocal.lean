import ReplicatModel.ChunkerSync
import ReplicatProofs.Lemmas.Chunker
/-! Lemmas for C11: lists of chunks that start with the greedy chunking of the stream (`GreedyPrefixed`); what the adapter loop
produces is one, for every segmentation. -/
namespace Replicat

/-! ### compile-time checks of four generated flags (three from `tools/sections/11_chunksync.py`, `paddingRecognised` from the
stream-layout part of the translator): the hand-written `feed` decides finality like the adapter ("the look-ahead piece is
None"), and `RepositoryProps.chunkify` hands the repository's `chunker_params` to the adapter.  No proof cites them; a source
edit that turns one to `false` makes this file stop compiling. -/
theorem Gen.chunksyncSectionOk_eq : Gen.chunksyncSectionOk = true := rfl
theorem Gen.adapterFinalIsLookaheadNone_eq : Gen.adapterFinalIsLookaheadNone = true := rfl
theorem Gen.chunkifyPassesKey_eq : Gen.chunkifyPassesKey = true := rfl
theorem Gen.paddingRecognised_eq : Gen.paddingRecognised = true := rfl

theorem valid_max_pos {p : CParams} (hv : p.valid) : 0 < p.max :=
  Nat.lt_of_lt_of_le hv.1 hv.2.1

theorem length_drop_lt_of_two_max_le {m : Nat} {s : Bytes} {c : Nat} (hmax : 0 < m) (hl : 2 * m ≤ s.length)
    (h0 : c ≠ 0) : (s.drop c).length < s.length :=
  length_drop_lt (Nat.lt_of_lt_of_le (Nat.mul_pos (by decide) hmax) hl) h0

theorem le_of_le_max {c m n : Nat} (hc : c ≤ m) (hl : 2 * m ≤ n) : c ≤ n :=
  Nat.le_trans hc (Nat.le_trans (Nat.le_mul_of_pos_left _ (by decide)) hl)

theorem greedy_fuel {p : CParams} (hmax : 0 < p.max) (h : Hash) (f g : Nat) (s : Bytes) (hf : s.length < f)
    (hg : s.length < g) : greedy p h f s = greedy p h g s := by
  induction f generalizing g s with
  | zero => exact absurd hf (Nat.not_lt_zero _)
  | succ f ih =>
    cases g with
    | zero => exact absurd hg (Nat.not_lt_zero _)
    | succ g =>
      rw [greedy, greedy]
      by_cases hl : s.length < 2 * p.max
      · rw [if_pos hl, if_pos hl]
      · rw [if_neg hl, if_neg hl]
        cases mainCut p h s with
        | none => rfl
        | some pos =>
          dsimp only
          by_cases h0 : pos = 0
          · rw [if_pos h0, if_pos h0]
          · have hd : (s.drop pos).length < s.length := length_drop_lt_of_two_max_le hmax (Nat.le_of_not_lt hl) h0
            rw [if_neg h0, if_neg h0,
              ih g (s.drop pos) (Nat.lt_of_lt_of_le hd (Nat.le_of_lt_succ hf)) (Nat.lt_of_lt_of_le hd (Nat.le_of_lt_succ hg))]

theorem greedyFull_small {p : CParams} (h : Hash) {s : Bytes} (hl : s.length < 2 * p.max) :
    greedyFull p h s = some [] := by
  rw [greedyFull, greedy, if_pos hl]

theorem greedyFull_step {p : CParams} (hmax : 0 < p.max) {h : Hash} {s : Bytes} {c : Nat}
    (hl : 2 * p.max ≤ s.length) (hm : mainCut p h s = some c) (h0 : c ≠ 0) :
    greedyFull p h s = (greedyFull p h (s.drop c)).map (s.take c :: ·) := by
  have hd : (s.drop c).length < s.length := length_drop_lt_of_two_max_le hmax hl h0
  rw [greedyFull, greedy, if_neg (Nat.not_lt.mpr hl), hm]
  dsimp only
  rw [if_neg h0, greedyFull, greedy_fuel hmax h s.length ((s.drop c).length + 1) (s.drop c) hd (Nat.lt_succ_self _)]

theorem greedyFull_inv {p : CParams} (hv : p.valid) {h : Hash} {s : Bytes} {g : List Bytes}
    (hg : greedyFull p h s = some g) :
    (s.length < 2 * p.max ∧ g = []) ∨
    (∃ c g', 2 * p.max ≤ s.length ∧ mainCut p h s = some c ∧ p.min ≤ c ∧ c ≤ p.max ∧ 4 ∣ c ∧
      greedyFull p h (s.drop c) = some g' ∧ g = s.take c :: g') := by
  by_cases hl : s.length < 2 * p.max
  · rw [greedyFull_small h hl] at hg
    exact Or.inl ⟨hl, (Option.some.inj hg).symm⟩
  · have hl' : 2 * p.max ≤ s.length := Nat.le_of_not_lt hl
    obtain ⟨c, hc, h1, h2, h3, h4⟩ := mainCut_valid hv h (Nat.le_trans (valid_ceil_le hv) hl')
    rw [greedyFull_step (valid_max_pos hv) hl' hc (Nat.ne_of_gt h1), Option.map_eq_some_iff] at hg
    obtain ⟨g', hg', rfl⟩ := hg
    exact Or.inr ⟨c, g', hl', hc, h2, h3, h4, hg', rfl⟩

@[elab_as_elim]
theorem greedyFull_induct {p : CParams} (hv : p.valid) {h : Hash} {motive : Bytes → List Bytes → Prop}
    (small : ∀ s, s.length < 2 * p.max → motive s [])
    (step : ∀ s c g, mainCut p h s = some c → (p.min ≤ c ∧ c ≤ p.max ∧ 4 ∣ c) →
      c ≤ s.length → motive (s.drop c) g → motive s (s.take c :: g))
    (s : Bytes) (g : List Bytes) (hg : greedyFull p h s = some g) : motive s g := by
  induction g generalizing s with
  | nil =>
    rcases greedyFull_inv hv hg with ⟨hl, _⟩ | ⟨_, _, _, _, _, _, _, _, hcons⟩
    · exact small s hl
    · cases hcons
  | cons x g ih =>
    rcases greedyFull_inv hv hg with ⟨_, hnil⟩ | ⟨c, g', hl, hc, hmin, hmax, h4, hg', hcons⟩
    · cases hnil
    · cases hcons
      exact step s c g hc ⟨hmin, hmax, h4⟩ (le_of_le_max hmax hl) (ih _ hg')

/-- for valid parameters `greedy` never reads outside the stream -/
theorem greedy_isSome {p : CParams} (hv : p.valid) (h : Hash) (fuel : Nat) (s : Bytes) : (greedy p h fuel s).isSome := by
  induction fuel generalizing s with
  | zero => rfl
  | succ n ih =>
    rw [greedy]
    split
    · rfl
    · rename_i hl
      obtain ⟨c, hc, h1, _⟩ := mainCut_valid hv h (Nat.le_trans (valid_ceil_le hv) (Nat.le_of_not_lt hl))
      rw [hc]
      dsimp only
      rw [if_neg (Nat.ne_of_gt h1), Option.isSome_map]
      exact ih _

theorem greedyFull_lossless {p : CParams} (hv : p.valid) {h : Hash} {g : List Bytes} {s : Bytes}
    (hg : greedyFull p h s = some g) :
    g.flatten ++ s.drop g.flatten.length = s ∧ s.length < g.flatten.length + 2 * p.max := by
  refine greedyFull_induct hv ?_ ?_ s g hg
  · intro s hl
    exact ⟨rfl, by rwa [List.flatten_nil, List.length_nil, Nat.zero_add]⟩
  · intro s c g _ _ hcl ⟨e1, e3⟩
    rw [List.length_drop] at e3
    rw [List.flatten_cons, List.length_append, List.length_take_of_le hcl, Nat.add_assoc]
    refine ⟨?_, (Nat.sub_lt_iff_lt_add' hcl).mp e3⟩
    rw [List.append_assoc, ← List.drop_drop, e1, List.take_append_drop]

theorem greedyFull_good {p : CParams} (hv : p.valid) {h : Hash} {g : List Bytes} {s : Bytes}
    (hg : greedyFull p h s = some g) : ∀ c ∈ g, p.min ≤ c.length ∧ c.length ≤ p.max ∧ Gen.align ∣ c.length := by
  refine greedyFull_induct hv ?_ ?_ s g hg
  · intro _ _ c hc
    cases hc
  · intro s c g _ hb hcl ih
    rw [List.forall_mem_cons, List.length_take_of_le hcl, Gen.align_eq]
    exact ⟨hb, ih⟩

theorem flatten_length_dvd {n : Nat} (l : List Bytes) (hl : ∀ c ∈ l, n ∣ c.length) : n ∣ l.flatten.length := by
  induction l with
  | nil => exact Nat.dvd_zero n
  | cons x l ih =>
    rw [List.forall_mem_cons] at hl
    rw [List.flatten_cons, List.length_append]
    exact Nat.dvd_add hl.1 (ih hl.2)

theorem mod_eq_of_dvd_add {n a b o : Nat} (h1 : n ∣ a + o) (h2 : n ∣ b + o) : a % n = b % n := by
  obtain ⟨k, hk⟩ := h1
  obtain ⟨m, hm⟩ := h2
  rw [← Nat.add_mul_mod_self_left a n m, ← hm, Nat.add_left_comm, hk, Nat.add_mul_mod_self_left]

theorem greedyFull_restart {p : CParams} (hv : p.valid) {h : Hash} {pre post : List Bytes} {s : Bytes}
    (hg : greedyFull p h s = some (pre ++ post)) : greedyFull p h (s.drop pre.flatten.length) = some post := by
  induction pre generalizing s with
  | nil => exact hg
  | cons x pre ih =>
    rcases greedyFull_inv hv hg with ⟨_, hnil⟩ | ⟨c, g', hl, _, _, hmax, _, hg', hcons⟩
    · cases hnil
    · cases hcons
      rw [List.flatten_cons, List.length_append, List.length_take_of_le (le_of_le_max hmax hl), ← List.drop_drop]
      exact ih hg'

def GreedyPrefixed (p : CParams) (h : Hash) (s : Bytes) (cs : List Bytes) : Prop :=
  ∃ g tail, greedyFull p h s = some g ∧ cs = g ++ tail

namespace GreedyPrefixed
variable {p : CParams} {h : Hash} {s : Bytes} {cs : List Bytes}

theorem small (hl : s.length < 2 * p.max) : GreedyPrefixed p h s cs :=
  ⟨[], cs, greedyFull_small h hl, rfl⟩

theorem step {c : Nat} (hmax : 0 < p.max) (hl : 2 * p.max ≤ s.length) (hm : mainCut p h s = some c) (h0 : c ≠ 0)
    (hr : GreedyPrefixed p h (s.drop c) cs) : GreedyPrefixed p h s (s.take c :: cs) := by
  obtain ⟨g, tail, hg, rfl⟩ := hr
  refine ⟨s.take c :: g, tail, ?_, rfl⟩
  rw [greedyFull_step hmax hl hm h0, hg]
  rfl

theorem cover (hv : p.valid) (hp : GreedyPrefixed p h s cs) :
    ∃ g tail, greedyFull p h s = some g ∧ cs = g ++ tail ∧ s.length < g.flatten.length + 2 * p.max := by
  obtain ⟨g, tail, hg, rfl⟩ := hp
  exact ⟨g, tail, hg, rfl, (greedyFull_lossless hv hg).2⟩

theorem pair {cs' : List Bytes} (hv : p.valid) (hp : GreedyPrefixed p h s cs) (hp' : GreedyPrefixed p h s cs') :
    ∃ g tail tail', cs = g ++ tail ∧ cs' = g ++ tail' ∧ s.length < g.flatten.length + 2 * p.max := by
  obtain ⟨g, tail, hg, rfl, hcov⟩ := hp.cover hv
  obtain ⟨g', tail', hg', rfl⟩ := hp'
  cases hg.symm.trans hg'
  exact ⟨g, tail, tail', rfl, rfl, hcov⟩

theorem boundary_cases {pre post : List Bytes} (hv : p.valid) (hp : GreedyPrefixed p h s (pre ++ post)) :
    (∃ m tail, greedyFull p h s = some (pre ++ m) ∧ post = m ++ tail) ∨ s.length < pre.flatten.length + 2 * p.max := by
  obtain ⟨g, tail, hg, he, hcov⟩ := hp.cover hv
  rcases List.append_eq_append_iff.mp he with ⟨m, rfl, h2⟩ | ⟨m, rfl, _⟩
  · exact Or.inl ⟨m, tail, hg, h2⟩
  · rw [List.flatten_append, List.length_append]
    exact Or.inr (Nat.lt_of_lt_of_le hcov (Nat.add_le_add_right (Nat.le_add_right _ _) _))

theorem restart {pre post : List Bytes} (hv : p.valid) (hp : GreedyPrefixed p h s (pre ++ post)) :
    GreedyPrefixed p h (s.drop pre.flatten.length) post := by
  rcases hp.boundary_cases hv with ⟨m, tail, hg, h2⟩ | hlt
  · exact ⟨m, tail, greedyFull_restart hv hg, h2⟩
  · refine .small ?_
    have := valid_max_pos hv
    rw [List.length_drop]
    omega

theorem aligned {pre post : List Bytes} (hv : p.valid) (hp : GreedyPrefixed p h s (pre ++ post))
    (hz : pre.flatten.length + 2 * p.max ≤ s.length) : Gen.align ∣ pre.flatten.length := by
  rcases hp.boundary_cases hv with ⟨m, _, hg, _⟩ | hlt
  · exact flatten_length_dvd pre fun c hc => (greedyFull_good hv hg c (List.mem_append_left m hc)).2.2
  · exact absurd hz (Nat.not_le.mpr hlt)

end GreedyPrefixed

theorem drain_final_greedy {p : CParams} (hv : p.valid) {h : Hash} {fuel : Nat} {buf : Bytes} {cs : List Bytes} {rest : Bytes}
    (hf : buf.length < fuel) (hd : drain p h true fuel buf = some (cs, rest)) : GreedyPrefixed p h buf cs := by
  revert hf
  refine drain_induct ?_ ?_ fuel buf cs rest hd
  · intro _ buf h0 hf
    rw [nextCut_final_zero hv (h0 (Nat.zero_lt_of_lt hf))]
    exact .small (Nat.mul_pos (by decide) (valid_max_pos hv))
  · intro fuel buf pos cs rest hpos hne ih hf
    rw [nextCut_final] at hpos
    split at hpos
    · rename_i hlt
      exact .small hlt
    · rename_i hge
      have hl : 2 * p.max ≤ buf.length := Nat.le_of_not_lt hge
      have hmax := valid_max_pos hv
      exact .step hmax hl hpos hne (ih (Nat.lt_of_lt_of_le (length_drop_lt_of_two_max_le hmax hl hne) (Nat.le_of_lt_succ hf)))

theorem drain_nonfinal_greedy {p : CParams} (hv : p.valid) {h : Hash} {fuel : Nat} {buf : Bytes} {cs : List Bytes} {rest : Bytes}
    (hd : drain p h false fuel buf = some (cs, rest)) {ext : Bytes} {more : List Bytes}
    (hm : GreedyPrefixed p h (rest ++ ext) more) : GreedyPrefixed p h (buf ++ ext) (cs ++ more) := by
  revert hm
  refine drain_induct ?_ ?_ fuel buf cs rest hd
  · intro _ _ _ hm
    exact hm
  · intro _ buf pos cs rest hpos hne ih hm
    obtain ⟨hpos, hl⟩ := nextCut_main hv hpos hne nofun
    have hple : pos ≤ buf.length :=
      Nat.le_trans (mainCut_bounds p hv h buf pos hpos).2.1 (Nat.le_trans (le_ceil4 p.max) hl)
    by_cases hsm : (buf ++ ext).length < 2 * p.max
    · exact .small hsm
    · have hr := ih hm
      rw [← List.drop_append_of_le_length hple] at hr
      -- the cut read only the first `ceil4 max` bytes of `buf`, so it is the main-rule cut of `buf ++ ext` as well
      have hs := hr.step (valid_max_pos hv) (Nat.le_of_not_lt hsm) ((mainCut_append h ext hl).trans hpos) hne
      rwa [List.take_append_of_le_length hple] at hs

theorem feed_greedy {p : CParams} (hv : p.valid) {h : Hash} {ps : List Bytes} {buf : Bytes} {cs : List Bytes} (hne : ps ≠ [])
    (hf : feed p h buf ps = some cs) : GreedyPrefixed p h (buf ++ ps.flatten) cs := by
  revert hne
  refine feed_induct ?_ ?_ ?_ buf ps cs hf
  · intro _ hne
    exact absurd rfl hne
  · intro buf pc cs rest hd _
    rw [List.flatten_cons, List.flatten_nil, List.append_nil]
    exact drain_final_greedy hv (Nat.lt_succ_self _) hd
  · intro buf pc q ps cs rest cs' hd ih _
    have := drain_nonfinal_greedy hv hd (ih (List.cons_ne_nil _ _))
    rwa [List.append_assoc] at this

/-- split independence: `pieces` is any segmentation of the stream -/
theorem chunkAll_greedy {p : CParams} (hv : p.valid) {h : Hash} {pieces : List Bytes} {cs : List Bytes}
    (hc : chunkAll p h pieces = some cs) : GreedyPrefixed p h pieces.flatten cs := by
  cases pieces with
  | nil =>
    cases hc
    exact .small (Nat.mul_pos (by decide) (valid_max_pos hv))
  | cons pc ps => exact feed_greedy hv (buf := []) (List.cons_ne_nil _ _) hc

theorem prefix_of_flatten_le {a b c d : List Bytes} (he : a ++ b = c ++ d) (hne : ∀ x ∈ a ++ b, x ≠ [])
    (hl : a.flatten.length ≤ c.flatten.length) : ∃ m, c = a ++ m := by
  rcases List.append_eq_append_iff.mp he with ⟨a', hc, _⟩ | ⟨c', ha, _⟩
  · exact ⟨a', hc⟩
  · cases c' with
    | nil => exact ⟨[], by rw [ha, List.append_nil, List.append_nil]⟩
    | cons x rest =>
      have hx : 0 < x.length := List.length_pos_iff.mpr (hne x (List.mem_append_left b (ha ▸ List.mem_append_right c List.mem_cons_self)))
      rw [ha, List.flatten_append, List.length_append, List.flatten_cons, List.length_append] at hl
      exact absurd hl (Nat.not_le.mpr (Nat.lt_add_of_pos_right (Nat.add_pos_left hx _)))

theorem drop_append_length_add (P X : Bytes) (o : Nat) : (P ++ X).drop (P.length + o) = X.drop o := by
  rw [← List.drop_drop, List.drop_left]

/-- Quantified over the ways of writing `s` as `U ++ Y`: the induction is on the greedy run of `s`. -/
theorem greedyFull_common_prefix {p : CParams} (hv : p.valid) {h : Hash} {Y Y' s : Bytes} {ga : List Bytes}
    (hga : greedyFull p h s = some ga) :
    ∀ U gb, s = U ++ Y → greedyFull p h (U ++ Y') = some gb →
      ∃ common ra rb, ga = common ++ ra ∧ gb = common ++ rb ∧ common.flatten.length ≤ U.length ∧
        (U.length < common.flatten.length + ceil4 p.max ∨ ra = [] ∨ rb = []) := by
  refine greedyFull_induct hv ?_ ?_ s ga hga
  · intro _ _ U gb _ _
    exact ⟨[], [], gb, rfl, rfl, Nat.zero_le _, Or.inr (Or.inl rfl)⟩
  · intro s c g1 hc hb _ ih U gb hs hgb
    by_cases hU : U.length < ceil4 p.max
    · exact ⟨[], _, gb, rfl, rfl, Nat.zero_le _, Or.inl (Nat.lt_of_lt_of_le hU (Nat.le_add_left _ _))⟩
    · have hUl : ceil4 p.max ≤ U.length := Nat.le_of_not_lt hU
      rcases greedyFull_inv hv hgb with ⟨_, rfl⟩ | ⟨c', g2, _, hc', _, _, _, hg2, rfl⟩
      · exact ⟨[], _, [], rfl, rfl, Nat.zero_le _, Or.inr (Or.inr rfl)⟩
      · -- both cuts read only `U`, so they are the same cut
        subst hs
        rw [mainCut_append h Y hUl] at hc
        rw [mainCut_append h Y' hUl, hc] at hc'
        cases hc'
        have hcl : c ≤ U.length := Nat.le_trans hb.2.1 (Nat.le_trans (le_ceil4 p.max) hUl)
        rw [List.drop_append_of_le_length hcl] at hg2
        obtain ⟨common, ra, rb, rfl, rfl, hle, hor⟩ := ih (U.drop c) g2 (List.drop_append_of_le_length hcl) hg2
        rw [List.length_drop] at hle hor
        rw [List.take_append_of_le_length hcl, List.take_append_of_le_length hcl]
        refine ⟨U.take c :: common, ra, rb, rfl, rfl, ?_, hor.imp_left fun hlt => ?_⟩
        · rw [List.flatten_cons, List.length_append, List.length_take_of_le hcl]
          exact (Nat.le_sub_iff_add_le' hcl).mp hle
        · rw [List.flatten_cons, List.length_append, List.length_take_of_le hcl, Nat.add_assoc]
          exact (Nat.sub_lt_iff_lt_add' hcl).mp hlt

/-- Two streams `U ++ Y`, `U ++ Y'`: lists that start with their greedy chunkings share every chunk that starts at least
`ceil4 max` before the end of `U` (unless one of the streams is already in its tail zone). -/
theorem GreedyPrefixed.common_prefix {p : CParams} {h : Hash} {U Y Y' : Bytes} {ca cb : List Bytes} (hv : p.valid)
    (ha : GreedyPrefixed p h (U ++ Y) ca) (hb : GreedyPrefixed p h (U ++ Y') cb) :
    ∃ common ra rb, ca = common ++ ra ∧ cb = common ++ rb ∧ common.flatten.length ≤ U.length ∧
      (U.length < common.flatten.length + ceil4 p.max ∨ (U ++ Y).length < common.flatten.length + 2 * p.max ∨
        (U ++ Y').length < common.flatten.length + 2 * p.max) := by
  obtain ⟨ga, ta, hga, rfl, hca⟩ := ha.cover hv
  obtain ⟨gb, tb, hgb, rfl, hcb⟩ := hb.cover hv
  obtain ⟨common, ra, rb, rfl, rfl, hle, hor⟩ := greedyFull_common_prefix hv hga U gb rfl hgb
  refine ⟨common, ra ++ ta, rb ++ tb, List.append_assoc _ _ _, List.append_assoc _ _ _, hle, ?_⟩
  rcases hor with hor | rfl | rfl
  · exact Or.inl hor
  · rw [List.append_nil] at hca
    exact Or.inr (Or.inl hca)
  · rw [List.append_nil] at hcb
    exact Or.inr (Or.inr hcb)

theorem greedy_congr (p : CParams) {h h' : Hash} (hh : ∀ w : Bytes, w.length = 8 → h w = h' w) (fuel : Nat) (s : Bytes) :
    greedy p h fuel s = greedy p h' fuel s := by
  induction fuel generalizing s with
  | zero => rfl
  | succ n ih => simp only [greedy, mainCut_congr p hh, ih]

namespace Sync

theorem padding_lt (len : Nat) : Gen.padding len Gen.align < Gen.align :=
  Nat.mod_lt _ (by decide)

theorem padding_dvd (len : Nat) : Gen.align ∣ len + Gen.padding len Gen.align := by
  rw [Gen.align_eq]
  show 4 ∣ len + (4 - len % 4) % 4
  omega

theorem padOf_length (len : Nat) : (padOf len).length = Gen.padding len Gen.align :=
  List.length_replicate

theorem padPrefix_aligned (pre : List Bytes) : Gen.align ∣ (padPrefix pre).length := by
  induction pre with
  | nil => exact Nat.dvd_zero _
  | cons f rest ih =>
    rw [padPrefix, List.length_append, List.length_append, padOf_length]
    exact Nat.dvd_add (padding_dvd f.length) ih

theorem padStream_split (pre : List Bytes) (f : Bytes) (post : List Bytes) :
    padStream (pre ++ f :: post) = padPrefix pre ++ padStream (f :: post) := by
  induction pre with
  | nil => rfl
  | cons a rest ih =>
    cases rest with
    | nil => simp only [List.cons_append, List.nil_append, padStream, padPrefix, List.append_nil]
    | cons b rest' =>
      simp only [List.cons_append] at ih ⊢
      simp only [padStream, padPrefix, ih, List.append_assoc]

theorem padStream_head (f : Bytes) (post : List Bytes) : ∃ Q, padStream (f :: post) = f ++ Q := by
  cases post with
  | nil => exact ⟨[], (List.append_nil f).symm⟩
  | cons g rest => exact ⟨padOf f.length ++ padStream (g :: rest), List.append_assoc _ _ _⟩

theorem flatten_ite_nil (b : Bytes) : (if b = [] then [] else [b] : List Bytes).flatten = b := by
  split
  · rename_i hb
    exact hb.symm
  · exact List.flatten_singleton ..

theorem padPieces_flatten (files : List Bytes) : (padPieces files).flatten = padStream files := by
  induction files with
  | nil => rfl
  | cons f rest ih =>
    cases rest with
    | nil => exact flatten_ite_nil f
    | cons g rest' => rw [padPieces, padStream, List.flatten_append, List.flatten_append, flatten_ite_nil, flatten_ite_nil, ih]

theorem splitEvery_flatten (t fuel : Nat) (b : Bytes) : (splitEvery t fuel b).flatten = b := by
  induction fuel generalizing b with
  | zero => exact List.flatten_singleton ..
  | succ n ih =>
    unfold splitEvery
    split
    · exact List.flatten_singleton ..
    · rw [List.flatten_cons, ih, List.take_append_drop]

theorem resplit_flatten (t : Nat) (blocks : List Bytes) : (resplit t blocks).flatten = blocks.flatten := by
  unfold resplit
  induction blocks with
  | nil => rfl
  | cons b bs ih => rw [List.flatMap_cons, List.flatten_append, splitEvery_flatten, ih, List.flatten_cons]

theorem foldl_resplit_flatten (ts : List Nat) (blocks : List Bytes) :
    (ts.foldl (fun ps t => resplit t ps) blocks).flatten = blocks.flatten := by
  induction ts generalizing blocks with
  | nil => rfl
  | cons t ts ih => rw [List.foldl_cons, ih, resplit_flatten]

/-- a rule is harmless when each of its answers is `next_cut`'s answer on the same buffer and finality -/
def PyRule.Agrees (p : CParams) (h : Hash) (rule : PyRule) : Prop :=
  ∀ (prev : Option Bytes) (buf : Bytes) (final : Bool) (pos : Nat), rule prev buf final = some pos → nextCut p h buf final = some pos

theorem noPyRule_agrees (p : CParams) (h : Hash) : PyRule.Agrees p h noPyRule :=
  fun _ _ _ _ hr => nomatch hr

theorem cutWith_agrees {p : CParams} {h : Hash} {rule : PyRule} (hr : PyRule.Agrees p h rule)
    (prev : Option Bytes) (buf : Bytes) (final : Bool) : cutWith p h rule prev buf final = nextCut p h buf final := by
  unfold cutWith
  cases hrule : rule prev buf final with
  | none => rfl
  | some pos => exact (hr prev buf final pos hrule).symm

theorem drainH_agrees {p : CParams} {h : Hash} {rule : PyRule} (hr : PyRule.Agrees p h rule) (final : Bool) (fuel : Nat)
    (prev : Option Bytes) (buf : Bytes) : drainH p h rule final fuel prev buf = drain p h final fuel buf := by
  induction fuel generalizing prev buf with
  | zero => rfl
  | succ n ih =>
    rw [drainH, drain, cutWith_agrees hr]
    cases nextCut p h buf final with
    | none => rfl
    | some pos =>
      dsimp only
      rw [ih]
      cases drain p h final n (buf.drop pos) <;> rfl

theorem feedH_agrees {p : CParams} {h : Hash} {rule : PyRule} (hr : PyRule.Agrees p h rule) (ps : List Bytes)
    (prev : Option Bytes) (buf : Bytes) : feedH p h rule prev buf ps = feed p h buf ps := by
  induction ps generalizing prev buf with
  | nil => rfl
  | cons pc ps ih =>
    cases ps with
    | nil => rw [feedH, feed, drainH_agrees hr]
    | cons q qs =>
      rw [feedH, feed, drainH_agrees hr]
      cases drain p h false (drainFuel (buf ++ pc)) (buf ++ pc) with
      | none => rfl
      | some r =>
        dsimp only
        rw [ih]
        cases feed p h r.2 (q :: qs) <;> rfl

theorem chunkAllH_agrees {p : CParams} {h : Hash} {rule : PyRule} (hr : PyRule.Agrees p h rule) (pieces : List Bytes) :
    chunkAllH p h rule pieces = chunkAll p h pieces :=
  feedH_agrees hr pieces none []

/-- the plug-in section `tools/sections/11_cutsource.py` ran and recognised `gclmulchunker.__call__` (compile-time check, cited by
no proof) -/
theorem cutsourceSectionOk_eq : Gen.cutsourceSectionOk = true := rfl

/-- every cut position of `gclmulchunker.__call__` is the value of `next_cut(buffer, …)` on the buffer that is sliced
(`Gen.adapterCutsNotFromNextCut`, `Gen.adapterNextCutOnCurrentBuffer`).  An edit that computes a position in Python makes this
stop compiling. -/
theorem adapterRule_eq (unknown : PyRule) : adapterRule unknown = noPyRule :=
  if_pos (by decide)

end Sync

end Replicat
