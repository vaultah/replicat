import ReplicatModel.LocalClean
import ReplicatProofs.Lemmas.LocalFS
import ReplicatProofs.Lemmas.Common
/-! Lemmas for C08 on the local backend: any order of the file-less directories in which no directory precedes a directory below
it (what the recursive generator `_find_deletable` produces, whatever order `os.scandir` reports entries in) runs without
`ENOTEMPTY` and removes exactly those directories; the model's own order is one of them. -/
namespace Replicat.LocalClean
open Replicat Replicat.Store Replicat.LocalFS

theorem below_iff {d p : Path} : below d p = true ↔ d <+: p ∧ d.length < p.length := by
  rw [below, Bool.and_eq_true, List.isPrefixOf_iff_prefix, decide_eq_true_iff]

theorem below_length {d p : Path} (h : below d p = true) : d.length < p.length :=
  (below_iff.mp h).2

theorem below_ne {d p : Path} (h : below d p = true) : p ≠ d :=
  fun e => Nat.lt_irrefl _ (e ▸ below_length h)

theorem below_prefix {d p : Path} (h : below d p = true) : d <+: p :=
  (below_iff.mp h).1

theorem below_trans {a b c : Path} (h1 : below a b = true) (h2 : below b c = true) : below a c = true :=
  below_iff.mpr ⟨(below_prefix h1).trans (below_prefix h2), Nat.lt_trans (below_length h1) (below_length h2)⟩

theorem hasFileBelow_trans {fs : FS} {a b : Path} (h1 : below a b = true) (h2 : hasFileBelow fs b = true) : hasFileBelow fs a = true := by
  obtain ⟨e, he, hb⟩ := List.any_eq_true.mp h2
  exact List.any_eq_true.mpr ⟨e, he, below_trans h1 hb⟩

/-- the order-independent description of what the walk yields with the flag set -/
structure PostOrder (fs : FS) (l : List Path) : Prop where
  nodup : l.Nodup
  isDir : ∀ d ∈ l, d ∈ fs.dirs
  fileless : ∀ d ∈ l, hasFileBelow fs d = false
  closed : ∀ d ∈ l, ∀ p ∈ fs.dirs, below d p = true → p ∈ l
  order : l.Pairwise (fun a b => below a b = false)

theorem postOrder_head_empty {fs : FS} {d : Path} {l : List Path} (h : PostOrder fs (d :: l)) : hasDirBelow fs d = false := by
  refine List.any_eq_false.mpr (fun p hp hbel => ?_)
  rcases List.mem_cons.mp (h.closed d List.mem_cons_self p hp hbel) with e | hm
  · exact below_ne hbel e
  · exact Bool.false_ne_true (((List.pairwise_cons.mp h.order).1 p hm).symm.trans hbel)

theorem postOrder_tail {fs : FS} {d : Path} {l : List Path} (h : PostOrder fs (d :: l)) :
    PostOrder { fs with dirs := fs.dirs.filter (fun p => p ≠ d) } l := by
  have hnd : d ∉ l := (List.nodup_cons.mp h.nodup).1
  refine ⟨(List.nodup_cons.mp h.nodup).2, fun e he => ?_, fun e he => h.fileless e (List.mem_cons_of_mem _ he),
    fun e he p hp hbel => ?_, (List.pairwise_cons.mp h.order).2⟩
  · exact List.mem_filter.mpr ⟨h.isDir e (List.mem_cons_of_mem _ he), decide_eq_true (fun eq => hnd (eq ▸ he))⟩
  · obtain ⟨hp1, hp2⟩ := List.mem_filter.mp hp
    exact (List.mem_cons.mp (h.closed e (List.mem_cons_of_mem _ he) p hp1 hbel)).resolve_left (of_decide_eq_true hp2)

theorem runPlan_postorder (l : List Path) : ∀ (fs : FS), PostOrder fs l →
    runPlan fs l = .ok { fs with dirs := fs.dirs.filter (fun p => p ∉ l) } := by
  induction l with
  | nil =>
    intro fs _
    exact congrArg (fun ds => Except.ok { fs with dirs := ds })
      (List.filter_eq_self.mpr (fun (p : Path) _ => decide_eq_true (List.not_mem_nil (a := p)))).symm
  | cons d l ih =>
    intro fs h
    have hr : rmdir fs d = .ok { fs with dirs := fs.dirs.filter (fun p => p ≠ d) } := by
      rw [rmdir, if_pos (h.isDir d List.mem_cons_self), h.fileless d List.mem_cons_self, postOrder_head_empty h]
      rfl
    rw [runPlan, hr]
    refine (ih _ (postOrder_tail h)).trans (congrArg (fun ds => Except.ok { fs with dirs := ds }) ?_)
    rw [List.filter_filter]
    refine List.filter_congr (fun p _ => ?_)
    rw [← Bool.decide_and, decide_eq_decide, List.mem_cons, not_or, and_comm]

theorem sortDeeper_eq (l : List Path) : sortDeeper l = insertionSort (fun a b => decide (b.length ≤ a.length)) l := by
  refine congrArg (fun f => l.foldr f []) (funext fun d => funext fun s => ?_)
  induction s with
  | nil => exact (List.merge_right [d]).symm
  | cons x xs ih =>
    rw [insertDeeper, merge_singleton_cons, ih]
    simp only [decide_eq_true_eq]

theorem sortDeeper_perm (l : List Path) : (sortDeeper l).Perm l :=
  sortDeeper_eq l ▸ perm_insertionSort _ l

theorem sortDeeper_sorted (l : List Path) : (sortDeeper l).Pairwise (fun a b => b.length ≤ a.length) := by
  rw [sortDeeper_eq]
  refine (pairwise_insertionSort (fun a b c hab hbc => ?_) (List.pairwise_of_forall fun a b => ?_)).imp of_decide_eq_true
  · exact decide_eq_true (Nat.le_trans (of_decide_eq_true hbc) (of_decide_eq_true hab))
  · exact (Nat.le_total b.length a.length).imp decide_eq_true decide_eq_true

theorem mem_plan (fs : FS) (d : Path) : d ∈ plan fs ↔ d ∈ fs.dirs ∧ d ≠ [] ∧ hasFileBelow fs d = false := by
  rw [plan, (sortDeeper_perm _).mem_iff, mem_dedup, List.mem_filter, decide_eq_true_iff, flagged, Bool.not_eq_true']

theorem plan_postorder (fs : FS) : PostOrder fs (plan fs) := by
  refine ⟨(sortDeeper_perm _).nodup_iff.mpr (nodup_dedup _), fun d hd => ((mem_plan fs d).mp hd).1,
    fun d hd => ((mem_plan fs d).mp hd).2.2, fun d hd p hp hbel => ?_, (sortDeeper_sorted _).imp (fun {a b} hab => ?_)⟩
  · refine (mem_plan fs p).mpr ⟨hp, fun e => Nat.not_lt_zero _ (e ▸ below_length hbel), Bool.eq_false_iff.mpr (fun hq => ?_)⟩
    exact Bool.false_ne_true (((mem_plan fs d).mp hd).2.2.symm.trans (hasFileBelow_trans hbel hq))
  · exact Bool.eq_false_iff.mpr (fun hq => Nat.not_lt.mpr hab (below_length hq))

/-- with the extracted shape of the code, `Local.clean()` succeeds and removes exactly the planned directories -/
theorem clean_eq (fs : FS) (hrec : recognised = true) :
    clean fs = .ok { fs with dirs := fs.dirs.filter (fun p => p ∉ plan fs) } := by
  unfold clean
  rw [if_pos hrec, runPlan_postorder _ _ (plan_postorder fs)]

theorem get_foldl_erase (dels : List Path) : ∀ (fs : FS) (q : Path), q ∉ dels → (dels.foldl FS.erase fs).get q = fs.get q := by
  induction dels with
  | nil => intro fs q _; rfl
  | cons d l ih =>
    intro fs q hq
    rw [List.foldl_cons, ih _ q (fun h => hq (List.mem_cons_of_mem _ h))]
    exact alookup_aerase_ne fs.files d q (fun e => hq (e ▸ List.mem_cons_self))

theorem dirs_foldl_erase (dels : List Path) : ∀ (fs : FS), (dels.foldl FS.erase fs).dirs = fs.dirs := by
  induction dels with
  | nil => intro fs; rfl
  | cons d l ih => intro fs; simp only [List.foldl_cons]; rw [ih]; rfl

theorem alookup_mem {κ β : Type} [DecidableEq κ] (l : List (κ × β)) (k : κ) (v : β) (h : alookup l k = some v) : (k, v) ∈ l := by
  induction l with
  | nil => cases h
  | cons a l ih =>
    obtain ⟨k', v'⟩ := a
    by_cases e : k' = k
    · subst e
      simp [alookup] at h
      subst h
      exact List.mem_cons_self
    · simp [alookup, e] at h
      exact List.mem_cons_of_mem _ (ih h)

end Replicat.LocalClean
