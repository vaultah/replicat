import ReplicatProofs.Lemmas.LocalList
/-! Lemmas for C13: the normal form of the local listing is exactly the set of live names with the prefix, each once; the
intermediate states of an upload and the name of its temporary. -/
namespace Replicat.LocalFS
open Replicat Replicat.Store

theorem splitSlash_joinSlash_append (p : Path) (hp : ∀ s ∈ p, '/' ∉ s) (bn : List Char) (hbn : '/' ∉ bn) (t : List Char) :
    splitSlash (joinSlash (p ++ [bn]) ++ t) = p ++ (bn ++ (splitSlash t).headD []) :: (splitSlash t).tail := by
  by_cases hp0 : p = []
  · rw [hp0]
    exact splitSlash_append_noslash bn t hbn
  · rw [joinSlash_append p [bn] hp0 (List.cons_ne_nil _ _), List.append_assoc, List.cons_append, splitSlash_append_slash',
      splitSlash_joinSlash p hp0 hp]
    exact congrArg (List.append p) (splitSlash_append_noslash bn t hbn)

theorem joinSlash_concat_append (p : Path) (x h : List Char) : joinSlash (p ++ [x ++ h]) = joinSlash (p ++ [x]) ++ h := by
  by_cases hp : p = []
  · rw [hp]
    rfl
  · rw [joinSlash_append p [x ++ h] hp (List.cons_ne_nil _ _), joinSlash_append p [x] hp (List.cons_ne_nil _ _), List.append_assoc]
    rfl

/-- a prefix with a normal directory part matches a canonical name iff the name continues the directory and its next segment
starts with the basename -/
theorem prefix_iff (ds : Path) (hds : ∀ s ∈ ds, '/' ∉ s) (bn : List Char) (hbn : '/' ∉ bn)
    (q : Path) (hq : validPath q = true) :
    joinSlash (ds ++ [bn]) <+: joinSlash q ↔ ∃ e sub, q = ds ++ [e] ++ sub ∧ bn <+: e := by
  constructor
  · rintro ⟨t, ht⟩
    have hsplit := splitSlash_joinSlash_append ds hds bn hbn t
    rw [ht, split_join_valid hq, List.append_cons] at hsplit
    exact ⟨_, _, hsplit, List.prefix_append _ _⟩
  · rintro ⟨e, sub, rfl, ⟨h, rfl⟩⟩
    rw [joinSlash_append_slashed _ sub (List.append_ne_nil_of_right_ne_nil ds (List.cons_ne_nil _ [])), joinSlash_concat_append,
      List.append_assoc]
    exact List.prefix_append _ _

theorem innerNF_key {fs : FS} {d : Path} {s : Name} (h : s ∈ innerNF fs d) :
    ∃ sub, d ++ sub ∈ fs.files.map (·.1) ∧ s = joinSlash (d ++ sub) := by
  obtain ⟨sub, hsub, rfl⟩ := List.mem_map.mp h
  exact ⟨sub, key_of_mem_subsOf hsub, rfl⟩

section spec
variable {U : Path → Prop} (hU : Universe U) {fs : FS} (hinv : Inv U fs)
include hU hinv

theorem key_valid {q : Path} (hq : q ∈ fs.files.map (·.1)) : validPath q = true := hU.valid q (hinv.filesU q hq)

/-- the directory part of a matching live name is a directory that can be scanned -/
theorem kind_dir_of_key {ds t : Path} (ht : t ≠ []) (hq : ds ++ t ∈ fs.files.map (·.1)) : fs.kind ds = .dir := by
  by_cases hds : ds = []
  · rw [hds]
    rfl
  · have hanc := mem_ancestors_append ds t hds ht
    have hb : fs.blocked ds = false :=
      List.any_eq_false.mpr (fun a ha hf =>
        hU.prefixFree a _ (hinv.filesU a ((isFile_iff fs a).mp hf)) (hinv.filesU _ hq) (ancestors_trans ha hanc))
    have hd : fs.isDir ds = true := decide_eq_true (Or.inr (hinv.dirsOfFiles _ hq ds hanc))
    rw [FS.kind, hb, if_neg Bool.false_ne_true, if_pos hd]

theorem mem_listNF (ds : Path) (hds : ∀ s ∈ ds, validSeg s = true) (bn : List Char) (hbn : '/' ∉ bn) (s : Name) :
    s ∈ listNF fs ds bn ↔ ∃ q, q ∈ fs.files.map (·.1) ∧ s = joinSlash q ∧ joinSlash (ds ++ [bn]) <+: s := by
  have hdsp : ∀ s ∈ ds, '/' ∉ s := fun s hs => (plainSeg_of_valid (hds s hs)).2
  constructor
  · intro h
    obtain ⟨e, he, hs⟩ := List.mem_flatMap.mp (List.mem_ite_nil_left.mp h).2
    obtain ⟨sub, hq, rfl⟩ := innerNF_key hs
    exact ⟨_, hq, rfl, (prefix_iff ds hdsp bn hbn _ (key_valid hU hinv hq)).mpr
      ⟨e, sub, rfl, List.isPrefixOf_iff_prefix.mp (List.mem_filter.mp he).2⟩⟩
  · rintro ⟨q, hq, rfl, hpre⟩
    obtain ⟨e, sub, rfl, hbe⟩ := (prefix_iff ds hdsp bn hbn q (key_valid hU hinv hq)).mp hpre
    have hne : ds ++ [e] ≠ [] := List.append_ne_nil_of_right_ne_nil ds (List.cons_ne_nil e [])
    have hk : fs.kind ds = .dir :=
      kind_dir_of_key hU hinv (List.append_ne_nil_of_left_ne_nil (List.cons_ne_nil e []) sub) (List.append_assoc ds [e] sub ▸ hq)
    have hentry : ds ++ [e] ∈ fs.files.map (·.1) ∨ ds ++ [e] ∈ fs.dirs :=
      (dir_or_file_of_key hU hinv hne hq).imp (fun h => h.2.2) (fun h => h.2)
    exact List.mem_ite_nil_left.mpr ⟨fun h => h hk, List.mem_flatMap.mpr ⟨e,
      List.mem_filter.mpr ⟨(mem_entries fs ds e).mpr hentry, List.isPrefixOf_iff_prefix.mpr hbe⟩,
      List.mem_map.mpr ⟨sub, (mem_subsOf hU hinv hne).mpr hq, rfl⟩⟩⟩

theorem nodup_listNF (ds : Path) (bn : List Char) : (listNF fs ds bn).Nodup := by
  unfold listNF
  by_cases hk : fs.kind ds ≠ .dir
  · rw [if_pos hk]
    exact List.nodup_nil
  · rw [if_neg hk, List.nodup_flatMap]
    constructor
    · intro e _
      refine (nodup_subsOf fs hinv.nodup _).map_on (fun sub hsub sub' hsub' heq => ?_)
      exact List.append_cancel_left (joinSlash_inj_valid (key_valid hU hinv (key_of_mem_subsOf hsub))
        (key_valid hU hinv (key_of_mem_subsOf hsub')) heq)
    · refine ((nodup_dedup _).filter _).imp ?_
      intro a b hne s hsa hsb
      obtain ⟨sub, hq, rfl⟩ := innerNF_key hsa
      obtain ⟨sub', hq', heq⟩ := innerNF_key hsb
      have h := joinSlash_inj_valid (key_valid hU hinv hq) (key_valid hU hinv hq') heq
      rw [List.append_assoc, List.append_assoc] at h
      exact hne (List.cons.inj (List.append_cancel_left h)).1

theorem abs_isSome_iff (s : Name) : (fs.abs s).isSome = true ↔ ∃ q, q ∈ fs.files.map (·.1) ∧ s = joinSlash q := by
  unfold FS.abs
  constructor
  · intro h
    obtain ⟨d, hd⟩ := Option.isSome_iff_exists.mp h
    have hget := (Option.ite_none_right_eq_some.mp hd).2
    exact ⟨splitSlash s, (isFile_iff fs _).mp (Option.isSome_iff_exists.mpr ⟨d, hget⟩), (joinSlash_splitSlash s).symm⟩
  · rintro ⟨q, hq, rfl⟩
    have hv := key_valid hU hinv hq
    rw [if_pos (validName_joinSlash hv), split_join_valid hv]
    exact (isFile_iff fs q).mpr hq

end spec

theorem normalPrefix_split (pfx : Name) (h : normalPrefix pfx = true) :
    ∃ ds bn, (∀ s ∈ ds, validSeg s = true) ∧ '/' ∉ bn ∧ pfx = joinSlash (ds ++ [bn]) := by
  obtain ⟨bn, hbn⟩ := Option.isSome_iff_exists.mp (List.getLast?_isSome.mpr (splitSlash_ne_nil pfx))
  have hsp := List.dropLast_append_getLast? bn hbn
  refine ⟨(splitSlash pfx).dropLast, bn, List.all_eq_true.mp h, ?_, ?_⟩
  · exact splitSlash_seg_no_slash pfx bn (List.mem_of_getLast? hbn)
  · rw [hsp, joinSlash_splitSlash]

theorem gen_temp_suffix : Gen.localTempSuffix.toList = ".tmp".toList := congrArg String.toList rfl

/-- a name that does not end in `.tmp` never addresses the temporary file of an upload -/
theorem ne_tempPath (m : Name) (hm : tmpName m = false) (p : Path) (rnd : List Char) : splitSlash m ≠ tempPath p rnd := by
  intro e
  have hsuf : ".tmp".toList <:+ m := by
    rw [← joinSlash_splitSlash m, e, tempPath, gen_temp_suffix]
    refine List.IsSuffix.trans (List.suffix_append ((p.getLast?.getD []).take 240 ++ '_' :: rnd) _) ?_
    by_cases h : p.dropLast = []
    · rw [h]
      exact List.suffix_refl _
    · rw [joinSlash_append _ _ h (List.cons_ne_nil _ _)]
      exact List.suffix_append_of_suffix (List.suffix_cons _ _)
  rw [tmpName, List.isSuffixOf_iff_suffix.mpr hsuf] at hm
  cases hm

theorem uploadState_final (fs : FS) (p : Path) (rnd : List Char) (d : Bytes) (k : Nat) :
    uploadState fs p rnd d (k + 4) =
      ⟨ainsert (aerase (ainsert (ainsert fs.files (tempPath p rnd) []) (tempPath p rnd) d) (tempPath p rnd)) p d,
       (fs.mkdirs (ancestors p)).dirs⟩ := by
  unfold uploadState
  rw [List.take_of_length_le (Nat.le_add_left 4 k)]
  simp only [uploadSteps, List.foldl, FS.apply, FS.write, FS.mkdirs, FS.get, FS.erase, alookup_ainsert, if_true]

theorem uploadState_2 (fs : FS) (p : Path) (rnd : List Char) (d : Bytes) :
    (uploadState fs p rnd d 2).files = ainsert fs.files (tempPath p rnd) [] := rfl

theorem uploadState_3 (fs : FS) (p : Path) (rnd : List Char) (d : Bytes) :
    (uploadState fs p rnd d 3).files = ainsert (ainsert fs.files (tempPath p rnd) []) (tempPath p rnd) d := rfl

end Replicat.LocalFS
