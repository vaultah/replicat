import ReplicatModel.KeyFileIO
import ReplicatProofs.Lemmas.Settings
/-! Key rings (`Ring`, `stepKey`) and the key files on disk (`ReplicatModel/KeyFileIO.lean`): the invariants behind the add-key and
key-file theorems of `Properties/C17.lean`. -/
namespace Replicat.Settings
open Replicat.Gen

/-- invariant of every key ring built by `init` and add-key: each key file is sealed with the user key derived from its
own KDF parameters, its own salt and the password it was made for -/
def RingOk {κ : Type} (r : Ring κ) : Prop :=
  ∀ kp ∈ r.keys, kp.1.sealedWith = ⟨kp.1.kdf, kp.1.salt, kp.2⟩

/-- the KDF is injective, the AEAD opens only with the sealing key -/
theorem unlockKey_sealed_iff {κ : Type} [DecidableEq κ] {k : KeyFile κ} {p : Pw} (hs : k.sealedWith = ⟨k.kdf, k.salt, p⟩)
    (p' : Pw) : (unlockKey k p').isSome = true ↔ p' = p := by
  unfold unlockKey
  rw [hs]
  constructor
  · intro h
    split at h
    · rename_i heq
      injection heq
    · cases h
  · rintro rfl
    rw [if_pos rfl]
    rfl

theorem ringOk_init {κ : Type} (pw : Pw) (kdf : κ) : RingOk (initRing pw kdf) := by
  intro kp hkp
  cases List.mem_singleton.mp hkp
  rfl

theorem ringOk_snoc {κ : Type} {r : Ring κ} (h : RingOk r) {kp : KeyFile κ × Pw} (nx : Nat)
    (hs : kp.1.sealedWith = ⟨kp.1.kdf, kp.1.salt, kp.2⟩) : RingOk ({ keys := r.keys ++ [kp], next := nx } : Ring κ) := by
  intro q hq
  rcases List.mem_append.mp hq with hq | hq
  · exact h q hq
  · cases List.mem_singleton.mp hq
    exact hs

theorem producedKey_sealed {κ : Type} [DecidableEq κ] {valid : κ → Bool} {r : Ring κ} {op : KeyOp κ} {kp : KeyFile κ × Pw}
    {nx : Nat} (h : producedKey valid r op = some (kp, nx)) : kp.1.sealedWith = ⟨kp.1.kdf, kp.1.salt, kp.2⟩ := by
  cases op with
  | independent pw kdf =>
    simp only [producedKey] at h
    split at h
    · cases h
      rfl
    · cases h
  | shared i upw pw kdf =>
    simp only [producedKey] at h
    repeat' split at h
    all_goals first | (cases h; done) | (cases h; rfl)
  | clone i upw kdf =>
    simp only [producedKey] at h
    repeat' split at h
    all_goals first | (cases h; done) | (cases h; rfl)

/-- `producedKey` is `stepKey` seen from the key-writing statement -/
theorem stepKey_eq_produced {κ : Type} [DecidableEq κ] (valid : κ → Bool) (r : Ring κ) (op : KeyOp κ) :
    stepKey valid r op =
      match producedKey valid r op with
      | none => r
      | some (kp, nx) => { keys := r.keys ++ [kp], next := nx } := by
  cases op with
  | independent pw kdf =>
    simp only [stepKey, producedKey]
    split <;> rfl
  | shared i upw pw kdf =>
    simp only [stepKey, producedKey]
    cases r.keys[i]? with
    | none => rfl
    | some kq =>
      obtain ⟨k, _⟩ := kq
      dsimp only
      cases unlockKey k upw with
      | none => rfl
      | some fam => cases valid kdf <;> rfl
  | clone i upw kdf =>
    simp only [stepKey, producedKey]
    cases r.keys[i]? with
    | none => rfl
    | some kq =>
      obtain ⟨k, _⟩ := kq
      dsimp only
      cases unlockKey k upw with
      | none => rfl
      | some fam => cases valid kdf <;> rfl

theorem ringOk_step {κ : Type} [DecidableEq κ] (valid : κ → Bool) {r : Ring κ} (h : RingOk r) (op : KeyOp κ) :
    RingOk (stepKey valid r op) := by
  rw [stepKey_eq_produced]
  cases hp : producedKey valid r op with
  | none => exact h
  | some kn => exact ringOk_snoc h kn.2 (producedKey_sealed hp)

theorem ringOk_run {κ : Type} [DecidableEq κ] (valid : κ → Bool) (ops : List (KeyOp κ)) {r : Ring κ} (h : RingOk r) :
    RingOk (runKeyOps valid r ops) := by
  induction ops generalizing r with
  | nil => exact h
  | cons op ops ih => exact ih (ringOk_step valid h op)

theorem writeBytes_overwrites {α : Type} (m : WriteMode) (hm : overwrites m = true) (old : Option (List α)) (new : List α) :
    writeBytes m old new = .ok new := by
  cases m <;> first | rfl | cases hm

/-- invariant: the ring is well sealed, and every path this history wrote holds exactly the serialisation of the key it was
last given, a key of the ring -/
def DiskOk {κ α : Type} (ser : KeyFile κ → List α) (d : KeyDisk κ α) : Prop :=
  RingOk d.ring ∧ ∀ p kp, d.holder.lookup p = some kp → d.files.lookup p = some (ser kp.1) ∧ kp ∈ d.ring.keys

theorem holds_cons {κ α : Type} {ser : KeyFile κ → List α} {holder : List (Nat × (KeyFile κ × Pw))} {files : List (Nat × List α)}
    {keys keys' : List (KeyFile κ × Pw)} {q : Nat} {kq : KeyFile κ × Pw}
    (h : ∀ p kp, holder.lookup p = some kp → files.lookup p = some (ser kp.1) ∧ kp ∈ keys)
    (hsub : ∀ kp ∈ keys, kp ∈ keys') (hq : kq ∈ keys') :
    ∀ p kp, ((q, kq) :: holder).lookup p = some kp → ((q, ser kq.1) :: files).lookup p = some (ser kp.1) ∧ kp ∈ keys' := by
  intro p kp hp
  cases hpq : p == q with
  | true =>
    simp only [List.lookup_cons, hpq] at hp ⊢
    cases hp
    exact ⟨rfl, hq⟩
  | false =>
    simp only [List.lookup_cons, hpq] at hp ⊢
    exact ⟨(h p kp hp).1, hsub kp (h p kp hp).2⟩

theorem diskOk_init {κ α : Type} (m : WriteMode) (hm : overwrites m = true) (ser : KeyFile κ → List α)
    (files0 : List (Nat × List α)) (pw : Pw) (kdf : κ) (out0 : Option Nat) :
    ∃ d, initDisk m ser files0 pw kdf out0 = some d ∧ DiskOk ser d := by
  cases out0 with
  | none => exact ⟨_, rfl, ringOk_init pw kdf, fun _ _ h => nomatch h⟩
  | some p =>
    simp only [initDisk, writeBytes_overwrites m hm]
    exact ⟨_, rfl, ringOk_init pw kdf, holds_cons (keys := []) (fun _ _ h => nomatch h) (fun _ h => nomatch h)
      (List.mem_singleton_self _)⟩

theorem diskOk_step {κ α : Type} [DecidableEq κ] (m : WriteMode) (hm : overwrites m = true) (ser : KeyFile κ → List α)
    (valid : κ → Bool) (d : KeyDisk κ α) (h : DiskOk ser d) (o : KeyOpAt κ) : DiskOk ser (stepDisk m ser valid d o) := by
  unfold stepDisk
  cases hp : producedKey valid d.ring o.op with
  | none => exact h
  | some kn =>
    obtain ⟨kp, nx⟩ := kn
    have hr := ringOk_snoc h.1 nx (producedKey_sealed hp)
    cases o.out with
    | none => exact ⟨hr, fun p q hq => ⟨(h.2 p q hq).1, List.mem_append_left _ (h.2 p q hq).2⟩⟩
    | some p =>
      simp only [writeBytes_overwrites m hm]
      exact ⟨hr, holds_cons h.2 (fun _ => List.mem_append_left _) (List.mem_append_right _ (List.mem_singleton_self _))⟩

theorem diskOk_run {κ α : Type} [DecidableEq κ] (m : WriteMode) (hm : overwrites m = true) (ser : KeyFile κ → List α)
    (valid : κ → Bool) (ops : List (KeyOpAt κ)) (d : KeyDisk κ α) (h : DiskOk ser d) : DiskOk ser (runDisk m ser valid d ops) := by
  induction ops generalizing d with
  | nil => exact h
  | cons o os ih => exact ih _ (diskOk_step m hm ser valid d h o)

theorem ring_stepDisk {κ α : Type} [DecidableEq κ] (m : WriteMode) (hm : overwrites m = true) (ser : KeyFile κ → List α)
    (valid : κ → Bool) (d : KeyDisk κ α) (o : KeyOpAt κ) : (stepDisk m ser valid d o).ring = stepKey valid d.ring o.op := by
  rw [stepKey_eq_produced]
  unfold stepDisk
  cases producedKey valid d.ring o.op with
  | none => rfl
  | some kn =>
    cases o.out with
    | none => rfl
    | some p => simp only [writeBytes_overwrites m hm]

theorem ring_runDisk {κ α : Type} [DecidableEq κ] (m : WriteMode) (hm : overwrites m = true) (ser : KeyFile κ → List α)
    (valid : κ → Bool) (ops : List (KeyOpAt κ)) (d : KeyDisk κ α) :
    (runDisk m ser valid d ops).ring = runKeyOps valid d.ring (ops.map (·.op)) := by
  induction ops generalizing d with
  | nil => rfl
  | cons o os ih =>
    simp only [runDisk, List.map_cons, runKeyOps]
    rw [ih, ring_stepDisk m hm]

end Replicat.Settings
