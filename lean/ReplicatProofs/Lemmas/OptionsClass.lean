import ReplicatModel.Options
/-!
CLASS HIERARCHIES of backends (`Options.shortNameOf`, `Options.backendEnvVar`, `Options.classBackendRow`): under a fallback
rule that looks at the class's own declaration only, the short name — hence the environment variable of every option — of a
backend class does not depend on the classes it derives from.
-/
namespace Replicat.Options
open Replicat.Gen

/-- the extracted fallback of `Backend.__init_subclass__` looks at the class's own declaration only, and
`config.backend_env_option` joins short name and option in the recognised way -/
theorem shortNameRule_own : ruleIsOwn optShortNameRule = true ∧ optBackendEnvJoinRecognised = true := by
  decide

/-- own rule ⇒ the short name is one of the names the class declares itself, whatever it derives from -/
theorem shortNameOf_mem_own (rule : OptShortNameRule) (h : ruleIsOwn rule = true) (c : BackendClass) :
    ∃ s ∈ ownNames c, ∀ ps, shortNameOf rule (c :: ps) = some s := by
  cases rule <;> simp [ruleIsOwn] at h <;> cases hk : c.kwShort <;> cases ha : c.attrShort <;>
    simp [shortNameOf, ownNames, hk, ha]

/-- the class keyword wins under every recognised rule -/
theorem shortNameOf_keyword (rule : OptShortNameRule) (c : BackendClass) (k : String) (hk : c.kwShort = some k)
    (ps : List BackendClass) : shortNameOf rule (c :: ps) = some k := by
  simp [shortNameOf, hk]

/-- own rule, no plain class attribute ⇒ the documented name: keyword, else class name -/
theorem shortNameOf_documented (rule : OptShortNameRule) (h : ruleIsOwn rule = true) (c : BackendClass)
    (ha : c.attrShort = none) (ps : List BackendClass) : shortNameOf rule (c :: ps) = some (documentedShortName c) := by
  cases rule <;> simp [ruleIsOwn] at h <;> cases hk : c.kwShort <;> simp [shortNameOf, documentedShortName, hk, ha]

end Replicat.Options
