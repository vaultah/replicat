import ReplicatProofs.Lemmas.RepoSafety
import ReplicatProofs.Lemmas.RepoCrashPlans
/-! An interrupted delete / clean leaves a consistent repository, for the invariant of C02: `Consistent enc` says what
`Crash.Consistent` says and, beyond that, only speaks of single snapshot objects (their family, their paths), which a trace of
deletions cannot change. -/
namespace Replicat.Repo
open List

theorem Consistent.crash {enc : Bool} {s : Store} (h : Consistent enc s) : Crash.Consistent s :=
  ⟨h.1, fun f sid b hg => (h.2.2 f sid b hg).1, fun f sid b hg => (h.2.2 f sid b hg).2.1⟩

theorem FamOk.snapFam {enc : Bool} {s : Store} {u : User} (hf : FamOk enc s) (hu : UserOk enc u) : Crash.SnapFam enc u.fam s :=
  fun he f sid o hg => (hf he f sid o hg).trans (hu he).symm

theorem consistent_of_dels {enc : Bool} {s : Store} {t : List Mut} (h : Consistent enc s) (ht : ∀ m ∈ t, ∃ n, m = Mut.del n)
    (hc : Crash.Consistent (applyMuts s t)) : Consistent enc (applyMuts s t) := by
  have hold : ∀ n o, get (applyMuts s t) n = some o → get s n = some o := by
    intro n o hg
    rw [Crash.get_applyMuts_dels s t ht] at hg
    split at hg
    · cases hg
    · exact hg
  exact ⟨hc.1, fun he f sid o hg => h.2.1 he f sid o (hold _ _ hg),
    fun f sid b hg => ⟨hc.2.1 f sid b hg, (h.2.2 f sid b (hold _ _ hg)).2⟩⟩

theorem delete_prefix_consistent {enc : Bool} {u : User} {sids : List Nat} {s : Store} (h : Consistent enc s)
    {tr : List Mut} (hacc : acceptsPrefix (deleteMutPlan enc u sids s) tr = true) : Consistent enc (applyMuts s tr) :=
  consistent_of_dels h (Crash.accepts_forall hacc fun _ hst _ hm => Crash.mem_deleteMutPlan hst hm)
    (Crash.delete_crash enc u sids s tr h.crash hacc)

theorem clean_prefix_consistent {enc : Bool} {u : User} {s : Store} (h : Consistent enc s) (hu : UserOk enc u)
    {tr : List Mut} (hacc : acceptsPrefix (cleanMutPlan enc u s) tr = true) : Consistent enc (applyMuts s tr) :=
  consistent_of_dels h (Crash.accepts_forall hacc fun _ hst _ hm => Crash.mem_cleanMutPlan hst hm)
    (Crash.clean_crash enc u s tr h.crash (h.2.1.snapFam hu) hacc)

theorem step_get_snap {enc : Bool} {s : Store} {op : Op} {f : Fam} {sid : Nat} (hwf : WF s)
    (hname : ∀ u st fs ts sid', op = .snapshot u st fs ts sid' → Name.snap u.fam sid' ≠ Name.snap f sid) :
    get (step enc s op) (.snap f sid) = get s (.snap f sid) ∨ get (step enc s op) (.snap f sid) = none := by
  cases op with
  | snapshot u st fs ts sid' =>
    exact Or.inl (snapshot_get_snap_other u st fs ts sid' s (fun e => hname u st fs ts sid' rfl e.symm))
  | delete u sids =>
    simp only [step]
    split
    · rename_i s' hd
      have sp := delete_spec hwf hd
      by_cases hcnd : sid ∈ sids ∧ visible enc u f = true
      · exact Or.inr (sp.snap_gone f sid hcnd.1 hcnd.2)
      · exact Or.inl (sp.snap_keep f sid hcnd)
    · exact Or.inl rfl
  | clean u =>
    simp only [step]
    split
    · rename_i s' hd
      obtain ⟨s'', hs'', sp⟩ := clean_spec (enc := enc) (u := u) hwf
      rw [hd] at hs''
      cases hs''
      exact Or.inl (sp.snap_keep f sid)
    · exact Or.inl rfl

end Replicat.Repo
