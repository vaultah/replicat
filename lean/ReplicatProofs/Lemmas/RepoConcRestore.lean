import ReplicatProofs.Lemmas.RepoConc
import ReplicatProofs.Lemmas.RepoCrash
/-! Read-only commands next to overlapping snapshot commands: a listed snapshot object stays what it is, and a restore whose
chunk downloads happen later (while snapshots go on) returns what the atomic restore at its listing point returns. -/
namespace Replicat.Repo
open List

/-- a snapshot object that is listed is not changed by a step (a command that writes the same name writes the same bytes:
the name is the digest of the stored bytes) -/
theorem snap_kept_step {cmds : List SnapCmd} {st st' : CState} {e : Ev} (h : CStep cmds st e st') {f : Fam} {sid : Nat} {b : Body}
    (hname : ∀ cmd ∈ cmds, cmd.name = .snap f sid → cmd.obj = .snap f sid b)
    (hg : get st.store (.snap f sid) = some (.snap f sid b)) : get st'.store (.snap f sid) = some (.snap f sid b) := by
  rcases cstep_get_cases h (.snap f sid) with h0 | ⟨_, _, hn, _⟩ | ⟨cmd, hm, hn, hg'⟩
  · exact h0.trans hg
  · cases hn
  · rw [hg', hname cmd hm hn.symm]

theorem snap_kept_run {cmds : List SnapCmd} {tr : List Ev} {st st' : CState} (h : crun cmds st tr = some st') {f : Fam} {sid : Nat} {b : Body}
    (hname : ∀ cmd ∈ cmds, cmd.name = .snap f sid → cmd.obj = .snap f sid b)
    (hg : get st.store (.snap f sid) = some (.snap f sid b)) : get st'.store (.snap f sid) = some (.snap f sid b) :=
  crun_invariant (fun x => get x.store (.snap f sid) = some (.snap f sid b)) (fun _ _ _ hi hs => snap_kept_step hs hname hi) tr st st' hg h

/-- a restore that lists in `s` and downloads every chunk from a store in which the chunk objects of `s` are still what they
were returns what the atomic restore in `s` returns -/
theorem restoreSpan_eq {enc : Bool} {u : User} (sre fre : Nat → Bool) {s : Store} (hc : Consistent enc s) (hu : UserOk enc u)
    (later : Content → Store) (hle : ∀ c, ChunkLe s (later c)) :
    restoreSpan enc u sre fre s later = restore enc u sre fre s := by
  rw [Crash.restore_ok enc u sre fre s hc.crash (hc.2.1.snapFam hu)]
  unfold restoreSpan
  rw [loadSnapshots_wf enc u sre s hc.1]
  simp only
  rw [if_pos]
  rw [all_eq_true]
  intro fr hfr
  rw [all_eq_true]
  intro c hcn
  unfold chunkOk
  rw [hle c _ _ (Crash.selected_present hc.crash (hc.2.1.snapFam hu) hfr hcn)]
  exact beq_self_eq_true _

theorem predOf_single (sid : Nat) : predOf (some [sid]) = fun x => x == sid := by
  funext x
  simp only [predOf, contains_cons, contains_nil, Bool.or_false]

end Replicat.Repo
