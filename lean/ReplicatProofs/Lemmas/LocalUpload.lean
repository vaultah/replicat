import ReplicatModel.LocalUpload
import ReplicatProofs.Lemmas.Common
/-! Lemmas for the local-backend upload model (C03): the path table, what readers see of it (`vget`), and which paths a
file-system step can change. -/
namespace Replicat.LocalUpload
open List

theorem lookup_eq (l : List (Path × Bytes)) (k : Path) : lookup l k = List.lookup k l :=
  find?_key_eq_lookup l k

theorem lookup_remove (l : List (Path × Bytes)) (k m : Path) : lookup (remove l k) m = if m = k then none else lookup l m := by
  rw [lookup_eq, lookup_eq, remove, lookup_filter_key (fun a => !(a == k))]
  simp only [Bool.not_eq_true', beq_eq_false_iff_ne, ne_eq, ite_not]

theorem lookup_setFile (l : List (Path × Bytes)) (k m : Path) (v : Bytes) :
    lookup (setFile l k v) m = if m = k then some v else lookup l m := by
  rw [setFile, lookup_eq, lookup_cons_eq_ite, ← lookup_eq, lookup_remove]
  by_cases hm : m = k
  · rw [if_pos hm.symm, if_pos hm]
  · rw [if_neg (Ne.symm hm), if_neg hm, if_neg hm]

theorem lookup_isSome_iff (l : List (Path × Bytes)) (k : Path) : (lookup l k).isSome = true ↔ k ∈ l.map (·.1) := by
  rw [lookup_eq]
  exact lookup_isSome_iff_mem_keys

theorem vget_congr {fs fs' : FS} {n : Path} (h : isTmp n = false → lookup fs.files n = lookup fs'.files n) :
    vget fs n = vget fs' n := by
  unfold vget
  cases hn : isTmp n with
  | true => rfl
  | false => exact h hn

theorem vget_putObj (fs : FS) (k n : Path) (v : Bytes) :
    vget (putObj fs k v) n = if n = k then (if isTmp k then none else some v) else vget fs n := by
  unfold vget putObj
  rw [lookup_setFile]
  by_cases hn : n = k
  · rw [if_pos hn, if_pos hn, hn]
  · rw [if_neg hn, if_neg hn]

theorem vget_unlink (fs : FS) (k n : Path) : vget (apply fs (.unlink k)) n = if n = k then none else vget fs n := by
  unfold vget
  rw [apply, lookup_remove]
  by_cases hn : n = k
  · rw [if_pos hn, if_pos hn, ite_self]
  · rw [if_neg hn, if_neg hn]

theorem vget_putObj_agree (fs fs0 : FS) (name : Path) (d : Bytes) (h : ∀ n, n ≠ name → vget fs n = vget fs0 n) (n : Path) :
    vget (putObj fs name d) n = vget (putObj fs0 name d) n := by
  rw [vget_putObj, vget_putObj]
  by_cases hn : n = name
  · rw [if_pos hn, if_pos hn]
  · rw [if_neg hn, if_neg hn, h n hn]

theorem vget_putObj_congr (fs fs' : FS) (name : Path) (data : Bytes) (h : ∀ n, vget fs' n = vget fs n) (n : Path) :
    vget (putObj fs' name data) n = vget (putObj fs name data) n :=
  vget_putObj_agree fs' fs name data (fun n _ => h n) n

def TmpOnly (tmp : Path) : Step → Prop
  | .mkdirP _ => True
  | .createTemp t => t = tmp
  | .write t _ => t = tmp
  | .unlink t => t = tmp
  | .rename _ _ => False

theorem lookup_apply_tmpOnly (fs : FS) (tmp t : Path) (st : Step) (h : TmpOnly tmp st) (hne : t ≠ tmp) :
    lookup (apply fs st).files t = lookup fs.files t := by
  cases st with
  | mkdirP d => rfl
  | createTemp x => cases h; exact (lookup_setFile ..).trans (if_neg hne)
  | write x p => cases h; exact (lookup_setFile ..).trans (if_neg hne)
  | unlink x => cases h; exact (lookup_remove ..).trans (if_neg hne)
  | rename a b => cases h

theorem lookup_apply_rename (fs : FS) (tmp dst t : Path) (ht : t ≠ tmp) (hd : t ≠ dst) :
    lookup (apply fs (.rename tmp dst)).files t = lookup fs.files t := by
  rw [apply]
  cases lookup fs.files tmp with
  | none => rfl
  | some b => exact ((lookup_setFile ..).trans (if_neg hd)).trans ((lookup_remove ..).trans (if_neg ht))

theorem vget_apply_tmpOnly (fs : FS) (tmp : Path) (htmp : isTmp tmp = true) (st : Step) (h : TmpOnly tmp st) (n : Path) :
    vget (apply fs st) n = vget fs n :=
  vget_congr fun hn => lookup_apply_tmpOnly fs tmp n st h (fun e => by rw [e, htmp] at hn; cases hn)

theorem vget_run_tmpOnly (fs : FS) (tmp : Path) (htmp : isTmp tmp = true) (steps : List Step) (h : ∀ st ∈ steps, TmpOnly tmp st)
    (n : Path) : vget (run fs steps) n = vget fs n := by
  unfold run
  induction steps generalizing fs with
  | nil => rfl
  | cons st steps ih =>
    rw [foldl_cons, ih _ (fun x hx => h x (mem_cons_of_mem _ hx))]
    exact vget_apply_tmpOnly fs tmp htmp st (h st mem_cons_self) n

theorem prepSteps_tmpOnly (dir tmp : Path) (pieces : List Bytes) : ∀ st ∈ prepSteps dir tmp pieces, TmpOnly tmp st := by
  intro st hst
  unfold prepSteps at hst
  simp only [cons_append, nil_append, mem_cons, mem_map] at hst
  rcases hst with rfl | rfl | ⟨p, _, rfl⟩
  · trivial
  · rfl
  · rfl

theorem run_append (fs : FS) (a b : List Step) : run fs (a ++ b) = run (run fs a) b :=
  foldl_append

theorem lookup_writes (fs : FS) (tmp : Path) (pieces : List Bytes) (b : Bytes) (h : lookup fs.files tmp = some b) :
    lookup (run fs (pieces.map (Step.write tmp))).files tmp = some (b ++ pieces.flatten) := by
  unfold run
  induction pieces generalizing fs b with
  | nil => simpa using h
  | cons p ps ih =>
    rw [map_cons, foldl_cons, flatten_cons, ← append_assoc]
    apply ih
    rw [apply, h]
    exact (lookup_setFile ..).trans (if_pos rfl)

theorem lookup_prep (fs : FS) (dir tmp : Path) (pieces : List Bytes) :
    lookup (run fs (prepSteps dir tmp pieces)).files tmp = some pieces.flatten := by
  unfold prepSteps
  rw [run_append]
  exact lookup_writes _ tmp pieces [] ((lookup_setFile ..).trans (if_pos rfl))

theorem vget_rename (fs : FS) (tmp name : Path) (data : Bytes) (htmp : isTmp tmp = true) (hname : isTmp name = false)
    (h : lookup fs.files tmp = some data) (n : Path) :
    vget (apply fs (.rename tmp name)) n = vget (putObj fs name data) n := by
  apply vget_congr
  intro hn
  rw [apply, h, putObj, lookup_setFile, lookup_setFile, lookup_remove]
  have hne : n ≠ tmp := fun e => by rw [e, htmp] at hn; cases hn
  rw [if_neg hne]

end Replicat.LocalUpload
