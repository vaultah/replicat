import ReplicatModel.CacheCmd
import ReplicatProofs.Lemmas.RepoStep
/-! Lemmas for C18: the cached commands are the `Repo.lean` commands with `loadSnapshots ↦ loadSnapshotsC`; a cache lookup on a
well-formed store returns the stored object whatever the cache holds (given verification + ideal hash). -/
namespace Replicat.CacheCmd
open Replicat.Repo Replicat.P18 List

/-! ## the factorisations are the definitions of `Repo.lean` -/
theorem loadSnapshotsC_none (enc : Bool) (u : User) (re : Nat → Bool) (s : Store) :
    loadSnapshotsC none enc u re s = loadSnapshots enc u re s := rfl

theorem deletePlan_eq (enc : Bool) (u : User) (sids : List Nat) (s : Store) :
    deletePlan enc u sids s = deletePlanFrom u sids (loadSnapshots enc u all s) := by
  unfold deletePlan deletePlanFrom all
  cases loadSnapshots enc u (fun _ => true) s <;> rfl

theorem deleteSnapshots_eq (enc : Bool) (u : User) (sids : List Nat) (s : Store) :
    deleteSnapshots enc u sids s = deleteFrom s (deletePlan enc u sids s) := by
  unfold deleteSnapshots deleteFrom
  cases deletePlan enc u sids s <;> rfl

theorem cleanPlan_eq (enc : Bool) (u : User) (s : Store) :
    cleanPlan enc u s = cleanPlanFrom enc u s (loadSnapshots enc u all s) := by
  unfold cleanPlan cleanPlanFrom all
  cases loadSnapshots enc u (fun _ => true) s <;> rfl

theorem clean_eq (enc : Bool) (u : User) (s : Store) : clean enc u s = cleanFrom s (cleanPlan enc u s) := by
  unfold clean cleanFrom
  cases cleanPlan enc u s <;> rfl

theorem restore_eq (enc : Bool) (u : User) (sre fre : Nat → Bool) (s : Store) :
    restore enc u sre fre s = restoreFrom u fre s (loadSnapshots enc u sre s) := by
  unfold restore restoreFrom
  cases loadSnapshots enc u sre s <;> rfl

theorem listSnapshots_eq (enc : Bool) (u : User) (sre : Nat → Bool) (s : Store) :
    listSnapshots enc u sre s = listSnapshotsFrom (loadSnapshots enc u sre s) := by
  unfold listSnapshots listSnapshotsFrom
  cases loadSnapshots enc u sre s <;> rfl

theorem listFiles_eq (enc : Bool) (u : User) (sre fre : Nat → Bool) (s : Store) :
    listFiles enc u sre fre s = listFilesFrom fre (loadSnapshots enc u sre s) := by
  unfold listFiles listFilesFrom
  cases loadSnapshots enc u sre s <;> rfl

theorem stepC_eq_of_load {cache : Option Cache} {enc : Bool} {s : Store}
    (h : ∀ u, loadSnapshotsC cache enc u all s = loadSnapshots enc u all s) (op : Op) :
    stepC cache enc s op = step enc s op ∧ stepErrC cache enc s op = stepErr enc s op ∧
    (∀ u sids, deletePlanC cache enc u sids s = deletePlan enc u sids s) ∧
    (∀ u, cleanPlanC cache enc u s = cleanPlan enc u s) := by
  have hd : ∀ u sids, deletePlanC cache enc u sids s = deletePlan enc u sids s := fun u sids => by
    rw [deletePlanC, h, ← deletePlan_eq]
  have hc : ∀ u, cleanPlanC cache enc u s = cleanPlan enc u s := fun u => by
    rw [cleanPlanC, h, ← cleanPlan_eq]
  have hds : ∀ u sids, deleteSnapshotsC cache enc u sids s = deleteSnapshots enc u sids s := fun u sids => by
    rw [deleteSnapshotsC, hd, ← deleteSnapshots_eq]
  have hcs : ∀ u, cleanC cache enc u s = clean enc u s := fun u => by
    rw [cleanC, hc, ← clean_eq]
  refine ⟨?_, ?_, hd, hc⟩
  · cases op with
    | snapshot u stream files ts sid => rfl
    | delete u sids =>
      rw [stepC, hds, step]
      cases deleteSnapshots enc u sids s <;> rfl
    | clean u =>
      rw [stepC, hcs, step]
      cases clean enc u s <;> rfl
  · cases op with
    | snapshot u stream files ts sid => rfl
    | delete u sids => rw [stepErrC, hds, stepErr]
    | clean u => rw [stepErrC, hcs, stepErr]

/-- **Ideal hash, local form**: a cached payload that hashes to the name of a stored snapshot *is* that snapshot.
(In the model a payload "hashes to `(f, sid)`" iff it is `Obj.snap f sid _`.) -/
def Agree (c : Cache) (s : Store) : Prop :=
  ∀ f sid b b', get c (.snap f sid) = some (.snap f sid b') → (Name.snap f sid, Obj.snap f sid b) ∈ s → b' = b

/-- **Ideal hash, global form**: `B f sid` is *the* body whose serialisation has digest `sid` (family `f`); every payload
anywhere (store or cache, under whatever key) that hashes to `(f, sid)` carries that body. -/
def Ideal (B : Fam → Nat → Body) (l : List (Name × Obj)) : Prop :=
  ∀ e ∈ l, ∀ f sid b, e.2 = Obj.snap f sid b → b = B f sid

theorem agree_of_ideal {B : Fam → Nat → Body} {c : Cache} {s : Store} (hc : Ideal B c) (hs : Ideal B s) : Agree c s := by
  intro f sid b b' hg hm
  have h1 := hc _ (mem_of_get hg) f sid b' rfl
  have h2 := hs _ hm f sid b rfl
  rw [h1, h2]

/-- e.g. an empty cache, torn copies, copies of other snapshots -/
theorem agree_of_mismatch {c : Cache} (h : ∀ e ∈ c, ¬ Matches e.1 e.2) (s : Store) : Agree c s :=
  fun f sid _ _ hg _ => absurd (show Matches (.snap f sid) (.snap f sid _) from ⟨rfl, rfl⟩) (h _ (mem_of_get hg))

theorem viaCache_eq (hv : Gen.cacheVerified = true) (c : Cache) (f : Fam) (sid : Nat) (o : Obj)
    (h : ∀ b', get c (.snap f sid) = some (.snap f sid b') → o = .snap f sid b') :
    viaCache (some c) f sid o = o := by
  unfold viaCache
  simp only [hv, if_true]
  cases hg : get c (.snap f sid) with
  | none => rfl
  | some cached =>
    cases cached with
    | snap f' sid' b' =>
      simp only
      split
      · rename_i hc
        simp only [Bool.and_eq_true, beq_iff_eq] at hc
        obtain ⟨rfl, rfl⟩ := hc
        exact (h b' hg).symm
      · rfl
    | _ => rfl

theorem viaCache_unverified (hv : Gen.cacheVerified = false) (cache : Option Cache) (f : Fam) (sid : Nat) (o : Obj) :
    viaCache cache f sid o = viaCacheU cache f sid o := by
  unfold viaCache viaCacheU
  rw [hv]
  cases cache with
  | none => rfl
  | some c => cases get c (.snap f sid) <;> rfl

theorem loadCandidatesC_eq (hv : Gen.cacheVerified = true) (c : Cache) (enc : Bool) (u : User) (re : Nat → Bool) (s : Store)
    (hm : ∀ e ∈ s, Matches e.1 e.2) (ha : Agree c s) :
    loadCandidatesC (some c) enc u re s = loadCandidatesC none enc u re s := by
  unfold loadCandidatesC
  apply filterMap_congr'
  intro e he
  rcases e with ⟨n, o⟩
  cases n with
  | snap f sid =>
    simp only
    have hmo := hm _ he
    cases o with
    | snap f' sid' b =>
      simp only [Matches] at hmo
      obtain ⟨rfl, rfl⟩ := hmo
      rw [viaCache_eq hv c f' sid' _ (fun b' hg => by rw [ha f' sid' b b' hg he])]
      rfl
    | _ => simp [Matches] at hmo
  | _ => rfl

/-- lookups only ever use the keys of listed snapshots -/
theorem loadCandidatesC_congr (c c' : Cache) (enc : Bool) (u : User) (re : Nat → Bool) (s : Store)
    (h : ∀ e ∈ s, get c e.1 = get c' e.1) :
    loadCandidatesC (some c) enc u re s = loadCandidatesC (some c') enc u re s := by
  unfold loadCandidatesC
  apply filterMap_congr'
  intro e he
  rcases e with ⟨n, o⟩
  cases n with
  | snap f sid =>
    have := h _ he
    simp only at this
    simp only [viaCache, this]
  | _ => rfl

theorem mem_cacheAfterLoad {cache : Cache} {enc : Bool} {u : User} {re : Nat → Bool} {s : Store} {e : Name × Obj}
    (he : e ∈ cacheAfterLoad cache enc u re s) :
    e ∈ cache ∨ (e ∈ s ∧ ∃ f sid b, e = (Name.snap f sid, Obj.snap f sid b)) := by
  induction s generalizing cache with
  | nil => exact Or.inl he
  | cons x l ih =>
    rcases ih he with h1 | ⟨h2, h3⟩
    · rcases x with ⟨n, o⟩
      cases n with
      | snap f sid =>
        cases o with
        | snap f' sid' b =>
          dsimp only at h1
          split at h1
          · rename_i hc
            simp only [Bool.and_eq_true, beq_iff_eq] at hc
            obtain ⟨⟨⟨_, rfl⟩, rfl⟩, _⟩ := hc
            rcases mem_put h1 with rfl | h2
            · exact Or.inr ⟨mem_cons_self, _, _, _, rfl⟩
            · exact Or.inl h2
          · exact Or.inl h1
        | _ => exact Or.inl h1
      | _ => exact Or.inl h1
    · exact Or.inr ⟨mem_cons_of_mem _ h2, h3⟩

theorem ideal_cacheAfterLoad {B : Fam → Nat → Body} {cache : Cache} {enc : Bool} {u : User} {re : Nat → Bool} {s : Store}
    (hc : Ideal B cache) (hs : Ideal B s) : Ideal B (cacheAfterLoad cache enc u re s) := by
  intro e he
  rcases mem_cacheAfterLoad he with h | ⟨h, _⟩
  · exact hc e h
  · exact hs e h

/-- a snapshot command creates the body that its digest denotes -/
def OpIdeal (B : Fam → Nat → Body) : Op → Prop
  | .snapshot u stream files ts sid => B u.fam sid = ⟨u.key, ts, dedupKeepFirstC stream, files⟩
  | _ => True

theorem ideal_step {B : Fam → Nat → Body} {enc : Bool} {s : Store} {op : Op} (hs : Ideal B s) (ho : OpIdeal B op) :
    Ideal B (step enc s op) := by
  cases op with
  | snapshot u stream files ts sid =>
    intro e he f sid' b hb
    rcases mem_snapshot he with h | ⟨c, rfl⟩ | rfl
    · exact hs e h f sid' b hb
    · cases hb
    · simp only [Obj.snap.injEq] at hb
      obtain ⟨rfl, rfl, rfl⟩ := hb
      exact ho.symm
  | delete u sids =>
    simp only [step]
    unfold deleteSnapshots
    cases deletePlan enc u sids s with
    | error e => exact hs
    | ok p => exact fun e he => hs e (mem_delAll (mem_delAll he))
  | clean u =>
    simp only [step]
    unfold clean
    cases cleanPlan enc u s with
    | error e => exact hs
    | ok ns => exact fun e he => hs e (mem_delAll he)

end Replicat.CacheCmd
