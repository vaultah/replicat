import ReplicatModel.Layout
/-! `slice`, and how the consecutive spans of `spansFrom` cut a range into pieces. -/
namespace Replicat
variable {α : Type}

theorem slice_empty_of_le (s : List α) {a b : Nat} (h : b ≤ a) : slice s a b = [] := by
  rw [slice, Nat.sub_eq_zero_of_le h, List.take_zero]

theorem slice_append_slice (s : List α) {a b c : Nat} (hab : a ≤ b) (hbc : b ≤ c) :
    slice s a b ++ slice s b c = slice s a c := by
  have e : c - a = (b - a) + (c - b) := by
    rw [Nat.add_comm, Nat.sub_add_sub_cancel hbc hab]
  rw [slice, slice, slice, e, List.take_add, List.drop_drop, Nat.add_sub_of_le hab]

theorem slice_zero_length (s : List α) : slice s 0 s.length = s := by
  unfold slice
  simp

theorem slice_add_sub (s : List α) (a b : Nat) : slice s a (a + (b - a)) = slice s a b := by
  rw [slice, slice, Nat.add_sub_cancel_left]

theorem slice_slice (s : List α) {a b lo hi : Nat} (h : a + hi ≤ b) :
    slice (slice s a b) lo hi = slice s (a + lo) (a + hi) := by
  rw [slice, slice, slice, List.drop_take, List.drop_drop, List.take_take,
    Nat.min_eq_left (Nat.sub_le_sub_right (Nat.le_sub_of_add_le' h) lo), Nat.add_sub_add_left]

theorem length_slice (s : List α) {a b : Nat} (h : b ≤ s.length) : (slice s a b).length = b - a := by
  rw [slice, List.length_take, List.length_drop, Nat.min_eq_left (Nat.sub_le_sub_right h a)]

/-- consecutive spans starting at `c0` with the given lengths tile `[c0, c0 + Σ)`:
the pieces of `[fs, fe)` falling into each span concatenate to the part of `[fs, fe)` from `c0` on. -/
theorem tile_concat (s : List α) (fs fe : Nat) (lens : List Nat) (c0 : Nat) (hfe : fe ≤ c0 + lens.sum) :
    ((spansFrom c0 lens).map (fun c => slice s (max fs c.1) (min fe c.2))).flatten = slice s (max fs c0) fe := by
  induction lens generalizing c0 with
  | nil => exact (slice_empty_of_le s (Nat.le_trans hfe (Nat.le_max_right _ _))).symm
  | cons n rest ih =>
    rw [List.sum_cons, ← Nat.add_assoc] at hfe
    rw [spansFrom, List.map_cons, List.flatten_cons, ih (c0 + n) hfe]
    -- the span `[c0, c0 + n)` holds all of what is left of the range, none of it, or its part up to `c0 + n`
    by_cases h1 : fe ≤ c0 + n
    · rw [slice_empty_of_le s (Nat.le_trans h1 (Nat.le_max_right fs _)), List.append_nil, Nat.min_eq_left h1]
    · by_cases h2 : c0 + n ≤ fs
      · rw [slice_empty_of_le s (Nat.le_trans (Nat.min_le_right fe _) (Nat.le_trans h2 (Nat.le_max_left fs c0))),
          List.nil_append, Nat.max_eq_left h2, Nat.max_eq_left (Nat.le_trans (Nat.le_add_right c0 n) h2)]
      · have h1' := Nat.le_of_lt (Nat.lt_of_not_le h1)
        have h2' := Nat.le_of_lt (Nat.lt_of_not_le h2)
        rw [Nat.min_eq_right h1', Nat.max_eq_right h2']
        exact slice_append_slice s (Nat.max_le.mpr ⟨h2', Nat.le_add_right _ _⟩) h1'

theorem spansFrom_length (c0 : Nat) (lens : List Nat) : (spansFrom c0 lens).length = lens.length := by
  fun_induction spansFrom c0 lens with
  | case1 => rfl
  | case2 off n rest ih => exact congrArg Nat.succ ih

theorem spansFrom_mem_bounds {c0 : Nat} {lens : List Nat} {c : Span} (h : c ∈ spansFrom c0 lens) :
    c0 ≤ c.1 ∧ c.1 ≤ c.2 ∧ c.2 ≤ c0 + lens.sum := by
  fun_induction spansFrom c0 lens with
  | case1 => cases h
  | case2 off n rest ih =>
    rw [List.sum_cons]
    rcases List.mem_cons.1 h with rfl | h
    · exact ⟨Nat.le_refl _, Nat.le_add_right _ _, Nat.add_le_add_left (Nat.le_add_right _ _) _⟩
    · have := ih h
      omega

end Replicat
