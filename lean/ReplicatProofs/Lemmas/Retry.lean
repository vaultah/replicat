import ReplicatModel.Retry
/-!
The streams of the retry model: what `Src.read`, `readChunks`, `copyLoop`, `chunkList` and `Sink.write` compute.
-/
namespace Replicat.Retry

def Src.rest (s : Src) : Bytes := s.data.drop s.pos

theorem read_data (s : Src) (c : Nat) : (s.read c).2.data = s.data := rfl

theorem read_fst (s : Src) (c : Nat) : (s.read c).1 = s.rest.take c := rfl

theorem read_pos (s : Src) (c : Nat) : (s.read c).2.pos = s.pos + (s.rest.take c).length := rfl

theorem read_rest (s : Src) (c : Nat) : (s.read c).2.rest = s.rest.drop c := by
  show s.data.drop (s.pos + (s.rest.take c).length) = s.rest.drop c
  rw [← List.drop_drop, List.length_take]
  show s.rest.drop (min c s.rest.length) = _
  rcases Nat.le_total c s.rest.length with h | h
  · rw [Nat.min_eq_left h]
  · rw [Nat.min_eq_right h, List.drop_length, List.drop_eq_nil_of_le h]

theorem rest_of_read_nil {s : Src} {c : Nat} (hc : 0 < c) (h : (s.read c).1 = []) : s.rest = [] := by
  rw [read_fst, List.take_eq_nil_iff] at h
  exact h.resolve_left (Nat.ne_of_gt hc)

theorem rest_read_lt {s : Src} {c : Nat} (hc : 0 < c) (h : (s.read c).1 ≠ []) : (s.read c).2.rest.length < s.rest.length := by
  have : s.rest ≠ [] := fun h0 => h (by rw [read_fst, h0, List.take_nil])
  have := List.length_pos_iff.mpr this
  rw [read_rest, List.length_drop]
  omega

theorem readChunks_data (c : Nat) : ∀ (n : Nat) (s : Src), (readChunks c n s).2.data = s.data := by
  intro n
  induction n with
  | zero => exact fun s => rfl
  | succ n ih =>
    intro s
    unfold readChunks
    by_cases h : (s.read c).1 = []
    · simp only [h, if_true, read_data]
    · simp only [h, if_false]
      exact ih _

theorem readChunks_all (c : Nat) (hc : 0 < c) : ∀ (n : Nat) (s : Src), s.rest.length < n →
    readChunks c n s = (s.rest, ⟨s.data, s.pos + s.rest.length⟩) := by
  intro n
  induction n with
  | zero => exact fun s h => absurd h (Nat.not_lt_zero _)
  | succ n ih =>
    intro s hn
    show (if (s.read c).1 = [] then ([], (s.read c).2)
      else ((s.read c).1 ++ (readChunks c n (s.read c).2).1, (readChunks c n (s.read c).2).2)) = _
    by_cases h : (s.read c).1 = []
    · rw [if_pos h]
      show (([] : Bytes), Src.mk s.data (s.pos + (s.rest.take c).length)) = _
      rw [rest_of_read_nil hc h, List.take_nil]
    · rw [if_neg h, ih _ (Nat.lt_of_lt_of_le (rest_read_lt hc h) (Nat.le_of_lt_succ hn)), read_rest, read_data, read_pos, read_fst,
        List.take_append_drop, Nat.add_assoc, ← List.length_append, List.take_append_drop]

theorem copyLoop_succ {ω : Type} (wr : ω → Bytes → ω) (c : Nat) (rf wf : Option Nat) (fuel i : Nat) (s : Src) (w : ω) :
    copyLoop wr c rf wf (fuel + 1) i s w =
      if rf = some i then (.fault, s, w)
      else if (s.read c).1 = [] then (.done, (s.read c).2, w)
      else if wf = some i then (.fault, (s.read c).2, w)
      else copyLoop wr c rf wf fuel (i + 1) (s.read c).2 (wr w (s.read c).1) := rfl

/-- `φ w a` is the destination `w` after the bytes `a` went into it (`++` for a temp file, `Sink.write` for a sink): since the
writes compose, one induction serves both. -/
theorem copyLoop_spec {ω : Type} (wr : ω → Bytes → ω) (φ : ω → Bytes → ω) (hφ : ∀ w a b, wr (φ w a) b = φ w (a ++ b))
    (c : Nat) (hc : 0 < c) (rf wf : Option Nat) (w0 : ω) :
    ∀ (fuel i : Nat) (s : Src) (a : Bytes), s.rest.length < fuel → ∃ (e : CopyEnd) (s' : Src) (t : Bytes),
      copyLoop wr c rf wf fuel i s (φ w0 a) = (e, s', φ w0 (a ++ t)) ∧ s'.data = s.data ∧ e ≠ .fuel ∧
      (e = .done → t = s.rest ∧ s'.pos = s.pos + s.rest.length) ∧ (rf = none → wf = none → e = .done) := by
  intro fuel
  induction fuel with
  | zero => exact fun i s a h => absurd h (Nat.not_lt_zero _)
  | succ fuel ih =>
    intro i s a hf
    rw [copyLoop_succ]
    by_cases h1 : rf = some i
    · rw [if_pos h1]
      exact ⟨.fault, s, [], by rw [List.append_nil], rfl, nofun, nofun, fun hr => by rw [hr] at h1; cases h1⟩
    · rw [if_neg h1]
      by_cases h2 : (s.read c).1 = []
      · rw [if_pos h2]
        have hr := rest_of_read_nil hc h2
        refine ⟨.done, (s.read c).2, [], by rw [List.append_nil], rfl, nofun, fun _ => ⟨hr.symm, ?_⟩, fun _ _ => rfl⟩
        rw [read_pos, hr, List.take_nil]
      · rw [if_neg h2]
        by_cases h3 : wf = some i
        · rw [if_pos h3]
          exact ⟨.fault, (s.read c).2, [], by rw [List.append_nil], rfl, nofun, nofun, fun _ hw => by rw [hw] at h3; cases h3⟩
        · rw [if_neg h3, hφ]
          obtain ⟨e, s', t, heq, hd, hnf, hdone, hnone⟩ := ih (i + 1) (s.read c).2 (a ++ (s.read c).1)
            (Nat.lt_of_lt_of_le (rest_read_lt hc h2) (Nat.le_of_lt_succ hf))
          refine ⟨e, s', (s.read c).1 ++ t, by rw [heq, List.append_assoc], hd, hnf, fun he => ?_, hnone⟩
          obtain ⟨e1, e2⟩ := hdone he
          rw [read_rest] at e1 e2
          rw [e1, e2, read_pos, read_fst, List.take_append_drop, Nat.add_assoc, ← List.length_append, List.take_append_drop]
          exact ⟨rfl, rfl⟩

theorem zeros_length (n : Nat) : (zeros n).length = n := List.length_replicate

/-- what a write at the position keeps in front of it -/
def Sink.front (k : Sink) : Bytes := k.buf.take k.pos ++ zeros (k.pos - k.buf.length)

theorem front_length (k : Sink) : k.front.length = k.pos := by
  rw [Sink.front, List.length_append, List.length_take, zeros_length]
  rcases Nat.le_total k.pos k.buf.length with h | h
  · rw [Nat.min_eq_left h, Nat.sub_eq_zero_of_le h]
    rfl
  · rw [Nat.min_eq_right h, Nat.add_sub_of_le h]

theorem write_buf (k : Sink) (b : Bytes) : (k.write b).buf = k.front ++ b ++ k.buf.drop (k.pos + b.length) := rfl

theorem Sink.write_write (k : Sink) (a b : Bytes) : (k.write a).write b = k.write (a ++ b) := by
  have hl : (k.front ++ a).length = k.pos + a.length := by rw [List.length_append, front_length]
  have hfront : (k.write a).front = k.front ++ a := by
    show (k.write a).buf.take (k.pos + a.length) ++ zeros (k.pos + a.length - (k.write a).buf.length) = _
    rw [write_buf, ← hl, List.take_left, List.length_append (as := k.front ++ a), Nat.sub_eq_zero_of_le (Nat.le_add_right _ _)]
    exact List.append_nil _
  have hdrop : (k.write a).buf.drop (k.pos + a.length + b.length) = k.buf.drop (k.pos + a.length + b.length) := by
    rw [write_buf, ← hl, List.drop_length_add_append, List.drop_drop]
  show Sink.mk ((k.write a).front ++ b ++ (k.write a).buf.drop (k.pos + a.length + b.length)) (k.pos + a.length + b.length) k.file
    = Sink.mk (k.front ++ (a ++ b) ++ k.buf.drop (k.pos + (a ++ b).length)) (k.pos + (a ++ b).length) k.file
  rw [hfront, hdrop, List.length_append, Nat.add_assoc, List.append_assoc k.front a b]

theorem Sink.write_nil (k : Sink) (h : k.pos ≤ k.buf.length) : k.write [] = k := by
  show Sink.mk (k.buf.take k.pos ++ zeros (k.pos - k.buf.length) ++ [] ++ k.buf.drop k.pos) k.pos k.file = k
  rw [Nat.sub_eq_zero_of_le h, List.append_nil]
  show Sink.mk (k.buf.take k.pos ++ [] ++ k.buf.drop k.pos) k.pos k.file = k
  rw [List.append_nil, List.take_append_drop]

theorem Sink.write_all (k : Sink) (d : Bytes) (hp : k.pos = 0) (hl : k.buf.length ≤ d.length) :
    (k.write d).buf = d ∧ (k.write d).pos = d.length := by
  rw [write_buf, Sink.front, Sink.write, hp, Nat.zero_add, Nat.zero_sub, List.drop_eq_nil_of_le hl]
  exact ⟨List.append_nil d, rfl⟩

theorem write_pos_le (k : Sink) (b : Bytes) : (k.write b).pos ≤ (k.write b).buf.length := by
  rw [write_buf, List.length_append, List.length_append, front_length]
  exact Nat.le_add_right _ _

theorem foldl_write (cs : List Bytes) : ∀ (k : Sink), k.pos ≤ k.buf.length → cs.foldl Sink.write k = k.write cs.flatten := by
  induction cs with
  | nil => exact fun k h => (Sink.write_nil k h).symm
  | cons c cs ih =>
    intro k _
    rw [List.foldl_cons, List.flatten_cons, ih _ (write_pos_le k c), Sink.write_write]

theorem chunkList_flatten (c : Nat) (hc : 0 < c) : ∀ (fuel : Nat) (d : Bytes), d.length < fuel → (chunkList c fuel d).flatten = d := by
  intro fuel
  induction fuel with
  | zero => exact fun d h => absurd h (Nat.not_lt_zero _)
  | succ fuel ih =>
    intro d h
    unfold chunkList
    by_cases hd : d = []
    · rw [if_pos (Or.inr hd), hd]
      rfl
    · have hpos : 0 < d.length := List.length_pos_iff.mpr hd
      rw [if_neg (not_or.mpr ⟨Nat.ne_of_gt hc, hd⟩), List.flatten_cons, ih (d.drop c) (by rw [List.length_drop]; omega)]
      exact List.take_append_drop c d

theorem truncate_pos (k : Sink) (n : Nat) : (k.truncate n).pos = k.pos := rfl

theorem truncate_length_le (k : Sink) (n : Nat) : (k.truncate n).buf.length ≤ n := by
  unfold Sink.truncate
  rw [List.length_append, List.length_take]
  split
  · rw [zeros_length]
    omega
  · exact Nat.min_le_left _ _

end Replicat.Retry
