import ReplicatProofs.Lemmas.Restore
/-! From references to bytes: the parts a file's references select are the pieces of its range of the stream, chunk by chunk. -/
namespace Replicat
open List

/-- the chunks of a stream cut at the given lengths -/
def chunksOf (s : Bytes) (lens : List Nat) : List Bytes := (spansFrom 0 lens).map (fun c => slice s c.1 c.2)

theorem refOf_bounds {f c : Span} (j : Nat) (hc : c.1 ≤ c.2) (hov : c.1 ≤ f.2) :
    c.1 + (refOf f j c).lo = max f.1 c.1 ∧ c.1 + (refOf f j c).hi = min f.2 c.2 := by
  simp only [refOf, Gen.partStart_eq, Gen.partEnd_eq]
  exact ⟨by rw [Nat.add_comm, Nat.sub_add_eq_max], Nat.add_sub_cancel' (Nat.le_min.mpr ⟨hov, hc⟩)⟩

theorem partData_refOf (s : Bytes) {f c : Span} {j : Nat} {chunks : List Bytes} (hch : chunks[j]? = some (slice s c.1 c.2))
    (hc : c.1 ≤ c.2 ∧ c.2 ≤ s.length) (hov : c.1 ≤ f.2) (pos : Nat) :
    partData chunks ((refOf f j c).counter, (refOf f j c).lo, (refOf f j c).hi - (refOf f j c).lo, pos)
        = slice s (max f.1 c.1) (min f.2 c.2)
      ∧ (slice s (max f.1 c.1) (min f.2 c.2)).length = (refOf f j c).hi - (refOf f j c).lo := by
  obtain ⟨h1, h2⟩ := refOf_bounds (f := f) j hc.1 hov
  have hj : (refOf f j c).counter - 1 = j := Nat.add_sub_cancel j 1
  refine ⟨?_, ?_⟩
  · unfold partData
    simp only [hj, hch]
    rw [slice_add_sub, slice_slice s (h2 ▸ Nat.min_le_right _ _), h1, h2]
  · rw [length_slice s (Nat.le_trans (Nat.min_le_right _ _) hc.2), ← h1, ← h2, Nat.add_sub_add_left]

/-- the right side runs over ALL spans: where a span and the file's range do not overlap the slice is empty -/
theorem parts_fileRefs (s : Bytes) (f : Span) (chunks : List Bytes) (cs : List Span) (j0 pos : Nat)
    (hch : ∀ k c, cs[k]? = some c → chunks[j0 + k]? = some (slice s c.1 c.2))
    (hwf : ∀ c ∈ cs, c.1 ≤ c.2 ∧ c.2 ≤ s.length) :
    ((planFrom pos (fileRefs f j0 cs)).map (partData chunks)).flatten
        = (cs.map (fun c => slice s (max f.1 c.1) (min f.2 c.2))).flatten
      ∧ ∀ e ∈ planFrom pos (fileRefs f j0 cs), (partData chunks e).length = e.2.2.1 := by
  induction cs generalizing j0 pos with
  | nil => exact ⟨rfl, fun e he => nomatch he⟩
  | cons c cs ih =>
    have ih' := fun pos => ih (j0 + 1) pos
      (fun k c' h => by rw [Nat.add_right_comm]; exact hch (k + 1) c' h) (fun c' hc' => hwf c' (mem_cons_of_mem _ hc'))
    rw [fileRefs_cons, refsOf, map_cons, flatten_cons]
    by_cases hov : f.1 < c.2 + 1 ∧ c.1 ≤ f.2
    · obtain ⟨hpd, hlen⟩ := partData_refOf s (j := j0) (hch 0 c rfl) (hwf c mem_cons_self) hov.2 pos
      obtain ⟨h1, h2⟩ := ih' (pos + ((refOf f j0 c).hi - (refOf f j0 c).lo))
      rw [if_pos hov, singleton_append, planFrom, map_cons, flatten_cons, h1, hpd]
      exact ⟨rfl, forall_mem_cons.2 ⟨hpd ▸ hlen, h2⟩⟩
    · have hemp : min f.2 c.2 ≤ max f.1 c.1 := by
        rcases Decidable.not_and_iff_or_not.mp hov with h | h
        · exact Nat.le_trans (Nat.min_le_right _ _) (Nat.le_trans (Nat.le_of_succ_le (Nat.not_lt.mp h)) (Nat.le_max_left _ _))
        · exact Nat.le_trans (Nat.min_le_left _ _) (Nat.le_trans (Nat.le_of_lt (Nat.lt_of_not_le h)) (Nat.le_max_right _ _))
      rw [if_neg hov, nil_append, slice_empty_of_le s hemp, nil_append]
      exact ih' pos

theorem parts_fileRefs_chunksOf (s : Bytes) (f : Span) (lens : List Nat) (hsum : lens.sum = s.length) (pos : Nat) :
    ((planFrom pos (fileRefs f 0 (spansFrom 0 lens))).map (partData (chunksOf s lens))).flatten
        = ((spansFrom 0 lens).map (fun c => slice s (max f.1 c.1) (min f.2 c.2))).flatten
      ∧ ∀ e ∈ planFrom pos (fileRefs f 0 (spansFrom 0 lens)), (partData (chunksOf s lens) e).length = e.2.2.1 := by
  apply parts_fileRefs s f
  · intro k c h
    rw [chunksOf, Nat.zero_add, getElem?_map, h]
    rfl
  · intro c hc
    have := spansFrom_mem_bounds hc
    omega

/-- references recorded for one file are strictly increasing in the chunk counter -/
theorem fileRefs_counters (f : Span) (j0 : Nat) (cs : List Span) :
    (fileRefs f j0 cs).Pairwise (fun a b => a.counter < b.counter) ∧ ∀ r ∈ fileRefs f j0 cs, j0 < r.counter := by
  induction cs generalizing j0 with
  | nil => exact ⟨Pairwise.nil, fun r hr => by cases hr⟩
  | cons c cs ih =>
    obtain ⟨h1, h2⟩ := ih (j0 + 1)
    rw [fileRefs_cons, refsOf]
    split
    · exact ⟨pairwise_cons.mpr ⟨h2, h1⟩, forall_mem_cons.2 ⟨Nat.lt_succ_self j0, fun r hr => Nat.lt_of_succ_lt (h2 r hr)⟩⟩
    · exact ⟨h1, fun r hr => Nat.lt_of_succ_lt (h2 r hr)⟩

theorem lookup_finalRecords (hflag : Gen.recordsChunklessFiles = true) (n : Nat) (recs : Records) (i : Nat) (hi : i < n) :
    lookupRec (finalRecords n recs) i = some (refsOfIn recs i) := by
  unfold finalRecords refsOfIn lookupRec
  rw [if_pos hflag, find?_append]
  cases h : recs.find? (fun e => e.1 == i) with
  | some e => rfl
  | none =>
    -- no entry so far: `i` is among the indices that get an entry without references
    have hmem : i ∈ (range n).filter (fun i => !recs.any (fun e => e.1 == i)) := by
      rw [mem_filter, Bool.not_eq_true', any_eq_false]
      exact ⟨mem_range.mpr hi, find?_eq_none.mp h⟩
    rw [Option.none_or, find?_map]
    cases hk : find? ((fun e : Nat × List Ref => e.1 == i) ∘ fun k => (k, [])) _ with
    | none => exact absurd (beq_self_eq_true i) (find?_eq_none.mp hk i hmem)
    | some k => rfl

theorem dedupKeepFirst_spec {α : Type} [BEq α] [LawfulBEq α] (l acc : List α) (hacc : acc.Nodup) :
    (l.foldl (fun acc a => if acc.contains a then acc else acc ++ [a]) acc).Nodup ∧
      ∀ p, p ∈ l.foldl (fun acc a => if acc.contains a then acc else acc ++ [a]) acc ↔ p ∈ acc ∨ p ∈ l := by
  induction l generalizing acc with
  | nil => exact ⟨hacc, fun p => (or_iff_left not_mem_nil).symm⟩
  | cons a l ih =>
    rw [foldl_cons]
    by_cases ha : a ∈ acc
    · rw [if_pos (contains_iff_mem.mpr ha)]
      refine ⟨(ih acc hacc).1, fun p => ?_⟩
      rw [(ih acc hacc).2 p, mem_cons, ← or_assoc, or_iff_left_of_imp (b := p = a) (fun e => e ▸ ha)]
    · rw [if_neg (fun h => ha (contains_iff_mem.mp h))]
      have hacc' : (acc ++ [a]).Nodup :=
        nodup_append.mpr ⟨hacc, pairwise_singleton _ a, fun x hx y hy hxy => ha (mem_singleton.mp hy ▸ hxy ▸ hx)⟩
      refine ⟨(ih _ hacc').1, fun p => ?_⟩
      rw [(ih _ hacc').2 p, mem_append, mem_singleton, mem_cons, or_assoc]

end Replicat
