import ReplicatModel.Options
/-!
What C19 (`Properties/C19.lean`) rests on.  The lemmas look at the generated option table once (`rows_wf`); everything else is
about a row variable.
-/
namespace Replicat.Options
open Replicat.Gen

variable {V : Type}

/-- the order of the calls in `main()` is the one the closed form below was computed for -/
theorem steps_eq : optSteps = [.initialParse, .readConfig, .applyKnown, .applyEnv, .repoOverride, .loadBackend,
    .backendApplyKnown, .backendApplyEnv, .defaultsCfg, .defaultsBackend, .makeMainParser, .secondParse, .handler] := by
  decide

/-- every sub-command is built from the three parent parsers and receives `set_defaults(**defaults)` -/
theorem cmds_ok : ∀ cmd ∈ optCommands, (cmd.setDefaults && cmd.parents) = true ∧ cmd.parentGroupsKept = true := by
  decide

/-- the extractor recognised the shape of `Config.apply_known`, the plug-in ran, the sub-command is mandatory -/
theorem extraction_ok : optApplyKnownRecognised = true ∧ optionsSectionOk = true ∧ optSubcommandRequired = true := by
  decide

/-- type functions whose result is never a `str` (tuple, Path, int, bytes, bool) -/
def nonStrTy : OptTy → Bool
  | .parseRepository | .path | .naturalNumberCfg | .readBytesCfg | .strEncode | .checkBoolean
  | .convertLogLevel | .environb => true
  | _ => false

def allPlain (row : OptRow) : Bool := row.file.all (fun f => f.kind == .plain)

/-- the (at most two) file keys of the option are named together in a `_check_mutually_exclusive` call -/
def fileKeysCovered (row : OptRow) : Bool :=
  match row.file with
  | [] => true
  | [_] => true
  | [a, b] => optFileMutex.any (fun g => g.contains a.key && g.contains b.key)
  | _ => false

def oneGroup : List OptCliVar → Bool
  | [] => true
  | [_] => true
  | v :: rest => v.group.isSome && rest.all (·.group == v.group)

theorem conflicts_of_oneGroup {l : List OptCliVar} (h : oneGroup l = true) {a b : OptCliVar} (ha : a ∈ l) (hb : b ∈ l)
    (hne : a.flag ≠ b.flag) : conflicts a b = true := by
  match l, h with
  | [], _ => exact absurd ha List.not_mem_nil
  | [x], _ =>
    rw [List.mem_singleton] at ha hb
    exact absurd (ha.trans hb.symm ▸ rfl) hne
  | v :: w :: rest, h =>
    simp only [oneGroup, Bool.and_eq_true, Option.isSome_iff_exists, List.all_eq_true, beq_iff_eq] at h
    obtain ⟨⟨g, hg⟩, hall⟩ := h
    have hgrp : ∀ x ∈ v :: w :: rest, x.group = some g := by
      intro x hx
      rcases List.mem_cons.mp hx with rfl | hx
      · exact hg
      · exact (hall x hx).trans hg
    simp [conflicts, hne, hgrp a ha, hgrp b hb]

def wfRow (row : OptRow) : Prop :=
  row.scope ≤ 3 ∧ (row.inCfg = false → row.file = [] ∧ row.env = none) ∧ (row.scope = 3 → row.inCfg = false) ∧
  (row.early = true → row.scope = 0 ∧ row.inCfg = true)

instance (row : OptRow) : Decidable (wfRow row) := by
  unfold wfRow
  infer_instance

/-- not backend-specific: neither the built-in default (kind 2 = `str`) nor a validator or environment reader yields a `str` -/
def wfMain (row : OptRow) : Prop :=
  isBackend row = false ∧ row.builtinKind ≠ 2 ∧
  (∀ f ∈ row.file, f.kind ≠ .other ∧ nonStrTy f.ty = true) ∧
  (∀ e ∈ row.env, nonStrTy e.2 = true) ∧
  (row.file.length ≤ 1 → allPlain row = true) ∧
  ((row.scope == 0 || row.scope == 1) = true → allPlain row = true → fileKeysCovered row = true)

instance (row : OptRow) : Decidable (wfMain row) := by
  unfold wfMain
  infer_instance

theorem rows_wf : ∀ row ∈ optRows, wfRow row ∧ oneGroup row.cli = true ∧
    (if row.scope = 2 then isCustomInstance row = true else wfMain row) := by
  decide +kernel

theorem rows_wfMain (row : OptRow) (hrow : row ∈ optRows) (hs : row.scope ≠ 2) : wfMain row := by
  simpa only [hs, if_false] using (rows_wf row hrow).2.2

theorem rows_custom (row : OptRow) (hrow : row ∈ optRows) (hs : row.scope = 2) : isCustomInstance row = true := by
  simpa only [hs, if_true] using (rows_wf row hrow).2.2

theorem rows_short_plain (row : OptRow) (hrow : row ∈ optRows) (hs : row.scope ≠ 2) (hone : row.file.length ≤ 1) :
    allPlain row = true := by
  obtain ⟨-, -, -, -, hshort, -⟩ := rows_wfMain row hrow hs
  exact hshort hone

theorem rows_file_mutex (row : OptRow) (hrow : row ∈ optRows) (hs : (row.scope == 0 || row.scope == 1) = true)
    (hplain : allPlain row = true) : fileKeysCovered row = true := by
  have hs2 : row.scope ≠ 2 := by
    simp only [Bool.or_eq_true, beq_iff_eq] at hs
    omega
  obtain ⟨-, -, -, -, -, hcov⟩ := rows_wfMain row hrow hs2
  exact hcov hs hplain

/-- second parse: occurrence, else the (possibly converted) default -/
def finish (sem : Sem V) (row : OptRow) (inp : Inputs V) (d : V) (atLoad : V) : Except Err (Obs V) :=
  match parseCli sem row inp.cli [] none with
  | .error e => .error e
  | .ok (some v) => .ok { final := v, atLoad := atLoad }
  | .ok none => match defaultValue sem row d with
    | .error e => .error e
    | .ok v => .ok { final := v, atLoad := atLoad }

/-- the config stage of one option whose field holds `c`: `apply_known` (for the main config, scope 0 and 1, after the
exclusivity check), then `apply_env` -/
def cfgStage (sem : Sem V) (row : OptRow) (merged : List (Nat × V)) (env : Option V) (c : V) : Except Err V :=
  if (row.scope == 0 || row.scope == 1) && fileMutexViolated row merged then .error .invalidConfig
  else match applyFileVars sem row.file merged 0 c with
    | .error e => .error e
    | .ok c' => applyEnvVar sem row env c'

theorem cfgStage_notCfg (sem : Sem V) {row : OptRow} (hf : row.file = []) (he : row.env = none) (merged : List (Nat × V))
    (env : Option V) (c : V) : cfgStage sem row merged env c = .ok c := by
  simp [cfgStage, fileMutexViolated, presentKeys, applyFileVars, applyEnvVar, hf, he]

def runObs (sem : Sem V) (cmd : OptCommand) (row : OptRow) (inp : Inputs V) (steps : List OptStep) (st : St V) :
    Except Err (Obs V) :=
  match run sem cmd row inp steps st with
  | .error e => .error e
  | .ok st' =>
    match st'.handled, st'.final with
    | true, some v => .ok { final := v, atLoad := st'.atLoad }
    | _, _ => .error .model

section closedForm
variable (sem : Sem V) (cmd : OptCommand) (row : OptRow) (inp : Inputs V)

theorem runObs_cons (s : OptStep) (rest : List OptStep) (st : St V) :
    runObs sem cmd row inp (s :: rest) st =
      match step sem cmd row inp s st with
      | .error e => .error e
      | .ok st' => runObs sem cmd row inp rest st' := by
  simp only [runObs, run]
  cases step sem cmd row inp s st <;> rfl

theorem run_parseRead (rest : List OptStep) (st : St V) :
    runObs sem cmd row inp (.initialParse :: .readConfig :: rest) st =
      match (if row.scope == 0 then parseCli sem row inp.cli [] none else .ok st.first) with
      | .error e => .error e
      | .ok first => runObs sem cmd row inp rest { st with first := first, merged := overlay inp.dflt inp.prof } := by
  simp only [runObs_cons, step]
  cases row.scope == 0
  · rfl
  · cases parseCli sem row inp.cli [] none <;> rfl

theorem run_mainCfg (rest : List OptStep) (st : St V) :
    runObs sem cmd row inp (.applyKnown :: .applyEnv :: rest) st =
      match (if row.scope == 0 || row.scope == 1 then cfgStage sem row st.merged inp.env st.cfg else .ok st.cfg) with
      | .error e => .error e
      | .ok c => runObs sem cmd row inp rest { st with cfg := c } := by
  simp only [runObs_cons, step, cfgStage]
  cases row.scope == 0 || row.scope == 1
  · rfl
  · cases fileMutexViolated row st.merged
    · cases applyFileVars sem row.file st.merged 0 st.cfg with
      | error e => rfl
      | ok c =>
        simp only [↓reduceIte, Bool.false_eq_true, Bool.and_false]
        cases applyEnvVar sem row inp.env c <;> rfl
    · rfl

theorem run_override (rest : List OptStep) (st : St V) :
    runObs sem cmd row inp (.repoOverride :: .loadBackend :: rest) st =
      runObs sem cmd row inp rest { st with cfg := if row.early then st.first.getD st.cfg else st.cfg,
                                            atLoad := if row.early then st.first.getD st.cfg else st.cfg } := by
  obtain ⟨first, _, _, _, _, _, _, _⟩ := st
  simp only [runObs_cons, step]
  cases row.early
  · rfl
  · cases first <;> rfl

theorem run_backendCfg (rest : List OptStep) (st : St V) :
    runObs sem cmd row inp (.backendApplyKnown :: .backendApplyEnv :: rest) st =
      match (if isBackend row then cfgStage sem row st.merged inp.env st.cfg else .ok st.cfg) with
      | .error e => .error e
      | .ok c => runObs sem cmd row inp rest { st with cfg := c } := by
  simp only [runObs_cons, step, cfgStage]
  cases hb : isBackend row
  · rfl
  · -- scope 2: no exclusivity check
    have hs : row.scope = 2 := eq_of_beq hb
    simp only [hs, ↓reduceIte, Nat.reduceBEq, Bool.or_self, Bool.false_and, Bool.false_eq_true]
    cases applyFileVars sem row.file st.merged 0 st.cfg with
    | error e => rfl
    | ok c =>
      dsimp only
      cases applyEnvVar sem row inp.env c <;> rfl

theorem run_defaults (hcmd : (cmd.setDefaults && cmd.parents) = true) (rest : List OptStep) (st : St V) :
    runObs sem cmd row inp (.defaultsCfg :: .defaultsBackend :: .makeMainParser :: rest) st =
      runObs sem cmd row inp rest { st with
        defaults := if isBackend row || row.inCfg then some st.cfg else st.defaults,
        actionDefault := if isBackend row || row.inCfg then st.cfg else st.defaults.getD st.actionDefault } := by
  obtain ⟨_, _, _, _, defaults, _, _, _⟩ := st
  simp only [runObs_cons, step, hcmd]
  cases isBackend row <;> cases row.inCfg <;> cases defaults <;> rfl

theorem run_secondParse (st : St V) :
    runObs sem cmd row inp [.secondParse, .handler] st = finish sem row inp st.actionDefault st.atLoad := by
  simp only [runObs_cons, step, finish]
  cases parseCli sem row inp.cli [] none with
  | error e => rfl
  | ok o =>
    cases o with
    | some v => rfl
    | none =>
      simp only []
      cases defaultValue sem row st.actionDefault <;> rfl

/-- **closed form of the pipeline**: first parse (initial parser only), config stage, second parse with the config value — for
`-r`, the value of the first parse — as default -/
theorem pipeline_eq (hcmd : (cmd.setDefaults && cmd.parents) = true) (hwf : wfRow row) :
    pipeline sem cmd row inp =
      match (if row.scope == 0 then parseCli sem row inp.cli [] none else .ok none) with
      | .error e => .error e
      | .ok first =>
        match cfgStage sem row (overlay inp.dflt inp.prof) inp.env inp.builtin with
        | .error e => .error e
        | .ok c =>
          finish sem row inp (if row.early then first.getD c else c)
            (if row.early then first.getD c else if isBackend row then inp.builtin else c) := by
  obtain ⟨hscope, hcfg, hs3, hearly⟩ := hwf
  show runObs sem cmd row inp optSteps (init inp) = _
  simp only [steps_eq, run_parseRead, run_mainCfg, run_override, run_backendCfg, run_defaults sem cmd row inp hcmd,
    run_secondParse, init, Option.getD_none]
  cases (if row.scope == 0 then parseCli sem row inp.cli [] none else .ok none) with
  | error e => rfl
  | ok first =>
    cases hic : row.inCfg with
    | false =>
      have he : row.early = false := Bool.eq_false_iff.mpr (fun he => by simpa [hic] using (hearly he).2)
      simp only [cfgStage_notCfg sem (hcfg hic).1 (hcfg hic).2, he, ite_self, Bool.or_false, Bool.false_eq_true, if_false]
    | true =>
      cases hm : (row.scope == 0 || row.scope == 1) with
      | true =>
        have hb : isBackend row = false := by
          simp only [Bool.or_eq_true, beq_iff_eq] at hm
          simp only [isBackend, beq_eq_false_iff_ne]
          omega
        simp only [hb, Bool.false_or, if_true, Bool.false_eq_true, if_false]
      | false =>
        simp only [Bool.or_eq_false_iff, beq_eq_false_iff_ne] at hm
        have he : row.early = false := Bool.eq_false_iff.mpr (fun he => hm.1 (hearly he).1)
        have hb : isBackend row = true := by
          have : row.scope ≠ 3 := fun h3 => by simpa [hic] using hs3 h3
          simp only [isBackend, beq_iff_eq]
          omega
        simp only [hb, he, Bool.true_or, if_true, Bool.false_eq_true, if_false]

end closedForm

theorem lookup_append (a b : List (Nat × V)) (i : Nat) :
    lookup (a ++ b) i = (lookup a i).or (lookup b i) := by
  induction a with
  | nil => simp [lookup]
  | cons kv rest ih =>
    obtain ⟨k, v⟩ := kv
    simp only [List.cons_append, lookup]
    split <;> simp [ih]

theorem lookup_filter (p : List (Nat × V)) (d : List (Nat × V)) (i : Nat) :
    lookup (d.filter (fun kv => (lookup p kv.1).isNone)) i = if (lookup p i).isNone then lookup d i else none := by
  induction d with
  | nil => simp [lookup]
  | cons kv rest ih =>
    obtain ⟨k, v⟩ := kv
    simp only [List.filter_cons]
    by_cases hk : (k == i) = true
    · have : k = i := by simpa using hk
      subst this
      cases hp : (lookup p k).isNone <;> simp [lookup, hp, ih]
    · cases hp : (lookup p k).isNone <;> simp [lookup, hk, ih]

/-- `read_config`: a key of the profile hides the same key of the default section -/
theorem lookup_overlay (d p : List (Nat × V)) (i : Nat) :
    lookup (overlay d p) i = (lookup p i).or (lookup d i) := by
  unfold overlay
  rw [lookup_append, lookup_filter]
  cases lookup p i <;> simp

theorem presentKeys_length (vars : List OptFileVar) (merged : List (Nat × V)) (i : Nat) :
    (presentKeys vars merged i).length ≤ vars.length := by
  induction vars generalizing i with
  | nil => simp [presentKeys]
  | cons fv rest ih =>
    have := ih (i + 1)
    simp only [presentKeys]
    split <;> simp only [List.length_cons] <;> omega

theorem fileMutex_false_of_present_short (row : OptRow) (merged : List (Nat × V))
    (h : (presentKeys row.file merged 0).length ≤ 1) : fileMutexViolated row merged = false := by
  unfold fileMutexViolated
  rw [List.any_eq_false]
  intro g _
  have h2 := List.length_filter_le (fun k => g.contains k) (presentKeys row.file merged 0)
  simp only [decide_eq_true_eq]
  omega

theorem fileMutex_false_of_short (row : OptRow) (merged : List (Nat × V)) (h : row.file.length ≤ 1) :
    fileMutexViolated row merged = false :=
  fileMutex_false_of_present_short row merged (Nat.le_trans (presentKeys_length row.file merged 0) h)

/-- what `apply_known` does with one key that is present -/
def varStep (sem : Sem V) (fv : OptFileVar) (raw cfg : V) : Except Err V :=
  match fv.kind with
  | .plain =>
    match sem.co fv.ty raw with
    | none => .error .configValue
    | some x => .ok x
  | .nullIfTrue =>
    match sem.co fv.ty raw with
    | none => .error .configValue
    | some b => .ok (if sem.truthy b then sem.noneV else cfg)
  | .other => .error .model

theorem applyFileVars_cons (sem : Sem V) (fv : OptFileVar) (rest : List OptFileVar) (merged : List (Nat × V)) (i : Nat) (cfg : V) :
    applyFileVars sem (fv :: rest) merged i cfg =
      match lookup merged i with
      | none => applyFileVars sem rest merged (i + 1) cfg
      | some raw =>
        match varStep sem fv raw cfg with
        | .error e => .error e
        | .ok x => applyFileVars sem rest merged (i + 1) x := by
  simp only [applyFileVars, varStep]
  cases lookup merged i with
  | none => rfl
  | some raw =>
    dsimp only
    cases fv.kind <;> dsimp only <;> cases sem.co fv.ty raw <;> rfl

theorem applyFileVars_none (sem : Sem V) (vars : List OptFileVar) (merged : List (Nat × V)) (base : Nat) (cfg : V)
    (h : ∀ i, base ≤ i → lookup merged i = none) : applyFileVars sem vars merged base cfg = .ok cfg := by
  induction vars generalizing base with
  | nil => rfl
  | cons fv rest ih =>
    simp only [applyFileVars, h base (Nat.le_refl _)]
    exact ih (base + 1) (fun i hi => h i (by omega))

theorem presentKeys_none (vars : List OptFileVar) (merged : List (Nat × V)) (base : Nat)
    (h : ∀ i, base ≤ i → lookup merged i = none) : presentKeys vars merged base = [] := by
  induction vars generalizing base with
  | nil => rfl
  | cons fv rest ih =>
    simp only [presentKeys, h base (Nat.le_refl _)]
    exact ih (base + 1) (fun i hi => h i (by omega))

theorem lookup_single (k i : Nat) (r : V) : lookup [(k, r)] i = if k == i then some r else none := rfl

theorem lookup_single_ne {k i : Nat} (r : V) (h : k ≠ i) : lookup [(k, r)] i = none := by
  simp only [lookup_single, beq_eq_false_iff_ne.mpr h, Bool.false_eq_true, if_false]

/-- a merged mapping that contains exactly one key of this option -/
theorem applyFileVars_single (sem : Sem V) (vars : List OptFileVar) (k : Nat) (r : V) (base : Nat) (cfg : V) (hb : base ≤ k) :
    applyFileVars sem vars [(k, r)] base cfg =
      match vars[k - base]? with
      | none => .ok cfg
      | some fv => varStep sem fv r cfg := by
  induction vars generalizing base with
  | nil => rfl
  | cons fv rest ih =>
    rw [applyFileVars_cons]
    by_cases hk : base = k
    · subst hk
      simp only [lookup_single, beq_self_eq_true, if_true, Nat.sub_self, List.getElem?_cons_zero]
      cases varStep sem fv r cfg with
      | error e => rfl
      | ok x => exact applyFileVars_none sem rest _ (base + 1) x (fun i hi => lookup_single_ne r (by omega))
    · have hidx : k - base = (k - (base + 1)) + 1 := by omega
      simp only [lookup_single_ne r (Ne.symm hk), hidx, List.getElem?_cons_succ]
      exact ih (base + 1) (by omega)

theorem presentKeys_single (vars : List OptFileVar) (k : Nat) (r : V) (base : Nat) :
    (presentKeys vars [(k, r)] base).length ≤ 1 := by
  induction vars generalizing base with
  | nil => exact Nat.zero_le _
  | cons fv rest ih =>
    by_cases hk : k = base
    · subst hk
      have hrest := presentKeys_none rest [(k, r)] (k + 1) (fun i hi => lookup_single_ne r (by omega))
      simp only [presentKeys, lookup_single, beq_self_eq_true, if_true, Option.isSome_some, hrest, List.length_singleton,
        Nat.le_refl]
    · simp only [presentKeys, lookup_single_ne r hk, Option.isSome_none, Bool.false_eq_true, if_false]
      exact ih (base + 1)

/-- assumptions on the leaf functions (validated by the harness on every generated raw value) -/
structure SemOK (sem : Sem V) : Prop where
  nonStr : ∀ ty v w, nonStrTy ty = true → sem.co ty v = some w → sem.isStr w = false
  noneNotStr : sem.isStr sem.noneV = false

/-- profile and default section name the option by the same key (when both set it) -/
def sameKey (s : Simple V) : Bool :=
  match s.prof, s.dflt with
  | some (i, _), some (j, _) => i == j
  | _, _ => true

/-- a `no-cache`-like key, where present, is true -/
def flagOk (sem : Sem V) (row : OptRow) (kv : Option (Nat × V)) : Bool :=
  match kv with
  | none => true
  | some (i, raw) =>
    match row.file[i]? with
    | some fv => fv.kind != .nullIfTrue || (match sem.co fv.ty raw with
        | some b => sem.truthy b
        | none => false)
    | none => true

def flagsTruthy (sem : Sem V) (row : OptRow) (s : Simple V) : Bool := flagOk sem row s.prof && flagOk sem row s.dflt

/-- a typed (non-string) TOML value is supplied only for options that are not backend-specific (excludes D14) -/
def rawStrOk (sem : Sem V) (row : OptRow) (kv : Option (Nat × V)) : Bool :=
  match kv with
  | none => true
  | some (_, r) => !isBackend row || sem.isStr r

def fileRawsStr (sem : Sem V) (row : OptRow) (s : Simple V) : Bool := rawStrOk sem row s.prof && rawStrOk sem row s.dflt

/-- a typed (non-string) TOML value of a backend-specific option, where one is supplied, is left unchanged by the
validator.  False of a `guess_type` that raises on a non-string (`toySem`, D14); true of the source's, which returns
non-strings unchanged.  `fileRawsStr` (no typed value supplied) is the special case that holds of both. -/
def TypedValuesKept (sem : Sem V) (row : OptRow) (s : Simple V) : Prop :=
  ∀ k r, (s.prof = some (k, r) ∨ s.dflt = some (k, r)) → (isBackend row && !sem.isStr r) = true →
    ∀ fv, row.file[k]? = some fv → sem.co fv.ty r = some r

theorem fileOk_some {sem : Sem V} {row : OptRow} {k : Nat} {r : V} (h : fileOk sem row (some (k, r)) = true) :
    ∃ fv x, row.file[k]? = some fv ∧ fv.kind ≠ .other ∧ sem.co fv.ty r = some x := by
  simp only [fileOk] at h
  cases hfv : row.file[k]? with
  | none => simp [hfv] at h
  | some fv =>
    simp only [hfv, Bool.and_eq_true, bne_iff_ne, ne_eq] at h
    obtain ⟨x, hx⟩ := Option.isSome_iff_exists.mp h.2
    exact ⟨fv, x, rfl, h.1, hx⟩

theorem fileValue_eq_varStep (sem : Sem V) (row : OptRow) (k : Nat) (r : V) (fv : OptFileVar) (lower : Except Err V) (cfg : V)
    (hnb : (isBackend row && !sem.isStr r) = true → sem.co fv.ty r = some r) (hfv : row.file[k]? = some fv)
    (htr : flagOk sem row (some (k, r)) = true) :
    fileValue sem row (k, r) lower = varStep sem fv r cfg := by
  simp only [fileValue, hfv, varStep]
  cases hkind : fv.kind
  · cases hb : (isBackend row && !sem.isStr r)
    · cases hco : sem.co fv.ty r <;> simp [orErr]
    · simp [hnb hb]
  · simp [flagOk, hfv, hkind] at htr
    cases hco : sem.co fv.ty r <;> simp [hco] at htr ⊢
    simp [htr]
  · simp

theorem defaultValue_nonStr (sem : Sem V) (row : OptRow) (d : V) (h : sem.isStr d = false) :
    defaultValue sem row d = .ok d := by simp [defaultValue, h]

theorem overlay_simple (s : Simple V) (hsame : sameKey s = true) :
    overlay s.toInputs.dflt s.toInputs.prof = (s.prof.or s.dflt).toList := by
  obtain ⟨c, e, p, d, b⟩ := s
  rcases p with _ | ⟨pi, pr⟩ <;> rcases d with _ | ⟨di, dr⟩
  · rfl
  · rfl
  · rfl
  · have : pi = di := by simpa [sameKey] using hsame
    subst this
    simp [overlay, Simple.toInputs, lookup]

section simple
variable (sem : Sem V) (row : OptRow) (s : Simple V)

theorem typedValuesKept_of_str (h : fileRawsStr sem row s = true) :
    TypedValuesKept sem row s := by
  intro k r hsrc hb
  have hraw : rawStrOk sem row (some (k, r)) = true := by
    simp only [fileRawsStr, Bool.and_eq_true] at h
    rcases hsrc with hs | hs
    · exact hs ▸ h.1
    · exact hs ▸ h.2
  cases hb1 : isBackend row <;> cases hb2 : sem.isStr r <;> simp [rawStrOk, hb1, hb2] at hraw hb

theorem specBelowEnv_ind {P : Except Err V → Prop} (h0 : P (.ok s.builtin))
    (hstep : ∀ kv lower, (s.prof = some kv ∨ s.dflt = some kv) → P lower → P (fileValue sem row kv lower)) :
    P (specBelowEnv sem row s) := by
  have hd : P (specBelowProfile sem row s) := by
    unfold specBelowProfile
    cases h : s.dflt with
    | none => exact h0
    | some kv => exact hstep kv _ (Or.inr h) h0
  unfold specBelowEnv
  cases h : s.prof with
  | none => exact hd
  | some kv => exact hstep kv _ (Or.inl h) hd

theorem specBelowCli_ind {P : Except Err V → Prop}
    (henv : ∀ n ty raw, row.env = some (n, ty) → s.env = some raw → P (orErr .configValue (sem.co ty raw)))
    (hfile : P (specBelowEnv sem row s)) : P (specBelowCli sem row s) := by
  unfold specBelowCli
  cases hre : row.env with
  | none => exact hfile
  | some nt =>
    obtain ⟨n, ty⟩ := nt
    cases hse : s.env with
    | none => exact hfile
    | some raw => exact henv n ty raw hre hse

theorem specBelowEnv_ok
    (hp : fileOk sem row s.prof = true) (hd : fileOk sem row s.dflt = true) : ∃ c, specBelowEnv sem row s = .ok c := by
  refine specBelowEnv_ind sem row s (P := fun x => ∃ c, x = .ok c) ⟨_, rfl⟩ ?_
  rintro ⟨k, r⟩ lower hsrc ⟨c, rfl⟩
  obtain ⟨fv, x, hfv, hko, hx⟩ := fileOk_some (hsrc.elim (· ▸ hp) (· ▸ hd))
  cases hkind : fv.kind
  · simp only [fileValue, hfv, hkind, hx, orErr]
    split <;> exact ⟨_, rfl⟩
  · simp only [fileValue, hfv, hkind, hx]
    split <;> exact ⟨_, rfl⟩
  · exact absurd hkind hko

theorem specBelowCli_ok (he : envOk sem row s.env = true)
    (hp : fileOk sem row s.prof = true) (hd : fileOk sem row s.dflt = true) : ∃ c, specBelowCli sem row s = .ok c := by
  refine specBelowCli_ind sem row s (P := fun x => ∃ c, x = .ok c) ?_ (specBelowEnv_ok sem row s hp hd)
  intro n ty raw hre hse
  simp only [envOk, hre, hse] at he
  obtain ⟨x, hx⟩ := Option.isSome_iff_exists.mp he
  exact ⟨x, by simp only [hx, orErr]⟩

theorem cfgStage_eq (hstr : TypedValuesKept sem row s)
    (hp : fileOk sem row s.prof = true) (hd : fileOk sem row s.dflt = true)
    (hsame : sameKey s = true) (htr : flagsTruthy sem row s = true) :
    cfgStage sem row (overlay s.toInputs.dflt s.toInputs.prof) s.toInputs.env s.toInputs.builtin = specBelowCli sem row s := by
  -- the file part: the merged mapping holds the winning entry alone, `apply_known` does with it what `fileValue` says
  have hfile : fileMutexViolated row (s.prof.or s.dflt).toList = false ∧
      applyFileVars sem row.file (s.prof.or s.dflt).toList 0 s.builtin = specBelowEnv sem row s := by
    cases hw : s.prof.or s.dflt with
    | none =>
      obtain ⟨hpn, hdn⟩ := Option.or_eq_none_iff.mp hw
      have hnone : presentKeys row.file (none : Option (Nat × V)).toList 0 = [] := presentKeys_none _ _ 0 (fun _ _ => rfl)
      refine ⟨fileMutex_false_of_present_short row _ (by simp only [hnone, List.length_nil, Nat.zero_le]), ?_⟩
      rw [applyFileVars_none sem _ _ 0 _ (fun _ _ => rfl)]
      simp only [specBelowEnv, specBelowProfile, hpn, hdn]
    | some kr =>
      obtain ⟨k, r⟩ := kr
      refine ⟨fileMutex_false_of_present_short row _ (presentKeys_single _ k r 0), ?_⟩
      obtain ⟨lower, hspec, hsrc⟩ : ∃ lower, specBelowEnv sem row s = fileValue sem row (k, r) lower ∧
          (s.prof = some (k, r) ∨ s.dflt = some (k, r)) := by
        cases hprof : s.prof with
        | some kv =>
          obtain rfl : kv = (k, r) := by simpa [hprof] using hw
          exact ⟨specBelowProfile sem row s, by simp only [specBelowEnv, hprof], Or.inl rfl⟩
        | none =>
          have hdf : s.dflt = some (k, r) := by simpa [hprof] using hw
          exact ⟨.ok s.builtin, by simp only [specBelowEnv, hprof, specBelowProfile, hdf], Or.inr hdf⟩
      obtain ⟨fv, -, hfv, -⟩ := fileOk_some (hsrc.elim (· ▸ hp) (· ▸ hd))
      simp only [flagsTruthy, Bool.and_eq_true] at htr
      rw [Option.toList_some, applyFileVars_single sem _ k r 0 _ (Nat.zero_le _), Nat.sub_zero, hfv, hspec]
      exact (fileValue_eq_varStep sem row k r fv _ s.builtin (fun hb => hstr k r hsrc hb fv hfv) hfv
        (hsrc.elim (· ▸ htr.1) (· ▸ htr.2))).symm
  obtain ⟨c, hc⟩ := specBelowEnv_ok sem row s hp hd
  unfold cfgStage specBelowCli
  rw [overlay_simple s hsame, hfile.1, Bool.and_false, show s.toInputs.builtin = s.builtin from rfl, hfile.2, hc]
  rfl

/-- the config value of a main option is never a `str` -/
theorem specBelowCli_nonStr (hsem : SemOK sem) (hnb : isBackend row = false)
    (hfile : ∀ f ∈ row.file, nonStrTy f.ty = true) (henv : ∀ e ∈ row.env, nonStrTy e.2 = true)
    (hb : sem.isStr s.builtin = false) (c : V) (hc : specBelowCli sem row s = .ok c) : sem.isStr c = false := by
  refine specBelowCli_ind sem row s (P := fun x => ∀ c, x = .ok c → sem.isStr c = false) ?_ ?_ c hc
  · intro n ty raw hre _ c hc
    cases hco : sem.co ty raw with
    | none => simp [hco, orErr] at hc
    | some x =>
      simp only [hco, orErr, Except.ok.injEq] at hc
      exact hc ▸ hsem.nonStr _ _ _ (henv (n, ty) hre) hco
  · refine specBelowEnv_ind sem row s (P := fun x => ∀ c, x = .ok c → sem.isStr c = false) ?_ ?_
    · intro c hc
      cases hc
      exact hb
    · rintro ⟨k, r⟩ lower - hl c hc
      simp only [fileValue] at hc
      cases hfv : row.file[k]? with
      | none => simp [hfv] at hc
      | some fv =>
        have hty : nonStrTy fv.ty = true := hfile fv (List.mem_of_getElem? hfv)
        simp only [hfv, hnb] at hc
        cases hkind : fv.kind <;> simp only [hkind] at hc
        · cases hco : sem.co fv.ty r <;> simp [hco, orErr] at hc
          exact hc ▸ hsem.nonStr _ _ _ hty hco
        · cases hco : sem.co fv.ty r <;> simp [hco] at hc
          split at hc
          · cases hc
            exact hsem.noneNotStr
          · exact hl c hc
        · cases hc

theorem parseCli_simple : parseCli sem row s.toInputs.cli [] none =
    match s.cli with
    | none => .ok none
    | some _ => (spec sem row s).map some := by
  obtain ⟨cli, _, _, _, _⟩ := s
  cases cli with
  | none => rfl
  | some ir =>
    simp only [Simple.toInputs, Option.toList_some, parseCli, spec, List.any_nil, Bool.false_eq_true, if_false]
    cases row.cli[ir.1]? with
    | none => rfl
    | some v =>
      dsimp only
      cases cliValue sem v ir.2 <;> rfl

theorem sameKey_of_short (hlen : row.file.length ≤ 1) (hv : valid sem row s = true) : sameKey s = true := by
  simp only [valid, Bool.and_eq_true] at hv
  obtain ⟨⟨-, hp⟩, hd⟩ := hv
  have idx : ∀ k r, fileOk sem row (some (k, r)) = true → k = 0 := by
    intro k r h
    obtain ⟨fv, -, hfv, -⟩ := fileOk_some h
    have := (List.getElem?_eq_some_iff.mp hfv).1
    omega
  unfold sameKey
  cases hpr : s.prof with
  | none => rfl
  | some kv =>
    cases hdf : s.dflt with
    | none => rfl
    | some kv' =>
      obtain ⟨k, r⟩ := kv
      obtain ⟨k', r'⟩ := kv'
      simp only [idx k r (hpr ▸ hp), idx k' r' (hdf ▸ hd), beq_self_eq_true]

theorem flagsTruthy_of_allPlain (h : allPlain row = true) :
    flagsTruthy sem row s = true := by
  have : ∀ kv : Option (Nat × V), flagOk sem row kv = true := by
    intro kv
    unfold flagOk
    cases kv with
    | none => rfl
    | some kr =>
      obtain ⟨k, r⟩ := kr
      cases hfv : row.file[k]? with
      | none => simp [hfv]
      | some fv =>
        have hmem : fv ∈ row.file := List.mem_of_getElem? hfv
        have := List.all_eq_true.mp h fv hmem
        simp at this
        simp [hfv, this]
  simp [flagsTruthy, this]

end simple

/-- **precedence for a row variable.**  What distinguishes the kinds of options is left as the hypothesis `hdv`: the config value
handed to the second parse as the action's default survives argparse's conversion of string defaults. -/
theorem precedence_row (sem : Sem V) (cmd : OptCommand) (hcmd : (cmd.setDefaults && cmd.parents) = true)
    (row : OptRow) (hwf : wfRow row) (s : Simple V) (hv : valid sem row s = true)
    (hsame : sameKey s = true) (htr : flagsTruthy sem row s = true) (hstr : TypedValuesKept sem row s)
    (hdv : s.cli = none → ∀ c, specBelowCli sem row s = .ok c → defaultValue sem row c = .ok c) :
    pipelineFinal sem cmd row s.toInputs = spec sem row s ∧
    (row.early = true → pipelineAtLoad sem cmd row s.toInputs = spec sem row s) := by
  simp only [valid, Bool.and_eq_true] at hv
  obtain ⟨⟨⟨-, hve⟩, hvp⟩, hvd⟩ := hv
  obtain ⟨c, hcv⟩ := specBelowCli_ok sem row s hve hvp hvd
  have hparse := parseCli_simple sem row s
  unfold pipelineFinal pipelineAtLoad
  rw [pipeline_eq sem cmd row s.toInputs hcmd hwf, cfgStage_eq sem row s hstr hvp hvd hsame htr, hcv]
  cases hcl : s.cli with
  | none =>
    simp only [hcl] at hparse
    simp only [spec, hcl, hcv, hparse, ite_self, Option.getD_none, finish, hdv hcl c hcv, true_and]
    intro he
    simp only [he, if_true]
  | some ir =>
    simp only [hcl] at hparse
    cases hx : spec sem row s with
    | error e =>
      simp only [hx, Except.map] at hparse
      cases row.scope == 0 <;> simp [finish, hparse]
    | ok x =>
      simp only [hx, Except.map] at hparse
      refine ⟨by cases row.scope == 0 <;> simp [finish, hparse], fun he => ?_⟩
      obtain ⟨-, -, -, hearly⟩ := hwf
      have hs0 : row.scope = 0 := (hearly he).1
      simp [finish, hparse, hs0, he]

/-- **precedence for every option that is not backend-specific**: its config value is never a `str` -/
theorem precedence_main (sem : Sem V) (hsem : SemOK sem) (cmd : OptCommand) (hcmd : (cmd.setDefaults && cmd.parents) = true)
    (row : OptRow) (hrow : wfRow row) (hwf : wfMain row)
    (s : Simple V) (hb : sem.isStr s.builtin = false) (hv : valid sem row s = true)
    (hsame : sameKey s = true) (htr : flagsTruthy sem row s = true) :
    pipelineFinal sem cmd row s.toInputs = spec sem row s ∧
    (row.early = true → pipelineAtLoad sem cmd row s.toInputs = spec sem row s) := by
  obtain ⟨hnb, -, hfile, henv, -, -⟩ := hwf
  have hstr : TypedValuesKept sem row s := by
    intro k r _ hback
    simp [hnb] at hback
  exact precedence_row sem cmd hcmd row hrow s hv hsame htr hstr
    (fun _ c hcv => defaultValue_nonStr sem row c (specBelowCli_nonStr sem row s hsem hnb (fun f hf => (hfile f hf).2) henv hb c hcv))

/-- **the same coercion whichever source**, for a row variable -/
theorem coercion_uniform_row (sem : Sem V) (cmd : OptCommand) (hcmd : (cmd.setDefaults && cmd.parents) = true)
    (row : OptRow) (hwf : wfRow row)
    (i j : Nat) (cv : OptCliVar) (fv : OptFileVar) (hcv : row.cli[i]? = some cv) (hck : cv.kind = .typed)
    (hfv : row.file[j]? = some fv) (hfk : fv.kind = .plain)
    (r x b : V) (hx : sem.co cv.ty r = some x) (heq : sem.co fv.ty r = sem.co cv.ty r)
    (hr : rawStrOk sem row (some (j, r)) = true) (hdx : defaultValue sem row x = .ok x) :
    pipelineFinal sem cmd row (Simple.toInputs { cli := some (i, r), env := none, prof := none, dflt := none, builtin := b }) = .ok x ∧
    pipelineFinal sem cmd row (Simple.toInputs { cli := none, env := none, prof := some (j, r), dflt := none, builtin := b }) = .ok x ∧
    pipelineFinal sem cmd row (Simple.toInputs { cli := none, env := none, prof := none, dflt := some (j, r), builtin := b }) = .ok x ∧
    (∀ n ety, row.env = some (n, ety) → sem.co ety r = sem.co cv.ty r →
      pipelineFinal sem cmd row (Simple.toInputs { cli := none, env := some r, prof := none, dflt := none, builtin := b }) = .ok x) := by
  have key : ∀ s : Simple V, valid sem row s = true → sameKey s = true → flagsTruthy sem row s = true →
      fileRawsStr sem row s = true → spec sem row s = .ok x → pipelineFinal sem cmd row s.toInputs = .ok x := by
    intro s hv hsame htr hstr hspec
    rw [← hspec]
    refine (precedence_row sem cmd hcmd row hwf s hv hsame htr (typedValuesKept_of_str sem row s hstr) ?_).1
    intro hcl c hcv
    simp only [spec, hcl, hcv, Except.ok.injEq] at hspec
    exact hspec ▸ hdx
  have hnb : (isBackend row && !sem.isStr r) = false := by simpa [rawStrOk, Decidable.imp_iff_not_or] using hr
  have hfile : ∀ lower, fileValue sem row (j, r) lower = .ok x := by
    intro lower
    simp only [fileValue, hfv, hfk, hnb, heq, hx, orErr, Bool.false_eq_true, if_false]
  refine ⟨?_, ?_, ?_, ?_⟩
  · exact key _ (by simp [valid, cliOk, envOk, fileOk, hcv, cliValue, hck, hx, orErr]) rfl rfl rfl
      (by simp [spec, hcv, cliValue, hck, hx, orErr])
  · exact key _ (by simp [valid, cliOk, envOk, fileOk, hfv, hfk, heq, hx]) rfl (by simp [flagsTruthy, flagOk, hfv, hfk])
      (by simpa [fileRawsStr, rawStrOk] using hr) (by simp [spec, specBelowCli, specBelowEnv, hfile])
  · exact key _ (by simp [valid, cliOk, envOk, fileOk, hfv, hfk, heq, hx]) rfl (by simp [flagsTruthy, flagOk, hfv, hfk])
      (by simpa [fileRawsStr, rawStrOk] using hr) (by simp [spec, specBelowCli, specBelowEnv, specBelowProfile, hfile])
  · intro n ety hre hee
    exact key _ (by simp [valid, cliOk, envOk, fileOk, hre, hee, hx]) rfl rfl rfl (by simp [spec, specBelowCli, hre, hee, hx, orErr])

theorem run_error_of_step (sem : Sem V) (cmd : OptCommand) (row : OptRow) (inp : Inputs V) (s0 : OptStep)
    (herr : ∀ st, ∃ e, step sem cmd row inp s0 st = .error e) (steps : List OptStep) (hmem : s0 ∈ steps) (st : St V) :
    ∃ e, run sem cmd row inp steps st = .error e := by
  induction steps generalizing st with
  | nil => simp at hmem
  | cons s rest ih =>
    simp only [run]
    cases hs : step sem cmd row inp s st with
    | error e => exact ⟨e, rfl⟩
    | ok st' =>
      rcases List.mem_cons.mp hmem with h | h
      · subst h
        obtain ⟨e, he⟩ := herr st
        rw [he] at hs
        cases hs
      · exact ih h st'

theorem pipeline_error_of_parse (sem : Sem V) (cmd : OptCommand) (row : OptRow) (inp : Inputs V) (e : Err)
    (h : parseCli sem row inp.cli [] none = .error e) : ∃ e', pipelineFinal sem cmd row inp = .error e' := by
  obtain ⟨e', he⟩ := run_error_of_step sem cmd row inp .secondParse (fun st => ⟨e, by simp [step, h]⟩) optSteps
    (by decide) (init inp)
  exact ⟨e', by simp [pipelineFinal, pipeline, he]⟩

def flagPairs (pairs : List (String × String)) (l : List OptCliVar) : List (OptCliVar × OptCliVar) :=
  pairs.flatMap fun xy => (l.filter (·.flag == xy.1)).flatMap fun a => (l.filter (·.flag == xy.2)).map fun b => (a, b)

theorem mem_flagPairs {pairs : List (String × String)} {l : List OptCliVar} {a b : OptCliVar} :
    (a, b) ∈ flagPairs pairs l ↔ a ∈ l ∧ b ∈ l ∧ (a.flag, b.flag) ∈ pairs := by
  simp only [flagPairs, List.mem_flatMap, List.mem_filter, List.mem_map, Prod.mk.injEq, beq_iff_eq, Prod.exists]
  constructor
  · rintro ⟨x, y, hxy, a', ⟨ha, rfl⟩, b', ⟨hb, rfl⟩, rfl, rfl⟩
    exact ⟨ha, hb, hxy⟩
  · rintro ⟨ha, hb, hxy⟩
    exact ⟨_, _, hxy, a, ⟨ha, rfl⟩, b, ⟨hb, rfl⟩, rfl, rfl⟩

theorem parseCli_conflict (sem : Sem V) (row : OptRow) (i j : Nat) (a b : OptCliVar) (ra rb : V)
    (ha : row.cli[i]? = some a) (hb : row.cli[j]? = some b) (hconf : conflicts b a = true) :
    ∃ e, parseCli sem row [(i, ra), (j, rb)] [] none = .error e := by
  simp only [parseCli, ha, List.any_nil]
  cases hx : cliValue sem a ra with
  | error e => exact ⟨e, by simp⟩
  | ok x => exact ⟨.argparse, by simp [hb, hconf]⟩

theorem fileMutex_of_two (row : OptRow) (merged : List (Nat × V)) (hcov : fileKeysCovered row = true)
    (i j : Nat) (hij : i ≠ j) (hi : i < row.file.length) (hj : j < row.file.length)
    (hli : (lookup merged i).isSome = true) (hlj : (lookup merged j).isSome = true) :
    fileMutexViolated row merged = true := by
  unfold fileKeysCovered at hcov
  match hf : row.file with
  | [] => simp [hf] at hi
  | [_] =>
    simp only [hf, List.length_singleton] at hi hj
    omega
  | [a, b] =>
    simp only [hf] at hcov hi hj
    have hcases : (i = 0 ∧ j = 1) ∨ (i = 1 ∧ j = 0) := by
      simp only [List.length_cons, List.length_nil] at hi hj
      omega
    obtain ⟨h0, h1⟩ : (lookup merged 0).isSome = true ∧ (lookup merged 1).isSome = true := by
      rcases hcases with ⟨rfl, rfl⟩ | ⟨rfl, rfl⟩
      · exact ⟨hli, hlj⟩
      · exact ⟨hlj, hli⟩
    unfold fileMutexViolated
    simp only [hf, presentKeys, h0, h1, if_true]
    rw [List.any_eq_true] at hcov ⊢
    obtain ⟨g, hg, hgc⟩ := hcov
    refine ⟨g, hg, ?_⟩
    simp only [Bool.and_eq_true, List.contains_iff_mem] at hgc
    simp [List.filter, hgc.1, hgc.2]
  | _ :: _ :: _ :: _ => simp [hf] at hcov

theorem applyFileVars_error (sem : Sem V) (vars : List OptFileVar) (merged : List (Nat × V)) (k : Nat) (r : V)
    (hl : lookup merged k = some r) (base : Nat) (hb : base ≤ k) (fv : OptFileVar) (hfv : vars[k - base]? = some fv)
    (hco : sem.co fv.ty r = none) (cfg : V) : ∃ e, applyFileVars sem vars merged base cfg = .error e := by
  induction vars generalizing base cfg with
  | nil => cases hfv
  | cons f rest ih =>
    rw [applyFileVars_cons]
    by_cases hk : base = k
    · subst hk
      obtain rfl : f = fv := by simpa using hfv
      simp only [hl, varStep, hco]
      cases f.kind <;> exact ⟨_, rfl⟩
    · have hidx : k - base = (k - (base + 1)) + 1 := by omega
      rw [hidx, List.getElem?_cons_succ] at hfv
      cases lookup merged base with
      | none => exact ih (base + 1) (by omega) hfv cfg
      | some raw =>
        dsimp only
        cases varStep sem f raw cfg with
        | error e => exact ⟨e, rfl⟩
        | ok x => exact ih (base + 1) (by omega) hfv x

theorem cfgStage_error (sem : Sem V) (row : OptRow) (merged : List (Nat × V)) (env : Option V) (c : V)
    (h : (∃ e, applyFileVars sem row.file merged 0 c = .error e) ∨ ∀ c', ∃ e, applyEnvVar sem row env c' = .error e) :
    ∃ e, cfgStage sem row merged env c = .error e := by
  unfold cfgStage
  split
  · exact ⟨_, rfl⟩
  · cases hf : applyFileVars sem row.file merged 0 c with
    | error e => exact ⟨e, rfl⟩
    | ok c' =>
      rcases h with ⟨e, he⟩ | h
      · rw [he] at hf
        cases hf
      · exact h c'

theorem pipeline_error_of_cfg (sem : Sem V) (cmd : OptCommand) (hcmd : (cmd.setDefaults && cmd.parents) = true)
    (row : OptRow) (hwf : wfRow row) (inp : Inputs V)
    (herr : ∃ e, cfgStage sem row (overlay inp.dflt inp.prof) inp.env inp.builtin = .error e) :
    ∃ e, pipelineFinal sem cmd row inp = .error e := by
  obtain ⟨e, he⟩ := herr
  rw [pipelineFinal, pipeline_eq sem cmd row inp hcmd hwf, he]
  cases (if row.scope == 0 then parseCli sem row inp.cli [] none else .ok none) with
  | error e' => exact ⟨e', rfl⟩
  | ok first => exact ⟨e, rfl⟩

theorem invalid_winner_rejected_row (sem : Sem V) (cmd : OptCommand) (hcmd : (cmd.setDefaults && cmd.parents) = true)
    (row : OptRow) (hwf : wfRow row) (hplain : allPlain row = true)
    (s : Simple V) (e : Err) (hspec : spec sem row s = .error e) (hne : e ≠ .model) :
    ∃ e', pipelineFinal sem cmd row s.toInputs = .error e' := by
  cases hcl : s.cli with
  | some ir =>
    refine pipeline_error_of_parse sem cmd row s.toInputs e ?_
    simp only [parseCli_simple, hcl, hspec, Except.map]
  | none =>
    simp only [spec, hcl] at hspec
    apply pipeline_error_of_cfg sem cmd hcmd row hwf s.toInputs
    have badkey : ∀ k r, lookup (overlay s.toInputs.dflt s.toInputs.prof) k = some r → ∀ lower e,
        fileValue sem row (k, r) lower = .error e → e ≠ .model →
        ∃ e', cfgStage sem row (overlay s.toInputs.dflt s.toInputs.prof) s.toInputs.env s.toInputs.builtin = .error e' := by
      intro k r hl lower e hfv hne'
      simp only [fileValue] at hfv
      cases hf : row.file[k]? with
      | none =>
        simp only [hf, Except.error.injEq] at hfv
        exact absurd hfv.symm hne'
      | some fv =>
        have hk : fv.kind = .plain := by simpa using List.all_eq_true.mp hplain fv (List.mem_of_getElem? hf)
        simp only [hf, hk] at hfv
        split at hfv
        · cases hfv
        · cases hco : sem.co fv.ty r with
          | some x => simp [hco, orErr] at hfv
          | none =>
            exact cfgStage_error sem row _ _ _
              (Or.inl (applyFileVars_error sem row.file _ k r hl 0 (Nat.zero_le _) fv (by simpa using hf) hco _))
    revert e
    refine specBelowCli_ind sem row s (P := fun x => ∀ e, e ≠ .model → x = .error e →
      ∃ e', cfgStage sem row (overlay s.toInputs.dflt s.toInputs.prof) s.toInputs.env s.toInputs.builtin = .error e') ?_ ?_
    · intro n ty raw hre hse e _ he
      cases hco : sem.co ty raw with
      | some x => simp [hco, orErr] at he
      | none =>
        refine cfgStage_error sem row _ _ _ (Or.inr fun c' => ⟨.configValue, ?_⟩)
        simp only [applyEnvVar, hre, show s.toInputs.env = some raw from hse, hco, orErr]
    · intro e hne' hb
      unfold specBelowEnv at hb
      cases hpr : s.prof with
      | some kv =>
        obtain ⟨k, r⟩ := kv
        simp only [hpr] at hb
        exact badkey k r (by simp [Simple.toInputs, hpr, overlay, lookup]) _ e hb hne'
      | none =>
        simp only [hpr] at hb
        unfold specBelowProfile at hb
        cases hdf : s.dflt with
        | some kv =>
          obtain ⟨k, r⟩ := kv
          simp only [hdf] at hb
          exact badkey k r (by simp [Simple.toInputs, hpr, hdf, overlay, lookup]) _ e hb hne'
        | none => simp [hdf] at hb

deriving instance DecidableEq for Except

/-- a small universe of Python values -/
inductive TV
  | none | tru | fls | missing
  | str (s : String) | int (n : Nat) | path (s : String) | bytes (s : String)
  deriving DecidableEq, Repr

/-- leaf functions of the witnesses: they behave like the real ones on the handful of values used there
(`guess_type` = `ast.literal_eval` with fallback to the string itself; on a non-string it raises, which is D14; `Path`,
`str.encode`, reading a file) -/
def toySem : Sem TV where
  co ty v :=
    match ty, v with
    | .guessType, .str s =>
      if s == "'1'" then some (.str "1")
      else if s == "1" then some (.int 1)
      else if s == "7" then some (.int 7)
      else if s == "9877" then some (.int 9877)
      else some (.str s)
    | .guessType, _ => Option.none
    | .path, .str s => some (.path s)
    | .checkBoolean, .tru => some .tru
    | .checkBoolean, .fls => some .fls
    | .strEncode, .str s => some (.bytes s)
    | .readBytesCfg, .str s => some (.bytes ("contents of " ++ s))
    | .readBytesCli, .str s => some (.bytes ("contents of " ++ s))
    | _, _ => Option.none
  isStr v := match v with
    | .str _ => true
    | _ => false
  truthy v := v == .tru
  noneV := .none
  trueV := .tru

/-- the row of the generated table for an option (`owner` = backend module / sub-command / "") -/
def rowOf (owner dest : String) : Option OptRow := optRows.find? (fun r => r.owner == owner && r.dest == dest)

theorem rowOf_mem {owner dest : String} {row : OptRow} (h : rowOf owner dest = some row) : row ∈ optRows :=
  List.mem_of_find?_eq_some h

/-! rows used by the witnesses -/
/-- the first sub-command of the table (the witnesses do not depend on the sub-command) -/
def cmd0 : OptCommand := optCommands.head!

def vfyPort : OptRow := (rowOf "vfy" "port").get (by decide)
def s3cKeyId : OptRow := (rowOf "s3c" "key_id").get (by decide)
def vfyNumericLabel : OptRow := (rowOf "vfy" "numeric_label").get (by decide)
def cacheDirectory : OptRow := (rowOf "" "cache_directory").get (by decide)
def keyRow : OptRow := (rowOf "" "key").get (by decide)

end Replicat.Options
