import ReplicatModel.LocalConc
import ReplicatProofs.Lemmas.LocalUpload
/-! Lemmas for overlapping uploads on one local backend object (C13, `LocalConc.lean`): the invariant every schedule keeps when the
temporaries of the calls are private. -/
namespace Replicat.LocalConc
open Replicat Replicat.LocalUpload

theorem plan_eq (c : Call) :
    c.plan = Step.mkdirP c.dir :: Step.createTemp c.tmp :: (c.pieces.map (Step.write c.tmp) ++ [Step.rename c.tmp c.dst]) :=
  rfl

theorem plan_length (c : Call) : c.plan.length = c.pieces.length + 3 := by
  rw [plan_eq, List.length_cons, List.length_cons, List.length_append, List.length_map]
  rfl

theorem plan_cases (c : Call) (p : Nat) (st : Step) (h : c.plan[p]? = some st) :
    (p + 1 < c.plan.length ∧ TmpOnly c.tmp st ∧ ((p = 0 ∧ st = .mkdirP c.dir) ∨ (p = 1 ∧ st = .createTemp c.tmp) ∨
      ∃ k, ∃ hk : k < c.pieces.length, p = k + 2 ∧ st = .write c.tmp (c.pieces[k]'hk))) ∨
    (p + 1 = c.plan.length ∧ p = c.pieces.length + 2 ∧ st = .rename c.tmp c.dst) := by
  rw [plan_length]
  rw [plan_eq] at h
  rcases p with _ | _ | k
  · cases h
    exact Or.inl ⟨Nat.succ_lt_succ (Nat.succ_pos _), trivial, Or.inl ⟨rfl, rfl⟩⟩
  · cases h
    exact Or.inl ⟨Nat.succ_lt_succ (Nat.succ_lt_succ (Nat.succ_pos _)), rfl, Or.inr (Or.inl ⟨rfl, rfl⟩)⟩
  · rw [List.getElem?_cons_succ, List.getElem?_cons_succ, List.getElem?_append, List.length_map] at h
    by_cases hk : k < c.pieces.length
    · rw [if_pos hk, List.getElem?_map, List.getElem?_eq_getElem hk] at h
      cases h
      exact Or.inl ⟨Nat.add_lt_add_right hk 3, rfl, Or.inr (Or.inr ⟨k, hk, rfl, rfl⟩)⟩
    · rw [if_neg hk, List.getElem?_singleton] at h
      by_cases h0 : k - c.pieces.length = 0
      · rw [if_pos h0] at h
        cases Nat.le_antisymm (Nat.sub_eq_zero_iff_le.mp h0) (Nat.not_lt.mp hk)
        exact Or.inr ⟨rfl, rfl, (Option.some.inj h).symm⟩
      · rw [if_neg h0] at h
        cases h

theorem plan_step_other (c : Call) (p : Nat) (st : Step) (h : c.plan[p]? = some st) (fs : FS) (t : Path)
    (ht : t ≠ c.tmp) (hd : t ≠ c.dst) : lookup (apply fs st).files t = lookup fs.files t := by
  rcases plan_cases c p st h with ⟨_, htmp, _⟩ | ⟨_, _, rfl⟩
  · exact lookup_apply_tmpOnly fs c.tmp t st htmp ht
  · exact lookup_apply_rename fs c.tmp c.dst t ht hd

/-- `k + 2`: mkdir, create, then `k` writes -/
def Holds (c : Call) (fs : FS) (p : Nat) : Prop :=
  ∀ k, p = k + 2 → p < c.plan.length → lookup fs.files c.tmp = some (c.pieces.take k).flatten

theorem holds_congr {c : Call} {fs fs' : FS} {p : Nat} (e : lookup fs'.files c.tmp = lookup fs.files c.tmp) (h : Holds c fs p) :
    Holds c fs' p :=
  fun k hk hlt => e.trans (h k hk hlt)

theorem plan_step_tmp (c : Call) (p : Nat) (st : Step) (h : c.plan[p]? = some st) (fs : FS) (hold : Holds c fs p) :
    Holds c (apply fs st) (p + 1) := by
  intro k' hk' hlt
  rcases plan_cases c p st h with ⟨hlt', _, ⟨hp, rfl⟩ | ⟨hp, rfl⟩ | ⟨k, hk, hp, rfl⟩⟩ | ⟨heq, _, rfl⟩
  · subst hp
    cases hk'
  · subst hp
    cases hk'
    exact (lookup_setFile ..).trans (if_pos rfl)
  · subst hp
    cases hk'
    rw [apply, hold k rfl (Nat.lt_of_succ_lt hlt'), List.take_succ_eq_append_getElem hk, List.flatten_append, List.flatten_singleton]
    exact (lookup_setFile ..).trans (if_pos rfl)
  · exact absurd heq (Nat.ne_of_lt hlt)

theorem ne_of_isTmp {t n : Path} (ht : isTmp t = true) (hn : isTmp n = false) : t ≠ n := by
  rintro rfl
  cases ht.symm.trans hn

theorem next_step_cases (calls : List Call) (cf : Conf) (i : Nat) :
    next calls cf (.step i) = cf ∨ ∃ c st, calls[i]? = some c ∧ c.plan[cf.pc i]? = some st ∧
      next calls cf (.step i) = ⟨apply cf.fs st, fun j => if j = i then cf.pc i + 1 else cf.pc j,
        if cf.pc i + 1 = c.plan.length then .put c.dst c.data :: cf.log else cf.log⟩ := by
  simp only [next]
  cases hc : calls[i]? with
  | none => exact Or.inl rfl
  | some c =>
    dsimp only
    cases hst : c.plan[cf.pc i]? with
    | none => exact Or.inl rfl
    | some st => exact Or.inr ⟨c, st, rfl, hst, rfl⟩

/-- (`tmp`) a call that has created its temporary and not yet renamed it finds there exactly the pieces it has written so far;
(`obs`) every name that is not a temporary reads as in the map the log denotes -/
structure Inv (calls : List Call) (fs0 : FS) (cf : Conf) : Prop where
  tmp : ∀ (i : Nat) (c : Call), calls[i]? = some c → Holds c cf.fs (cf.pc i)
  obs : ∀ n, vget cf.fs n = vget (spec fs0 cf.log) n

theorem inv_init (calls : List Call) (fs0 : FS) : Inv calls fs0 (init fs0) :=
  ⟨fun _ _ _ _ h _ => (Nat.succ_ne_zero _ h.symm).elim, fun _ => rfl⟩

section run
variable (calls : List Call) (fs0 : FS)
  (htmp : ∀ (i : Nat) (c : Call), calls[i]? = some c → isTmp c.tmp = true)
  (hdst : ∀ (i : Nat) (c : Call), calls[i]? = some c → isTmp c.dst = false) (hpriv : privateTemps calls)
include htmp hdst hpriv

theorem inv_next (cf : Conf) (hinv : Inv calls fs0 cf) (e : Ev) (he : ∀ n, e = .delete n → isTmp n = false) :
    Inv calls fs0 (next calls cf e) := by
  cases e with
  | delete n =>
    refine ⟨fun i c hc => ?_, fun m => ?_⟩
    · exact holds_congr ((lookup_remove ..).trans (if_neg (ne_of_isTmp (htmp i c hc) (he n rfl)))) (hinv.tmp i c hc)
    · show vget (apply cf.fs (.unlink n)) m = vget (apply (spec fs0 cf.log) (.unlink n)) m
      rw [vget_unlink, vget_unlink, hinv.obs m]
  | step i =>
    rcases next_step_cases calls cf i with h | ⟨c, st, hc, hst, h⟩
    · rw [h]
      exact hinv
    · rw [h]
      have hold := hinv.tmp i c hc
      refine ⟨fun j cj hcj => ?_, fun m => ?_⟩
      · dsimp only
        by_cases hji : j = i
        · subst hji
          cases hc.symm.trans hcj
          rw [if_pos rfl]
          exact plan_step_tmp c _ st hst cf.fs hold
        · rw [if_neg hji]
          exact holds_congr (plan_step_other c _ st hst cf.fs cj.tmp (hpriv j i cj c hcj hc hji)
            (ne_of_isTmp (htmp j cj hcj) (hdst i c hc))) (hinv.tmp j cj hcj)
      · dsimp only
        rcases plan_cases c _ st hst with ⟨hlt, honly, _⟩ | ⟨heq, hp, rfl⟩
        · rw [if_neg (Nat.ne_of_lt hlt), vget_apply_tmpOnly cf.fs c.tmp (htmp i c hc) st honly m]
          exact hinv.obs m
        · have hfull := hold _ hp (heq ▸ Nat.lt_succ_self _)
          rw [List.take_length] at hfull
          rw [if_pos heq, vget_rename cf.fs c.tmp c.dst c.data (htmp i c hc) (hdst i c hc) hfull m]
          exact vget_putObj_congr _ _ _ _ hinv.obs m

theorem inv_run (evs : List Ev) (cf : Conf) (hinv : Inv calls fs0 cf) (hdel : deletesOk evs) : Inv calls fs0 (run calls cf evs) := by
  unfold run
  induction evs generalizing cf with
  | nil => exact hinv
  | cons e es ih =>
    apply ih
    · exact inv_next calls fs0 htmp hdst hpriv cf hinv e (fun n hn => hdel n (hn ▸ List.mem_cons_self))
    · exact fun n hn => hdel n (List.mem_cons_of_mem _ hn)

end run

/-- every `put` of the log is the destination and the WHOLE payload of one of the calls -/
def LogFromCalls (calls : List Call) (log : List MapOp) : Prop :=
  ∀ n d, MapOp.put n d ∈ log → ∃ c ∈ calls, c.dst = n ∧ c.data = d

theorem log_next (calls : List Call) (cf : Conf) (h : LogFromCalls calls cf.log) (e : Ev) : LogFromCalls calls (next calls cf e).log := by
  cases e with
  | delete n =>
    intro m d hm
    rcases List.mem_cons.mp hm with hm | hm
    · cases hm
    · exact h m d hm
  | step i =>
    rcases next_step_cases calls cf i with hn | ⟨c, st, hc, _, hn⟩
    · rw [hn]
      exact h
    · rw [hn]
      dsimp only
      by_cases heq : cf.pc i + 1 = c.plan.length
      · rw [if_pos heq]
        intro m d hm
        rcases List.mem_cons.mp hm with hm | hm
        · cases hm
          exact ⟨c, List.mem_of_getElem? hc, rfl, rfl⟩
        · exact h m d hm
      · rw [if_neg heq]
        exact h

theorem log_run (calls : List Call) (evs : List Ev) (cf : Conf) (h : LogFromCalls calls cf.log) :
    LogFromCalls calls (run calls cf evs).log := by
  unfold run
  induction evs generalizing cf with
  | nil => exact h
  | cons e es ih => exact ih _ (log_next calls cf h e)

/-- what a name reads as in the map a log denotes: the initial value, nothing (deleted), or the payload of one of the log's puts to
that name -/
theorem spec_lookup (fs0 : FS) (log : List MapOp) (n : Path) :
    lookup (spec fs0 log).files n = lookup fs0.files n ∨ lookup (spec fs0 log).files n = none ∨
    ∃ d, MapOp.put n d ∈ log ∧ lookup (spec fs0 log).files n = some d := by
  induction log with
  | nil => exact Or.inl rfl
  | cons op log ih =>
    have hrest := ih.imp_right (Or.imp_right (Exists.imp fun _ => And.imp_left (List.mem_cons_of_mem op)))
    cases op with
    | put k d =>
      have hk : lookup (spec fs0 (.put k d :: log)).files n = if n = k then some d else lookup (spec fs0 log).files n :=
        lookup_setFile ..
      by_cases e : n = k
      · subst e
        exact Or.inr (Or.inr ⟨d, List.mem_cons_self, hk.trans (if_pos rfl)⟩)
      · rw [hk.trans (if_neg e)]
        exact hrest
    | del k =>
      have hk : lookup (spec fs0 (.del k :: log)).files n = if n = k then none else lookup (spec fs0 log).files n :=
        lookup_remove ..
      by_cases e : n = k
      · exact Or.inr (Or.inl (hk.trans (if_pos e)))
      · rw [hk.trans (if_neg e)]
        exact hrest

end Replicat.LocalConc
