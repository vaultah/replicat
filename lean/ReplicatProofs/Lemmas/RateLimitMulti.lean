import ReplicatProofs.Lemmas.RateLimit
/-!
The round-robin history of defect candidate D16 (threads whose underlying calls take as long as their bytes are worth
never sleep), the other direction seen as idle time (`proj`), and the wrapper as underlying call plus one limiter step.
-/
namespace Replicat.RateLimit
open Replicat

theorem owed_exact (L : Rat) (d : Nat) : owed L d ((d : Rat) / L) = 0 := by
  unfold owed
  rw [Rat.sub_self, Rat.max_def, if_pos Rat.le_refl]

theorem pause_zero : pause 0 0 0 = ⟨0, 0, 0⟩ := by
  rw [pause_uncapped 0 0 0 (by decide +kernel), if_pos (by decide +kernel), Rat.add_zero]

theorem step_paced (L : Rat) (s : St) (i d : Nat) (lat : Rat) (hd : s.debt = 0) (how : owed L d lat = 0) :
    step L s (.io i d lat 0) =
      (⟨0, max (s.clk i + lat) s.lockFree, upd s.clk i (max (s.clk i + lat) s.lockFree)⟩,
        some ⟨i, d, lat, s.clk i + lat, max (s.clk i + lat) s.lockFree, max (s.clk i + lat) s.lockFree, 0, 0, 0⟩) := by
  simp only [step, hd, how, pause_zero, Rat.add_zero]

theorem roundFrom_spec (L : Rat) (d : Nat) (lat T : Rat) (how : owed L d lat = 0) (n i : Nat) (s : St)
    (hd : s.debt = 0) (hl : s.lockFree ≤ T + lat) (hall : ∀ j, s.clk j ≤ T + lat)
    (hrest : ∀ j, i ≤ j → s.clk j ≤ T) :
    (run L s (roundFrom d lat i n)).1.debt = 0 ∧
    (run L s (roundFrom d lat i n)).1.lockFree ≤ T + lat ∧
    (∀ j, (run L s (roundFrom d lat i n)).1.clk j ≤ T + lat) ∧
    (∀ o ∈ (run L s (roundFrom d lat i n)).2, o.tRel ≤ T + lat ∧ o.slept = 0 ∧ o.debt = 0) := by
  induction n generalizing i s with
  | zero => exact ⟨hd, hl, hall, fun _ h => absurd h List.not_mem_nil⟩
  | succ n ih =>
    have hmax : max (s.clk i + lat) s.lockFree ≤ T + lat :=
      max_le (Rat.add_le_add_right.mpr (hrest i (Nat.le_refl i))) hl
    rw [roundFrom, run_cons, step_paced L s i d lat hd how]
    obtain ⟨a1, a2, a3, a4⟩ := ih (i + 1) ⟨0, _, upd s.clk i (max (s.clk i + lat) s.lockFree)⟩ rfl hmax
      (upd_le _ _ hmax hall)
      (fun j hj => by
        show upd s.clk i _ j ≤ T
        rw [upd_other s.clk _ (Nat.ne_of_gt hj)]
        exact hrest j (Nat.le_of_succ_le hj))
    exact ⟨a1, a2, a3, List.forall_mem_cons.mpr ⟨⟨hmax, rfl, rfl⟩, a4⟩⟩

theorem rounds_spec (L : Rat) (N d : Nat) (lat : Rat) (hlat : 0 ≤ lat) (how : owed L d lat = 0) (k : Nat) (T : Rat)
    (s : St) (hd : s.debt = 0) (hl : s.lockFree ≤ T) (hall : ∀ j, s.clk j ≤ T) :
    ∀ o ∈ (run L s (rounds N d lat k)).2, o.tRel ≤ T + k * lat ∧ o.slept = 0 ∧ o.debt = 0 := by
  induction k generalizing T s with
  | zero => exact fun _ h => absurd h List.not_mem_nil
  | succ k ih =>
    have hT := le_add_of_nonneg T hlat
    obtain ⟨a1, a2, a3, a4⟩ := roundFrom_spec L d lat T how N 0 s hd (Rat.le_trans hl hT)
      (fun j => Rat.le_trans (hall j) hT) (fun j _ => hall j)
    have e : T + ((k + 1 : Nat) : Rat) * lat = T + lat + k * lat := by
      rw [Rat.natCast_add, Rat.natCast_ofNat, Rat.add_mul, Rat.one_mul, Rat.add_comm (k * lat), Rat.add_assoc]
    rw [rounds, run_append, e]
    exact List.forall_mem_append.mpr ⟨fun o h =>
      ⟨Rat.le_trans (a4 o h).1 (le_add_of_nonneg _ (Rat.mul_nonneg Rat.natCast_nonneg hlat)), (a4 o h).2⟩,
      ih (T + lat) _ a1 a2 a3⟩

theorem sumBytes_roundFrom (L : Rat) (d : Nat) (lat : Rat) (n i : Nat) (s : St) :
    sumBytes (run L s (roundFrom d lat i n)).2 = n * (d : Rat) := by
  induction n generalizing i s with
  | zero => exact (Rat.zero_mul _).symm
  | succ n ih =>
    rw [roundFrom, run_cons, Rat.natCast_add, Rat.natCast_ofNat, Rat.add_mul, Rat.one_mul, Rat.add_comm, ← ih (i + 1)]
    rfl

theorem sumBytes_rounds (L : Rat) (N d : Nat) (lat : Rat) (k : Nat) (s : St) :
    sumBytes (run L s (rounds N d lat k)).2 = k * (N * (d : Rat)) := by
  induction k generalizing s with
  | zero => exact (Rat.zero_mul _).symm
  | succ k ih =>
    rw [rounds, run_append, sumBytes_append, sumBytes_roundFrom, ih, Rat.natCast_add, Rat.natCast_ofNat, Rat.add_mul,
      Rat.one_mul, Rat.add_comm]

theorem roundFrom_ok (L : Rat) (d : Nat) (lat : Rat) (hd : 4 * (d : Rat) ≤ L) (hlat : 0 ≤ lat) (n i : Nat) :
    ∀ e ∈ roundFrom d lat i n, EvOk L 0 d e := by
  induction n generalizing i with
  | zero => exact fun _ h => absurd h List.not_mem_nil
  | succ n ih =>
    exact List.forall_mem_cons.mpr ⟨⟨hd, Nat.le_refl d, hlat, Rat.le_refl, Rat.le_refl⟩, ih (i + 1)⟩

theorem rounds_ok (L : Rat) (N d : Nat) (lat : Rat) (hd : 4 * (d : Rat) ≤ L) (hlat : 0 ≤ lat) (k : Nat) :
    ∀ e ∈ rounds N d lat k, EvOk L 0 d e := by
  induction k with
  | zero => exact fun _ h => absurd h List.not_mem_nil
  | succ k ih => exact List.forall_mem_append.mpr ⟨roundFrom_ok L d lat hd hlat N 0, ih⟩

/-! ### the other direction is idle time -/
theorem obsOf_cons_same (d : Dir) (o : Obs) (l : List (Dir × Obs)) : obsOf d ((d, o) :: l) = o :: obsOf d l := by
  simp [obsOf]

theorem obsOf_cons_other (d d' : Dir) (o : Obs) (l : List (Dir × Obs)) (h : d' ≠ d) : obsOf d ((d', o) :: l) = obsOf d l := by
  simp [obsOf, h]

theorem view_put_same (s : St2) (d : Dir) (t : St) : (s.put d t).view d = t := by
  cases d <;> rfl

theorem view_put_other (s : St2) (d d' : Dir) (t : St) (h : d' ≠ d) :
    (s.put d' t).view d = ⟨(s.view d).debt, (s.view d).lockFree, t.clk⟩ := by
  cases d <;> cases d' <;> first | (exact absurd rfl h) | rfl

theorem view_clk (s : St2) (d : Dir) : (s.view d).clk = s.clk := by
  cases d <;> rfl

theorem put_clk (s : St2) (d : Dir) (t : St) : (s.put d t).clk = t.clk := by
  cases d <;> rfl

theorem run2_cons (Lr Lw : Rat) (s : St2) (e : Ev2) (es : List Ev2) :
    run2 Lr Lw s (e :: es) =
      ((run2 Lr Lw (step2 Lr Lw s e).1 es).1, (step2 Lr Lw s e).2.toList ++ (run2 Lr Lw (step2 Lr Lw s e).1 es).2) := rfl

theorem proj_sim (Lr Lw : Rat) (d : Dir) (evs : List Ev2) (s : St2) :
    obsOf d (run2 Lr Lw s evs).2 = (run (limitOf Lr Lw d) (s.view d) (proj Lr Lw d s evs)).2 ∧
    (run2 Lr Lw s evs).1.view d = (run (limitOf Lr Lw d) (s.view d) (proj Lr Lw d s evs)).1 := by
  induction evs generalizing s with
  | nil => exact ⟨rfl, rfl⟩
  | cons e es ih =>
    have ih := ih (step2 Lr Lw s e).1
    rw [run2_cons]
    simp only [proj]
    rw [run_cons]
    cases e with
    | idle i dt =>
      have hv : (step2 Lr Lw s (.idle i dt)).1.view d = (step (limitOf Lr Lw d) (s.view d) (.idle i dt)).1 := by
        cases d <;> rfl
      rw [hv] at ih
      exact ih
    | io d' i b lat ov =>
      by_cases hdd : d' = d
      · subst hdd
        simp only [if_true]
        rw [show (step2 Lr Lw s (.io d' i b lat ov)).1.view d' = _ from view_put_same _ _ _] at ih
        exact ⟨(obsOf_cons_same _ _ _).trans (congrArg _ ih.1), ih.2⟩
      · simp only [hdd, if_false]
        have hv : (step2 Lr Lw s (.io d' i b lat ov)).1.view d =
            (step (limitOf Lr Lw d) (s.view d) (.idle i ((step2 Lr Lw s (.io d' i b lat ov)).1.clk i - s.clk i))).1 := by
          simp only [step2, step]
          rw [view_put_other _ _ _ _ hdd]
          rw [put_clk, view_clk, view_clk]
          dsimp only
          rw [upd_same, Rat.add_comm (s.clk i) (_ - _), Rat.sub_add_cancel]
        rw [hv] at ih
        exact ⟨(obsOf_cons_other _ _ _ _ hdd).trans ih.1, ih.2⟩

/-- what the limiter is told about one call: direction and number of bytes -/
def accounted : FOp → FRes → Option (Dir × Nat)
  | .read _, .data b => some (.read, b.length)
  | .write _, .num n => some (.write, n)
  | _, _ => none

theorem wrapStep_eq {F : Type} (u : F → FOp → F × FRes) (Lr Lw : Rat) (i : Nat) (f : F) (s : St2) (op : FOp) (lat ov : Rat) :
    wrapStep u Lr Lw i f s op lat ov =
      match accounted op (u f op).2 with
      | some (d, n) => ((u f op).1, (u f op).2, step2 Lr Lw s (.io d i n lat ov))
      | none => ((u f op).1, (u f op).2, s, none) := by
  unfold wrapStep accounted
  generalize u f op = r
  obtain ⟨f', res⟩ := r
  cases op <;> cases res <;> rfl

theorem wrapStep_fst {F : Type} (u : F → FOp → F × FRes) (Lr Lw : Rat) (i : Nat) (f : F) (s : St2) (op : FOp) (lat ov : Rat) :
    (wrapStep u Lr Lw i f s op lat ov).1 = (u f op).1 ∧ (wrapStep u Lr Lw i f s op lat ov).2.1 = (u f op).2 := by
  rw [wrapStep_eq]
  split <;> exact ⟨rfl, rfl⟩

theorem step2_io_obs (Lr Lw : Rat) (s : St2) (d : Dir) (i b : Nat) (lat ov : Rat) :
    ∃ o, (step2 Lr Lw s (.io d i b lat ov)).2 = some (d, o) ∧ o.bytes = b ∧ o.stream = i :=
  ⟨_, rfl, rfl, rfl⟩

theorem wrapStep_obs {F : Type} (u : F → FOp → F × FRes) (Lr Lw : Rat) (i : Nat) (f : F) (s : St2) (op : FOp) (lat ov : Rat) :
    (wrapStep u Lr Lw i f s op lat ov).2.2.2.map (fun p => (p.1, p.2.bytes)) = accounted op (u f op).2 := by
  rw [wrapStep_eq]
  split
  · next h => exact h ▸ rfl
  · next h => exact h ▸ rfl

/-! ### the in-memory file: reads come out in order, once -/
theorem memfile_read (f : MemFile) (size : Option Nat) :
    ∃ out, f.apply (.read size) = (⟨f.data, f.pos + out.length⟩, .data out) ∧
      out ++ f.data.drop (f.pos + out.length) = f.data.drop f.pos := by
  have key : ∀ out, out <+: f.data.drop f.pos → out ++ f.data.drop (f.pos + out.length) = f.data.drop f.pos := by
    intro out h
    rw [← List.drop_drop]
    exact List.prefix_iff_eq_append.mp h
  cases size with
  | none => exact ⟨_, rfl, key _ (List.prefix_refl _)⟩
  | some n => exact ⟨_, rfl, key _ (List.take_prefix n _)⟩

end Replicat.RateLimit
