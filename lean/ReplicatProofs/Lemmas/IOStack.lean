import ReplicatModel.IOStack
/-! A stack of wrapper layers refines the bare file: one call returns what `bareStep` returns and leaves the file `bareStep`
leaves. -/
namespace Replicat.IOStack

theorem offers_cons (l : Layer) (ls : List Layer) (m : Meth) :
    offers (l :: ls) m = ((layerSpec l m).isSome && offers ls m) := by
  simp [offers]

theorem stackStep_refines_bareStep (ls : List Layer) (f : File) (op : Op) :
    (stackStep ls f op).1 = (bareStep ls f op).1 ∧ (stackStep ls f op).2.1 = (bareStep ls f op).2 := by
  induction ls with
  | nil => simp [stackStep, bareStep, offers]
  | cons l ls ih =>
    cases h : layerSpec l op.meth with
    | none => simp [stackStep, bareStep, offers_cons, h]
    | some e =>
      simp only [stackStep, bareStep, offers_cons, h, Option.isSome_some, Bool.true_and]
      exact ih

theorem bareStep_offered {ls : List Layer} {op : Op} (h : offers ls op.meth = true) (f : File) :
    bareStep ls f op = f.apply op := if_pos h

theorem runStack_refines (ls : List Layer) (ops : List Op) (f : File) :
    (runStack ls f ops).1 = (runBare ls f ops).1 ∧ (runStack ls f ops).2.1 = (runBare ls f ops).2 := by
  induction ops generalizing f with
  | nil => exact ⟨rfl, rfl⟩
  | cons op ops ih =>
    have h := stackStep_refines_bareStep ls f op
    have h2 := ih (bareStep ls f op).1
    simp only [runStack, runBare, h.1, h.2]
    exact ⟨h2.1, congrArg _ h2.2⟩

theorem runBare_eq_runFile (ls : List Layer) (ops : List Op) (f : File) (h : ∀ op ∈ ops, offers ls op.meth = true) :
    runBare ls f ops = runFile f ops := by
  induction ops generalizing f with
  | nil => rfl
  | cons op ops ih =>
    obtain ⟨h1, hs⟩ := List.forall_mem_cons.mp h
    simp only [runBare, runFile, bareStep_offered h1]
    rw [ih _ hs]

theorem readLen_le_avail (f : File) (n : Option Int) : f.readLen n ≤ f.avail := by
  unfold File.readLen
  split
  · exact Nat.le_refl _
  · split
    · exact Nat.le_refl _
    · split
      · exact Nat.min_le_right _ _
      · exact Nat.le_trans (Nat.min_le_left _ _) (Nat.min_le_right _ _)

theorem read_length (f : File) (n : Option Int) : ((f.content.drop f.pos).take (f.readLen n)).length = f.readLen n := by
  rw [List.length_take, List.length_drop]
  exact Nat.min_eq_left (readLen_le_avail f n)

theorem readLen_some (f : File) {cs : Int} (h : 0 ≤ cs) :
    (f.readLen (some cs) : Int) ≤ cs ∧ (f.cap ≠ 0 → f.readLen (some cs) ≤ f.cap) ∧
    (1 ≤ cs → 0 < f.avail → 0 < f.readLen (some cs)) := by
  have hm : ((cs.toNat : Nat) : Int) = cs := Int.toNat_of_nonneg h
  simp only [File.readLen, Int.not_lt.mpr h, if_false]
  generalize cs.toNat = m at hm
  subst hm
  split
  · exact ⟨Int.ofNat_le.mpr (Nat.min_le_left _ _), fun h' => absurd ‹_› h', fun h1 h2 => Nat.lt_min.mpr ⟨by omega, h2⟩⟩
  · exact ⟨Int.ofNat_le.mpr (Nat.le_trans (Nat.min_le_left _ _) (Nat.min_le_left _ _)), fun _ => Nat.min_le_right _ _,
      fun h1 h2 => Nat.lt_min.mpr ⟨Nat.lt_min.mpr ⟨by omega, h2⟩, Nat.pos_of_ne_zero ‹_›⟩⟩

theorem iterChunks_succ {ls : List Layer} (hoff : offers ls .read = true) (cs : Int) (n : Nat) (f : File) :
    iterChunks ls cs (n + 1) f =
      if f.readLen (some cs) = 0 then
        ⟨{ f with pos := f.pos + f.readLen (some cs) }, [], (stackStep ls f (.read (some cs))).2.2, true⟩
      else
        let d := iterChunks ls cs n { f with pos := f.pos + f.readLen (some cs) }
        ⟨d.file, (f.content.drop f.pos).take (f.readLen (some cs)) :: d.pieces,
          (stackStep ls f (.read (some cs))).2.2 ++ d.events, d.ended⟩ := by
  have h := stackStep_refines_bareStep ls f (.read (some cs))
  rw [bareStep_offered (op := .read (some cs)) hoff] at h
  simp only [iterChunks, h.1, h.2, File.apply, File.read, read_length]

theorem iterChunks_delivers {ls : List Layer} (hoff : offers ls .read = true) (cs : Int) (hcs : 1 ≤ cs) (fuel : Nat) (f : File)
    (hf : f.avail < fuel) :
    (iterChunks ls cs fuel f).pieces.flatten = f.content.drop f.pos ∧
    (iterChunks ls cs fuel f).ended = true ∧
    (∀ p ∈ (iterChunks ls cs fuel f).pieces, 0 < p.length ∧ (p.length : Int) ≤ cs ∧ (f.cap ≠ 0 → p.length ≤ f.cap)) ∧
    (iterChunks ls cs fuel f).file.content = f.content ∧
    (iterChunks ls cs fuel f).file.pos = f.pos + f.avail := by
  induction fuel generalizing f with
  | zero => exact absurd hf (Nat.not_lt_zero _)
  | succ n ih =>
    have hk := readLen_le_avail f (some cs)
    obtain ⟨hkcs, hkcap, hkpos⟩ := readLen_some f (Int.le_trans (by decide) hcs)
    rw [iterChunks_succ hoff]
    split
    · next h0 =>
      have ha : f.avail = 0 := Nat.eq_zero_of_not_pos fun h => Nat.ne_of_gt (hkpos hcs h) h0
      refine ⟨(List.drop_eq_nil_of_le ?_).symm, rfl, fun _ h => absurd h List.not_mem_nil, rfl, ?_⟩
      · exact Nat.le_of_sub_eq_zero ha
      · show f.pos + f.readLen (some cs) = f.pos + f.avail
        rw [h0, ha]
    · next h0 =>
      have hav : ({ f with pos := f.pos + f.readLen (some cs) } : File).avail = f.avail - f.readLen (some cs) :=
        Nat.sub_add_eq _ _ _
      have hkp := Nat.pos_of_ne_zero h0
      obtain ⟨i1, i2, i3, i4, i5⟩ := ih { f with pos := f.pos + f.readLen (some cs) }
        (hav ▸ Nat.lt_of_lt_of_le (Nat.sub_lt (Nat.lt_of_lt_of_le hkp hk) hkp) (Nat.le_of_lt_succ hf))
      refine ⟨?_, i2, List.forall_mem_cons.mpr ⟨?_, i3⟩, i4, ?_⟩
      · rw [List.flatten_cons, i1]
        rw [← List.drop_drop, List.take_append_drop]
      · rw [read_length]
        exact ⟨hkp, hkcs, hkcap⟩
      · rw [i5, hav]
        exact (Nat.add_assoc _ _ _).trans (congrArg _ (Nat.add_sub_cancel' hk))

theorem effEvents_nothing (op : Op) (r : Res) : effEvents .nothing op r = [] := by
  cases r <;> rfl

theorem truncate_pos (f : File) (n : Option Int) : (f.truncate n).1.pos = f.pos := by
  unfold File.truncate
  dsimp only
  split <;> split <;> rfl

/-- through a command's stack only the progress wrapper reacts to `truncate` -/
theorem stackStep_commandStack_truncate (c : Cmd) (limited : Bool) (f : File) (n : Option Int) :
    stackStep (commandStack c limited) f (.truncate n) =
      ((f.truncate n).1, (f.truncate n).2, effEvents .resetRes (.truncate n) (f.truncate n).2) := by
  cases c <;> cases limited <;>
    simp only [commandStack, stackStep, layerSpec, Op.meth, File.apply, effEvents_nothing, List.append_nil, List.nil_append,
      Bool.false_eq_true, if_true, if_false]

end Replicat.IOStack
