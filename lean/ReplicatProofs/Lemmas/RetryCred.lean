import ReplicatModel.RetryCred
/-!
Sessions on one long-lived B2 object (`ReplicatModel/RetryCred.lean`): every method, called in any state of service and object in
which no credential event is pending, returns normally after at most one re-authentication and a bounded number of requests.
-/
namespace Replicat.Cred
open Replicat Replicat.Retry

/-- the service never accepts a credential it has not issued yet -/
def WF (s : Sess) : Prop := s.acctLive ≤ s.acctIssued ∧ s.upLive ≤ s.upIssued ∧ s.podLive ≤ s.upIssued

/-- no credential event is scheduled inside the operation -/
def Quiet (s : Sess) : Prop := s.pending = none

/-- what the session theorems need from the extracted configuration: upload credentials are fetched afresh, the response hook
turns a 401 into `AuthRequired`, and `requires_auth` answers `AuthRequired` with a re-authentication -/
abbrev Sound (c : Cfg) : Prop := c.credsFresh = true ∧ c.e401 = .auth ∧ c.pol .auth 1 0 = .reauth false

theorem call_ok {α : Type} {pol : Err → Nat → Nat → Decision} {att : Sess → R α × Sess} {fuel tries rounds : Nat} {s s1 : Sess} {a : α}
    (h : att s = (.ok a, s1)) : call pol att (fuel + 1) tries rounds s = (.ok a, s1) := by
  rw [call, h]

theorem call_reauth {α : Type} {pol : Err → Nat → Nat → Decision} {att : Sess → R α × Sess} {tries rounds : Nat} {s s1 : Sess} {e : Err}
    (h : att s = (.err e, s1)) (hp : pol e tries rounds = .reauth false) (fuel : Nat) :
    call pol att (fuel + 1) tries rounds s = call pol att fuel 1 (rounds + 1) s1.authenticate := by
  rw [call, h]
  simp only [hp]
  rfl

theorem tick_quiet (s : Sess) (a : Api) (h : Quiet s) : s.tick a = { s with requests := s.requests + 1, log := a :: s.log } := by
  unfold Quiet at h
  simp only [Sess.tick, h]

theorem auth_quiet (s : Sess) (h : Quiet s) :
    s.authenticate = { s with token := s.acctIssued, acctIssued := s.acctIssued + 1, authed := true, bucket := s.bucket || s.restricted,
                              auths := s.auths + 1, requests := s.requests + 1, log := .authorize :: s.log } := by
  simp only [Sess.authenticate, tick_quiet s _ h]

/-- nothing but counters, issued credentials and what the client holds changed -/
structure Pres (s s' : Sess) : Prop where
  quiet : Quiet s'
  wf : WF s'
  acctLive : s'.acctLive = s.acctLive
  upLive : s'.upLive = s.upLive
  podLive : s'.podLive = s.podLive
  restricted : s'.restricted = s.restricted
  sleeps : s'.sleeps = s.sleeps
  req : s.requests ≤ s'.requests
  auths : s.auths ≤ s'.auths

theorem Pres.refl (s : Sess) (hw : WF s) (hq : Quiet s) : Pres s s := ⟨hq, hw, rfl, rfl, rfl, rfl, rfl, Nat.le_refl _, Nat.le_refl _⟩

theorem Pres.trans {a b c : Sess} (h1 : Pres a b) (h2 : Pres b c) : Pres a c :=
  ⟨h2.quiet, h2.wf, h2.acctLive.trans h1.acctLive, h2.upLive.trans h1.upLive, h2.podLive.trans h1.podLive,
   h2.restricted.trans h1.restricted, h2.sleeps.trans h1.sleeps, Nat.le_trans h1.req h2.req, Nat.le_trans h1.auths h2.auths⟩

theorem pres_tick (s : Sess) (a : Api) (hw : WF s) (hq : Quiet s) : Pres s (s.tick a) := by
  rw [tick_quiet s a hq]
  exact ⟨hq, hw, rfl, rfl, rfl, rfl, rfl, Nat.le_succ _, Nat.le_refl _⟩

theorem pres_auth (s : Sess) (hw : WF s) (hq : Quiet s) : Pres s s.authenticate := by
  rw [auth_quiet s hq]
  obtain ⟨h1, h2, h3⟩ := hw
  exact ⟨hq, ⟨Nat.le_succ_of_le h1, h2, h3⟩, rfl, rfl, rfl, rfl, rfl, Nat.le_succ _, Nat.le_succ _⟩

theorem auth_ok (s : Sess) (hw : WF s) (hq : Quiet s) : s.authenticate.acctOk = true := by
  rw [auth_quiet s hq]
  exact decide_eq_true hw.1

theorem auth_authed (s : Sess) : s.authenticate.authed = true := rfl
theorem auth_auths (s : Sess) (hq : Quiet s) : s.authenticate.auths = s.auths + 1 := by rw [auth_quiet s hq]
theorem auth_requests (s : Sess) (hq : Quiet s) : s.authenticate.requests = s.requests + 1 := by rw [auth_quiet s hq]
theorem auth_store (s : Sess) (hq : Quiet s) : s.authenticate.store = s.store := by rw [auth_quiet s hq]
theorem tick_store (s : Sess) (a : Api) (hq : Quiet s) : (s.tick a).store = s.store := by rw [tick_quiet s a hq]
theorem tick_acctOk (s : Sess) (a : Api) (hq : Quiet s) : (s.tick a).acctOk = s.acctOk := by rw [tick_quiet s a hq]; rfl

/-- what the client does after an answer: it notes upload credentials the service issued and its bucket; `store` stands for what
the service stores -/
def Sess.client (s : Sess) (issued : Nat) (cred : Option Nat) (store : Store) (bucket : Bool) : Sess :=
  { s with upIssued := s.upIssued + issued, upCred := cred, store := store, bucket := bucket }

theorem pres_client (s : Sess) (i : Nat) (x : Option Nat) (st : Store) (b : Bool) (hw : WF s) (hq : Quiet s) :
    Pres s (s.client i x st b) :=
  ⟨hq, ⟨hw.1, Nat.le_add_right_of_le hw.2.1, Nat.le_add_right_of_le hw.2.2⟩, rfl, rfl, rfl, rfl, rfl, Nat.le_refl _, Nat.le_refl _⟩

/-- a decorated call that returned normally -/
structure Good (s s' : Sess) (kv k : Nat) : Prop where
  pres : Pres s s'
  authed : s'.authed = true
  req : s'.requests ≤ s.requests + if s.acctOk = true then kv else k
  tok : (s'.auths = s.auths ∧ s'.token = s.token ∧ s.authed = true) ∨ (s'.auths = s.auths + 1 ∧ s'.acctOk = true)
  keep : s.acctOk = true → s'.auths = s.auths
  idle : s'.acctOk = false → s'.requests = s.requests

theorem Good.refl (t : Sess) (hw : WF t) (hq : Quiet t) (hau : t.authed = true) (kv k : Nat) : Good t t kv k :=
  ⟨Pres.refl t hw hq, hau, Nat.le_add_right _ _, Or.inl ⟨rfl, rfl, hau⟩, fun _ => rfl, fun _ => rfl⟩

theorem Good.ok_of_ok {s s' : Sess} {kv k : Nat} (h : Good s s' kv k) (hs : s.acctOk = true) : s'.acctOk = true := by
  rcases h.tok with ⟨_, ht, _⟩ | ⟨_, h2⟩
  · simp only [Sess.acctOk, Bool.and_eq_true, decide_eq_true_eq] at hs ⊢
    exact ⟨h.authed, by rw [h.pres.acctLive, ht]; exact hs.2⟩
  · exact h2

theorem Good.auths_le {s s' : Sess} {kv k : Nat} (h : Good s s' kv k) : s'.auths ≤ s.auths + 1 := by
  rcases h.tok with ⟨h1, _, _⟩ | ⟨h1, _⟩
  · exact h1 ▸ Nat.le_succ _
  · exact Nat.le_of_eq h1

theorem Good.mono {s s' : Sess} {kv k kv' k' : Nat} (h : Good s s' kv k) (hv : kv ≤ kv') (hk : k ≤ k') : Good s s' kv' k' := by
  refine ⟨h.pres, h.authed, Nat.le_trans h.req (Nat.add_le_add_left ?_ _), h.tok, h.keep, h.idle⟩
  split
  · exact hv
  · exact hk

theorem Good.req_le {s s' : Sess} {kv k : Nat} (h : Good s s' kv k) (hv : kv ≤ k) : s'.requests ≤ s.requests + k := by
  have := (h.mono hv (Nat.le_refl k)).req
  rwa [ite_self] at this

theorem Good.request {t s1 : Sess} {kv k : Nat} (g : Good t s1 kv k) (hv : s1.acctOk = true) (api : Api) (i : Nat) (x : Option Nat)
    (st : Store) (b : Bool) :
    Good t ((s1.tick api).client i x st b) (kv + 1) (k + 1) ∧ ((s1.tick api).client i x st b).acctOk = true := by
  have hp := pres_tick s1 api g.pres.wf g.pres.quiet
  have hp := (g.pres.trans hp).trans (pres_client _ i x st b hp.wf hp.quiet)
  have hr : s1.requests + 1 ≤ t.requests + if t.acctOk = true then kv + 1 else k + 1 := by
    rw [← apply_ite (· + 1)]
    exact Nat.succ_le_succ g.req
  rw [tick_quiet s1 api g.pres.quiet] at hp ⊢
  exact ⟨⟨hp, g.authed, hr, g.tok, g.keep, fun h => nomatch hv.symm.trans h⟩, hv⟩

theorem Good.rejected {t s1 : Sess} {kv k : Nat} (g : Good t s1 kv k) (hv : s1.acctOk = false) (api : Api) :
    t.acctOk = false ∧ Pres t (s1.tick api) ∧ (s1.tick api).auths = t.auths ∧ (s1.tick api).requests ≤ t.requests + 1 := by
  have hp := g.pres.trans (pres_tick s1 api g.pres.wf g.pres.quiet)
  rw [tick_quiet s1 api g.pres.quiet] at hp ⊢
  refine ⟨?_, hp, ?_, Nat.succ_le_succ (Nat.le_of_eq (g.idle hv))⟩
  · cases h : t.acctOk with
    | false => rfl
    | true => exact nomatch (g.ok_of_ok h).symm.trans hv
  · rcases g.tok with ⟨h1, _⟩ | ⟨_, h2⟩
    · exact h1
    · exact nomatch h2.symm.trans hv

/-- contract of an attempt (the body under `requires_auth(backoff(…))`) on an authenticated object in a quiet session.  `P` relates
what it returns and the state it leaves to what was stored before. -/
def AttOk {α : Type} (att : Sess → R α × Sess) (k kf kv : Nat) (P : α → Store → Sess → Prop) : Prop :=
  ∀ t, WF t → Quiet t → t.authed = true →
    (∃ v t', att t = (.ok v, t') ∧ Good t t' kv k ∧ P v t.store t') ∨
    (t.acctOk = false ∧ ∃ t', att t = (.err .auth, t') ∧ Pres t t' ∧ t'.store = t.store ∧ t'.auths = t.auths ∧
      t'.requests ≤ t.requests + kf)

/-- `kf + 1 + kv`: the requests of the failed attempt, `authenticate`, and the attempt with a valid token -/
theorem AttOk.after_auth {α : Type} {att : Sess → R α × Sess} {k kf kv : Nat} {P : α → Store → Sess → Prop} (ha : AttOk att k kf kv P)
    {s t0 : Sess} (hpr : Pres s t0) (hst : t0.store = s.store) (hau : t0.auths = s.auths) (hrq : t0.requests ≤ s.requests + kf)
    (hno : ¬ s.acctOk = true) :
    ∃ v s', att t0.authenticate = (.ok v, s') ∧ Good s s' kv (max k (kf + 1 + kv)) ∧ P v s.store s' := by
  have pa := pres_auth t0 hpr.wf hpr.quiet
  have hok := auth_ok t0 hpr.wf hpr.quiet
  rcases ha t0.authenticate pa.wf pa.quiet (auth_authed t0) with ⟨v, s', e, g, hp⟩ | ⟨hno2, _⟩
  · have h5 := auth_requests t0 hpr.quiet
    have h6 := auth_auths t0 hpr.quiet
    have h7 := g.keep hok
    have h8 := g.req
    rw [if_pos hok] at h8
    rw [auth_store t0 hpr.quiet, hst] at hp
    have hreq : s'.requests ≤ s.requests + max k (kf + 1 + kv) :=
      calc s'.requests ≤ t0.authenticate.requests + kv := h8
        _ = t0.requests + 1 + kv := by rw [h5]
        _ ≤ s.requests + kf + 1 + kv := Nat.add_le_add_right (Nat.add_le_add_right hrq 1) kv
        _ = s.requests + (kf + 1 + kv) := by rw [Nat.add_assoc s.requests, Nat.add_assoc s.requests]
        _ ≤ s.requests + max k (kf + 1 + kv) := Nat.add_le_add_left (Nat.le_max_right _ _) _
    exact ⟨v, s', e, ⟨(hpr.trans pa).trans g.pres, g.authed, by rw [if_neg hno]; exact hreq, Or.inr ⟨h7.trans (h6.trans (congrArg (· + 1) hau)), g.ok_of_ok hok⟩,
      fun h => absurd h hno, fun h => nomatch (g.ok_of_ok hok).symm.trans h⟩, hp⟩
  · exact nomatch hok.symm.trans hno2

/-- `requires_auth(backoff(att))` in a quiet session: returns normally after at most one re-authentication -/
theorem call_contract {α : Type} (c : Cfg) (hc : Sound c) (att : Sess → R α × Sess) (k kf kv : Nat) (P : α → Store → Sess → Prop)
    (ha : AttOk att k kf kv P) (f : Nat) (s : Sess) (hw : WF s) (hq : Quiet s) :
    ∃ v s', call c.pol att (f + 2) 1 0 s.ensureAuth = (.ok v, s') ∧ Good s s' kv (max k (kf + 1 + kv)) ∧ P v s.store s' := by
  by_cases hau : s.authed = true
  · rw [Sess.ensureAuth, if_pos hau]
    rcases ha s hw hq hau with ⟨v, t', e1, g, hp⟩ | ⟨hno, t', e1, pr, hst, hauths, hreq⟩
    · exact ⟨v, t', call_ok e1, g.mono (Nat.le_refl _) (Nat.le_max_left _ _), hp⟩
    · -- AuthRequired → authenticate → again
      have hno' : ¬ s.acctOk = true := fun h => nomatch h.symm.trans hno
      obtain ⟨v, s', e2, g, ht⟩ := ha.after_auth pr hst hauths hreq hno'
      rw [call_reauth e1 hc.2.2]
      exact ⟨v, s', call_ok e2, g, ht⟩
  · have hno' : ¬ s.acctOk = true := fun h => hau (Bool.and_eq_true_iff.mp h).1
    obtain ⟨v, s', e2, g, ht⟩ := ha.after_auth (Pres.refl s hw hq) rfl rfl (Nat.le_add_right _ kf) hno'
    rw [Sess.ensureAuth, if_neg hau]
    exact ⟨v, s', call_ok e2, g, ht⟩

theorem getBucket_spec (c : Cfg) (hc : Sound c) (f : Nat) (s : Sess) (hw : WF s) (hq : Quiet s) :
    ∃ (_ : Unit) (s' : Sess), getBucket c (f + 2) s = (.ok (), s') ∧ Good s s' 1 3 ∧ s'.bucket = true ∧ s'.store = s.store := by
  refine call_contract c hc _ 1 1 1 (fun _ st t' => t'.bucket = true ∧ t'.store = st) ?_ f s hw hq
  intro t hw hq hau
  have g0 := Good.refl t hw hq hau 0 0
  have hok : (t.tick .listBuckets).acctOk = t.acctOk := tick_acctOk t _ hq
  dsimp only
  by_cases hb : t.bucket = true
  · rw [if_pos hb]
    exact Or.inl ⟨(), t, rfl, g0.mono (Nat.zero_le _) (Nat.zero_le _), hb, rfl⟩
  · rw [if_neg hb, hok]
    by_cases hv : t.acctOk = true
    · obtain ⟨g, _⟩ := g0.request hv .listBuckets 0 (t.tick .listBuckets).upCred (t.tick .listBuckets).store true
      rw [if_pos hv]
      exact Or.inl ⟨(), _, rfl, g, rfl, tick_store t .listBuckets hq⟩
    · obtain ⟨hno, hp, ha, hr⟩ := g0.rejected (Bool.eq_false_iff.mpr hv) .listBuckets
      rw [if_neg hv, hc.2.1]
      exact Or.inr ⟨hno, _, rfl, hp, tick_store t .listBuckets hq, ha, hr⟩

/-- an attempt that begins with `_get_bucket` and then sends one request `api`: what is known before the answer is looked at -/
theorem afterBucket (c : Cfg) (hc : Sound c) (f : Nat) (t : Sess) (hw : WF t) (hq : Quiet t) (api : Api) :
    ∃ s1, getBucket c (f + 2) t = (.ok (), s1) ∧ Good t s1 1 3 ∧ (s1.tick api).acctOk = s1.acctOk ∧ (s1.tick api).store = t.store := by
  obtain ⟨_, s1, e, g, _, hst⟩ := getBucket_spec c hc f t hw hq
  exact ⟨s1, e, g, tick_acctOk s1 _ g.pres.quiet, (tick_store s1 _ g.pres.quiet).trans hst⟩

theorem getCreds_spec (c : Cfg) (hc : Sound c) (f : Nat) (s : Sess) (hw : WF s) (hq : Quiet s) :
    ∃ u s', getCreds c (f + 2) s = (.ok u, s') ∧ Good s s' 2 4 ∧
      s'.acctOk = true ∧ s'.upLive ≤ u ∧ s'.podLive ≤ u ∧ s'.store = s.store := by
  refine call_contract c hc _ 4 1 2 (fun u st t' => t'.acctOk = true ∧ t'.upLive ≤ u ∧ t'.podLive ≤ u ∧ t'.store = st) ?_ f s hw hq
  intro t hw hq hau
  obtain ⟨s1, e, g, hok, hst⟩ := afterBucket c hc f t hw hq .getUploadUrl
  have hwf := (pres_tick s1 .getUploadUrl g.pres.wf g.pres.quiet).wf
  simp only [hc.1, if_true, e, hok]
  by_cases hv : s1.acctOk = true
  · obtain ⟨g', hv'⟩ := g.request hv .getUploadUrl 1 none (s1.tick .getUploadUrl).store (s1.tick .getUploadUrl).bucket
    rw [if_pos hv]
    exact Or.inl ⟨_, _, rfl, g', hv', hwf.2.1, hwf.2.2, hst⟩
  · obtain ⟨hno, hp, ha, hr⟩ := g.rejected (Bool.eq_false_iff.mpr hv) .getUploadUrl
    rw [if_neg hv, hc.2.1]
    exact Or.inr ⟨hno, _, rfl, hp, hst, ha, hr⟩

def put (st : Store) (n : Nat) (d : Bytes) : Store := fun m => if m = n then some d else st m

theorem uploadOp_spec (c : Cfg) (hc : Sound c) (f n : Nat) (d : Bytes) (s : Sess) (hw : WF s) (hq : Quiet s) :
    ∃ (_ : Unit) (s' : Sess), uploadOp c (f + 2) n d s = (.ok (), s') ∧ Good s s' 3 5 ∧ s'.acctOk = true ∧ s'.store = put s.store n d := by
  refine call_contract c hc _ 5 0 3 (fun _ st t' => t'.acctOk = true ∧ t'.store = put st n d) ?_ f s hw hq
  intro t hw hq hau
  obtain ⟨u, s1, e, g, hv, hl1, hl2, hst⟩ := getCreds_spec c hc f t hw hq
  have hp := pres_tick s1 .uploadFile g.pres.wf g.pres.quiet
  have hn1 : ¬ u < (s1.tick .uploadFile).upLive := by rw [hp.upLive]; exact Nat.not_lt_of_le hl1
  have hn2 : ¬ u < (s1.tick .uploadFile).podLive := by rw [hp.podLive]; exact Nat.not_lt_of_le hl2
  obtain ⟨g', hv'⟩ := g.request hv .uploadFile 0 (s1.tick .uploadFile).upCred (put (s1.tick .uploadFile).store n d)
    (s1.tick .uploadFile).bucket
  simp only [e, if_neg hn1, if_neg hn2]
  refine Or.inl ⟨(), _, rfl, g', hv', ?_⟩
  show put (s1.tick .uploadFile).store n d = put t.store n d
  rw [tick_store s1 _ g.pres.quiet, hst]

theorem acctOp_spec (c : Cfg) (hc : Sound c) (f : Nat) (api : Api) (eff : Store → Store) (s : Sess) (hw : WF s) (hq : Quiet s) :
    ∃ (_ : Unit) (s' : Sess), acctOp c (f + 2) api false eff s = (.ok (), s') ∧ Good s s' 2 4 ∧ s'.acctOk = true ∧ s'.store = eff s.store := by
  refine call_contract c hc _ 4 1 2 (fun _ st t' => t'.acctOk = true ∧ t'.store = eff st) ?_ f s hw hq
  intro t hw hq hau
  obtain ⟨s1, e, g, hok, hst⟩ := afterBucket c hc f t hw hq api
  simp only [e, hok]
  by_cases hv : s1.acctOk = true
  · obtain ⟨g', hv'⟩ := g.request hv api 0 (s1.tick api).upCred (eff (s1.tick api).store) (s1.tick api).bucket
    rw [hv]
    exact Or.inl ⟨(), _, rfl, g', hv', congrArg eff hst⟩
  · obtain ⟨hno, hp, ha, hr⟩ := g.rejected (Bool.eq_false_iff.mpr hv) api
    rw [Bool.eq_false_iff.mpr hv, hc.2.1]
    exact Or.inr ⟨hno, _, rfl, hp, hst, ha, hr⟩

end Replicat.Cred
