import ReplicatProofs.Lemmas.Sched
/-!
Helper lemmas for C09, system S3/writers: `glock`, `flocks`, `flocks_refcounts` of `Repository.restore._write_chunk_ref`.
-/
namespace Replicat.Sched
open List

structure JobInv (fileOf : Nat → Nat) (σ : Locks) (j p : Nat) : Prop where
  gl : holdsG p = true → σ.glock = some (true, j)
  seen : p = 2 → σ.seen j = σ.flocks (fileOf j)
  reg : registered p = true ↔ j ∈ σ.regs (fileOf j)
  lk : registered p = true → σ.lk j = σ.flocks (fileOf j)
  crit : inCrit p = true → ∃ l, σ.lk j = some l ∧ σ.owner l = some j

structure LocksInv (fileOf : Nat → Nat) (σ : Locks) : Prop where
  noerr : σ.err = false
  job : ∀ j, JobInv fileOf σ j (σ.pc j)
  regs_nodup : ∀ f, (σ.regs f).Nodup
  refc : ∀ f, σ.refc f = (σ.regs f).length
  fl_none : ∀ f, σ.flocks f = none → σ.regs f = []

theorem locks_init_inv (fileOf : Nat → Nat) : LocksInv fileOf Locks.init :=
  ⟨rfl, fun _ => ⟨nofun, nofun, ⟨nofun, nofun⟩, nofun, nofun⟩, fun _ => nodup_nil, fun _ => rfl,
    fun _ _ => rfl⟩

theorem holdsG_cases {p : Nat} (h : holdsG p = true) : p = 1 ∨ p = 2 ∨ p = 3 ∨ p = 8 ∨ p = 9 := by
  simp only [holdsG, Bool.or_eq_true, beq_iff_eq, or_assoc] at h
  exact h

theorem registered_iff {p : Nat} : registered p = true ↔ 3 ≤ p ∧ p ≤ 8 := by
  simp only [registered, Bool.and_eq_true, decide_eq_true_eq]

theorem inCrit_iff {p : Nat} : inCrit p = true ↔ p = 5 ∨ p = 6 := by
  simp only [inCrit, Bool.or_eq_true, beq_iff_eq]

theorem registered_of_inCrit {p : Nat} (h : inCrit p = true) : registered p = true := by
  rcases inCrit_iff.mp h with rfl | rfl
  · rfl
  · rfl

theorem only_holder {fileOf : Nat → Nat} {σ : Locks} (h : LocksInv fileOf σ) {j j' : Nat}
    (hj : holdsG (σ.pc j) = true) (hj' : holdsG (σ.pc j') = true) : j' = j := by
  have h2 := ((h.job j).gl hj).symm.trans ((h.job j').gl hj')
  exact (Prod.mk.inj (Option.some.inj h2)).2.symm

/-- `commit`: `l'` is the lock object `j` has seen in the table, or a fresh one when there was none -/
theorem locks_commit_inv {fileOf : Nat → Nat} {σ : Locks} {j : Nat} (h : LocksInv fileOf σ) (hpc : σ.pc j = 2) (l' nx : Nat)
    (hl' : σ.flocks (fileOf j) = none ∨ σ.flocks (fileOf j) = some l') :
    LocksInv fileOf { σ with pc := setAt σ.pc j 3, flocks := setAt σ.flocks (fileOf j) (some l'),
                             refc := setAt σ.refc (fileOf j) (σ.refc (fileOf j) + 1), next := nx,
                             lk := setAt σ.lk j (some l'), regs := setAt σ.regs (fileOf j) (j :: σ.regs (fileOf j)) } := by
  have H := h
  obtain ⟨hne, hjob, hrn, hrc, hfn⟩ := h
  have hj := hjob j
  rw [hpc] at hj
  have hnotreg : j ∉ σ.regs (fileOf j) := fun hm => absurd (hj.reg.mpr hm) (by decide)
  refine ⟨hne, setAt_forall ⟨fun _ => hj.gl rfl, fun h => absurd h (by decide), ⟨fun _ => ?_, fun _ => rfl⟩, fun _ => ?_,
      fun h => absurd h (by decide)⟩ fun j' hjj => ?_,
    setAt_forall (nodup_cons.mpr ⟨hnotreg, hrn _⟩) fun g _ => hrn g,
    setAt_forall₂ (P := fun _ (c : Nat) (l : List Nat) => c = l.length) (congrArg (· + 1) (hrc _)) fun g _ => hrc g,
    setAt_forall₂ (P := fun _ (v : Option Nat) (l : List Nat) => v = none → l = []) nofun fun g _ => hfn g⟩
  · show j ∈ setAt σ.regs (fileOf j) (j :: σ.regs (fileOf j)) (fileOf j)
    rw [setAt_same]
    exact mem_cons_self
  · show setAt σ.lk j (some l') j = setAt σ.flocks (fileOf j) (some l') (fileOf j)
    rw [setAt_same, setAt_same]
  · have hj' := hjob j'
    -- `j` holds `glock`, so no other job is between `look` and `commit`
    have hne2 : σ.pc j' ≠ 2 := fun h2 => hjj (only_holder H (hpc ▸ rfl) (h2 ▸ rfl))
    have hreg : registered (σ.pc j') = true ↔ j' ∈ setAt σ.regs (fileOf j) (j :: σ.regs (fileOf j)) (fileOf j') :=
      hj'.reg.trans (setAt_forall (P := fun g (l : List Nat) => j' ∈ σ.regs g ↔ j' ∈ l) ⟨mem_cons_of_mem j, fun hm => (mem_cons.mp hm).resolve_left hjj⟩
        (fun _ _ => Iff.rfl) _)
    refine { hj' with seen := fun h2 => absurd h2 hne2, reg := hreg, lk := fun hr => ?_, crit := fun hc => ?_ }
    · show setAt σ.lk j (some l') j' = setAt σ.flocks (fileOf j) (some l') (fileOf j')
      rw [setAt_other hjj, hj'.lk hr]
      by_cases hf : fileOf j' = fileOf j
      · rw [hf, setAt_same]
        rcases hl' with hn | hs
        · exact nomatch (hf ▸ hfn _ hn) ▸ hj'.reg.mp hr
        · exact hs
      · rw [setAt_other hf]
    · obtain ⟨l, hl, ho⟩ := hj'.crit hc
      exact ⟨l, (setAt_other hjj).trans hl, ho⟩

/-- `unreg`: `v` is the table entry of the file afterwards, the old one as long as another job is registered for it -/
theorem locks_unreg_inv {fileOf : Nat → Nat} {σ : Locks} {j : Nat} (h : LocksInv fileOf σ) (hpc : σ.pc j = 8) (v : Option Nat)
    (hv : (σ.regs (fileOf j)).erase j ≠ [] → v = σ.flocks (fileOf j)) :
    LocksInv fileOf { σ with pc := setAt σ.pc j 9, flocks := setAt σ.flocks (fileOf j) v,
                             refc := setAt σ.refc (fileOf j) (σ.refc (fileOf j) - 1),
                             regs := setAt σ.regs (fileOf j) ((σ.regs (fileOf j)).erase j) } := by
  have H := h
  obtain ⟨hne, hjob, hrn, hrc, hfn⟩ := h
  have hj := hjob j
  rw [hpc] at hj
  have hreg : j ∈ σ.regs (fileOf j) := hj.reg.mp rfl
  have herase : ∀ j', j' ∈ (σ.regs (fileOf j)).erase j ↔ j' ≠ j ∧ j' ∈ σ.regs (fileOf j) := fun j' => (hrn _).mem_erase_iff
  refine ⟨hne, setAt_forall ⟨fun _ => hj.gl rfl, fun h => absurd h (by decide), ⟨nofun, fun hm => ?_⟩, nofun, nofun⟩ fun j' hjj => ?_,
    setAt_forall ((hrn _).erase j) fun g _ => hrn g,
    setAt_forall₂ (P := fun _ (c : Nat) (l : List Nat) => c = l.length) (hrc _ ▸ (length_erase_of_mem hreg).symm) fun g _ => hrc g,
    setAt_forall₂ (P := fun _ (v : Option Nat) (l : List Nat) => v = none → l = []) ?_ fun g _ => hfn g⟩
  · have hm : j ∈ setAt σ.regs (fileOf j) ((σ.regs (fileOf j)).erase j) (fileOf j) := hm
    rw [setAt_same] at hm
    exact absurd rfl ((herase j).mp hm).1
  · have hj' := hjob j'
    have hne2 : σ.pc j' ≠ 2 := fun h2 => hjj (only_holder H (hpc ▸ rfl) (h2 ▸ rfl))
    have hreg' : registered (σ.pc j') = true ↔ j' ∈ setAt σ.regs (fileOf j) ((σ.regs (fileOf j)).erase j) (fileOf j') :=
      hj'.reg.trans (setAt_forall (P := fun g (l : List Nat) => j' ∈ σ.regs g ↔ j' ∈ l)
        ⟨fun hm => (herase j').mpr ⟨hjj, hm⟩, fun hm => ((herase j').mp hm).2⟩ (fun _ _ => Iff.rfl) _)
    refine { hj' with seen := fun h2 => absurd h2 hne2, reg := hreg', lk := fun hr => (hj'.lk hr).trans ?_ }
    show σ.flocks (fileOf j') = setAt σ.flocks (fileOf j) v (fileOf j')
    by_cases hf : fileOf j' = fileOf j
    · rw [hf, setAt_same]
      exact (hv (ne_nil_of_mem ((herase j').mpr ⟨hjj, hf ▸ hj'.reg.mp hr⟩))).symm
    · rw [setAt_other hf]
  · intro hn
    by_cases he : (σ.regs (fileOf j)).erase j = []
    · exact he
    · exact absurd (hfn _ ((hv he).symm.trans hn)) (ne_nil_of_mem hreg)

theorem locks_step_inv (fileOf : Nat → Nat) (σ : Locks) (e : LockEv) (σ' : Locks)
    (H : LocksInv fileOf σ) (hs : Locks.step true fileOf σ e = some σ') : LocksInv fileOf σ' := by
  cases e with
  | gAcq j =>
    obtain ⟨⟨hpc, hgn⟩, rfl⟩ := of_guarded hs
    have hj := H.job j
    refine { H with job := setAt_forall ?_ fun j' _ => ?_ }
    · rcases hpc with hpc | hpc
      · rw [hpc] at hj ⊢
        exact { hj with gl := fun _ => rfl, seen := fun h => absurd h (by decide) }
      · rw [hpc] at hj ⊢
        exact { hj with gl := fun _ => rfl, seen := fun h => absurd h (by decide) }
    · exact { H.job j' with gl := fun hh => (nomatch hgn.symm.trans ((H.job j').gl hh)) }
  | look j =>
    obtain ⟨hpc, rfl⟩ := of_guarded hs
    have hj := H.job j
    rw [hpc] at hj
    exact { H with job := setAt_forall { hj with seen := fun _ => setAt_same .. } fun j' hjj =>
      { H.job j' with seen := fun h2 => (setAt_other hjj).trans ((H.job j').seen h2) } }
  | commit j =>
    obtain ⟨hpc, hs⟩ := Option.ite_none_right_eq_some.mp hs
    have hsj := (hpc ▸ H.job j).seen rfl
    cases hsn : σ.seen j with
    | none =>
      -- the `except KeyError` branch
      rw [hsn] at hs hsj
      cases hs
      have h0 : σ.refc (fileOf j) = 0 := (H.refc _).trans (congrArg length (H.fl_none _ hsj.symm))
      have h1 := locks_commit_inv H hpc σ.next (σ.next + 1) (Or.inl hsj.symm)
      rw [h0] at h1
      exact h1
    | some l =>
      rw [hsn] at hs hsj
      cases hs
      have h1 := locks_commit_inv H hpc l σ.next (Or.inr hsj.symm)
      rw [hsj, setAt_eq_self, ← hsj] at h1
      exact h1
  | gRel j =>
    obtain ⟨⟨hpc, hgj⟩, rfl⟩ := of_guarded hs
    have hj := H.job j
    refine { H with job := setAt_forall ?_ fun j' hjj => ?_ }
    · rcases hpc with hpc | hpc
      · rw [hpc] at hj ⊢
        exact { hj with gl := nofun, seen := fun h => absurd h (by decide) }
      · rw [hpc] at hj ⊢
        exact { hj with gl := nofun, seen := fun h => absurd h (by decide) }
    · have hhold : holdsG (σ.pc j) = true := hpc.elim (fun h => h ▸ rfl) fun h => h ▸ rfl
      exact { H.job j' with gl := fun hh => absurd (only_holder H hhold hh) hjj }
  | fAcq j =>
    obtain ⟨hpc, hs⟩ := Option.ite_none_right_eq_some.mp hs
    cases hl : σ.lk j with
    | none =>
      rw [hl] at hs
      cases hs
    | some l =>
      rw [hl] at hs
      obtain ⟨hown, rfl⟩ := of_guarded hs
      have hj := H.job j
      rw [hpc] at hj
      refine { H with job := setAt_forall ?_ fun j' hjj => { H.job j' with crit := fun hc => ?_ } }
      · exact { hj with gl := nofun, seen := nofun, crit := fun _ => ⟨l, hl, setAt_same ..⟩ }
      obtain ⟨l', hl', ho'⟩ := (H.job j').crit hc
      exact ⟨l', hl', (setAt_other fun hll => nomatch (hll ▸ ho').symm.trans hown).trans ho'⟩
  | write j =>
    obtain ⟨hpc, rfl⟩ := of_guarded hs
    have hj := H.job j
    rw [hpc] at hj
    exact { H with job := setAt_forall { hj with gl := nofun, seen := nofun } fun j' _ => { H.job j' with } }
  | fRel j =>
    obtain ⟨hpc, hs⟩ := Option.ite_none_right_eq_some.mp hs
    have hj := H.job j
    rw [hpc] at hj
    obtain ⟨l, hl, ho⟩ := hj.crit rfl
    rw [hl] at hs
    cases hs
    refine { H with job := setAt_forall ?_ fun j' hjj => { H.job j' with crit := fun hc => ?_ } }
    · exact { hj with gl := nofun, seen := nofun, crit := nofun }
    obtain ⟨l', hl', ho'⟩ := (H.job j').crit hc
    exact ⟨l', hl', (setAt_other fun hll => hjj (Option.some.inj ((hll ▸ ho').symm.trans ho))).trans ho'⟩
  | unreg j =>
    obtain ⟨hpc, hs⟩ := Option.ite_none_right_eq_some.mp hs
    have hreg : j ∈ σ.regs (fileOf j) := (hpc ▸ H.job j).reg.mp rfl
    cases hfl : σ.flocks (fileOf j) with
    | none => exact nomatch H.fl_none _ hfl ▸ hreg
    | some l0 =>
      rw [hfl] at hs
      have hlen := length_erase_of_mem hreg
      by_cases hz : (!true || σ.refc (fileOf j) - 1 == 0) = true
      · rw [if_pos hz] at hs
        cases hs
        have hz : σ.refc (fileOf j) - 1 = 0 := eq_of_beq hz
        have he : (σ.regs (fileOf j)).erase j = [] := eq_nil_of_length_eq_zero (hlen.trans (H.refc _ ▸ hz))
        have h1 := locks_unreg_inv H hpc none (fun hne => absurd he hne)
        rw [hz] at h1
        exact h1
      · rw [if_neg hz] at hs
        cases hs
        have h1 := locks_unreg_inv H hpc (σ.flocks (fileOf j)) (fun _ => rfl)
        rw [setAt_eq_self] at h1
        exact h1
  | extAcq a =>
    obtain ⟨hgn, rfl⟩ := of_guarded hs
    exact { H with job := fun j' => { H.job j' with gl := fun hh => (nomatch hgn.symm.trans ((H.job j').gl hh)) } }
  | extRel a =>
    obtain ⟨hga, rfl⟩ := of_guarded hs
    exact { H with job := fun j' => { H.job j' with gl := fun hh => (nomatch hga.symm.trans ((H.job j').gl hh)) } }

end Replicat.Sched
