import ReplicatProofs.Lemmas.RepoInv
/-! What `delete_snapshots` and `clean` do to the object map of a well-formed repository: the decision part as a function of the
snapshots loaded, what the deletion lists hold in terms of `get`, and from that the `get`-level specifications (`DeleteSpec`,
`CleanSpec`). -/
namespace Replicat.Repo
open List

/-- `c` occurs in the chunk table of a snapshot object the user's command loads (tag-valid = `visible`) whose id satisfies `P` -/
def RefBy (enc : Bool) (u : User) (s : Store) (P : Nat → Prop) (c : Content) : Prop :=
  ∃ f sid b, get s (.snap f sid) = some (.snap f sid b) ∧ visible enc u f = true ∧ P sid ∧ c ∈ b.chunks

theorem toLoaded_chunks (enc : Bool) (u : User) (f : Fam) (sid : Nat) (b : Body) : (toLoaded enc u f sid b).chunks = b.chunks := rfl
theorem toLoaded_fam (enc : Bool) (u : User) (f : Fam) (sid : Nat) (b : Body) : (toLoaded enc u f sid b).fam = f := rfl
theorem toLoaded_sid (enc : Bool) (u : User) (f : Fam) (sid : Nat) (b : Body) : (toLoaded enc u f sid b).sid = sid := rfl

theorem refBy_iff {enc : Bool} {u : User} {s : Store} (h : WF s) (p : Nat → Bool) (P : Nat → Prop)
    (hpP : ∀ sid, p sid = true ↔ P sid) (c : Content) :
    c ∈ ((loadedPure enc u (fun _ => true) s).filter (fun l => p l.sid)).flatMap (·.chunks) ↔ RefBy enc u s P c := by
  rw [mem_flatMap]
  constructor
  · rintro ⟨l, hl, hc⟩
    obtain ⟨hl, hp⟩ := mem_filter.mp hl
    obtain ⟨b, hg, _, hv, heq⟩ := (mem_loadedPure h).mp hl
    rw [heq] at hc
    exact ⟨l.fam, l.sid, b, hg, hv, (hpP _).mp hp, hc⟩
  · rintro ⟨f, sid, b, hg, hv, hp, hc⟩
    exact ⟨toLoaded enc u f sid b, mem_filter.mpr ⟨toLoaded_mem hg rfl hv, (hpP _).mpr hp⟩, hc⟩

/-- the observable effect of a successful `delete_snapshots(sids)` by `u` -/
structure DeleteSpec (enc : Bool) (u : User) (sids : List Nat) (s s' : Store) : Prop where
  snap_gone : ∀ f sid, sid ∈ sids → visible enc u f = true → get s' (.snap f sid) = none
  snap_keep : ∀ f sid, ¬ (sid ∈ sids ∧ visible enc u f = true) → get s' (.snap f sid) = get s (.snap f sid)
  chunk_gone : ∀ c, RefBy enc u s (· ∈ sids) c → ¬ RefBy enc u s (· ∉ sids) c → get s' (.chunk u.fam c) = none
  chunk_keep : ∀ f c, (f ≠ u.fam ∨ ¬ RefBy enc u s (· ∈ sids) c ∨ RefBy enc u s (· ∉ sids) c) →
    get s' (.chunk f c) = get s (.chunk f c)
  config_keep : get s' .config = get s .config
  other_keep : ∀ k, get s' (.other k) = get s (.other k)
  /-- all requested snapshots were there and readable by `u` -/
  requested : ∀ sid ∈ sids, ∃ f b, get s (.snap f sid) = some (.snap f sid b) ∧ visible enc u f = true ∧ (!enc || b.owner == u.key) = true

theorem deletePlan_of_wf (enc : Bool) (u : User) (sids : List Nat) (s : Store) (h : WF s) :
    deletePlan enc u sids s =
      (if (loadedPure enc u (fun _ => true) s).any (fun l => sids.contains l.sid && l.data.isNone) then .error .differentKey
       else if sids.any (fun sid => !(loadedPure enc u (fun _ => true) s).any (fun l => l.sid == sid)) then .error .notAvailable
       else .ok ⟨((loadedPure enc u (fun _ => true) s).filter (fun l => sids.contains l.sid)).map (fun l => .snap l.fam l.sid),
            ((((loadedPure enc u (fun _ => true) s).filter (fun l => sids.contains l.sid)).flatMap (·.chunks)).filter
              (fun c => !(((loadedPure enc u (fun _ => true) s).filter (fun l => !sids.contains l.sid)).flatMap (·.chunks)).contains c)).map
              (fun c => .chunk u.fam c)⟩) := by
  unfold deletePlan
  rw [loadSnapshots_wf enc u _ s h]

theorem deletePlan_differentKey {enc : Bool} {u : User} {sids : List Nat} {s : Store} (h : WF s) {f : Fam} {sid : Nat} {b : Body}
    (hg : get s (.snap f sid) = some (.snap f sid b)) (hv : visible enc u f = true) (hs : sid ∈ sids)
    (hr : (!enc || b.owner == u.key) = false) : deletePlan enc u sids s = .error .differentKey := by
  rw [deletePlan_of_wf enc u sids s h, if_pos]
  refine any_eq_true.mpr ⟨toLoaded enc u f sid b, toLoaded_mem hg rfl hv, ?_⟩
  rw [Bool.and_eq_true]
  refine ⟨contains_iff_mem.mpr hs, ?_⟩
  rw [toLoaded_data, hr]
  rfl

theorem deletePlan_ok {enc : Bool} {u : User} {sids : List Nat} {s : Store} (h : WF s)
    (hav : ∀ sid ∈ sids, ∃ f b, get s (.snap f sid) = some (.snap f sid b) ∧ visible enc u f = true)
    (hrd : ∀ f sid b, get s (.snap f sid) = some (.snap f sid b) → visible enc u f = true → sid ∈ sids →
      (!enc || b.owner == u.key) = true) : ∃ p, deletePlan enc u sids s = .ok p := by
  rw [deletePlan_of_wf enc u sids s h, if_neg, if_neg]
  · exact ⟨_, rfl⟩
  · rw [Bool.not_eq_true, any_eq_false]
    intro sid hs
    obtain ⟨f, b, hg, hv⟩ := hav sid hs
    rw [Bool.not_eq_true, Bool.not_eq_false']
    exact any_eq_true.mpr ⟨toLoaded enc u f sid b, toLoaded_mem hg rfl hv, beq_self_eq_true sid⟩
  · rw [Bool.not_eq_true, any_eq_false]
    intro l hl
    obtain ⟨b, hg, _, hv, heq⟩ := (mem_loadedPure h).mp hl
    rw [Bool.and_eq_true, contains_iff_mem]
    rintro ⟨hs, hnone⟩
    rw [heq, toLoaded_data, hrd l.fam l.sid b hg hv hs] at hnone
    cases hnone

theorem deletePlan_inv {enc : Bool} {u : User} {sids : List Nat} {s : Store} (h : WF s) {p : DeletePlan}
    (hp : deletePlan enc u sids s = .ok p) :
    (∀ n, n ∈ p.snaps ↔ ∃ f sid b, n = .snap f sid ∧ get s (.snap f sid) = some (.snap f sid b) ∧ visible enc u f = true ∧ sid ∈ sids) ∧
    (∀ n, n ∈ p.chunks ↔ ∃ c, n = .chunk u.fam c ∧ RefBy enc u s (· ∈ sids) c ∧ ¬ RefBy enc u s (· ∉ sids) c) ∧
    ∀ sid ∈ sids, ∃ f b, get s (.snap f sid) = some (.snap f sid b) ∧ visible enc u f = true ∧ (!enc || b.owner == u.key) = true := by
  rw [deletePlan_of_wf enc u sids s h] at hp
  split at hp
  · cases hp
  · split at hp
    · cases hp
    · rename_i hk1 hk2
      cases hp
      refine ⟨fun n => ?_, fun n => ?_, fun sid hs => ?_⟩
      · rw [mem_map]
        constructor
        · rintro ⟨l, hl, rfl⟩
          obtain ⟨hl, hc⟩ := mem_filter.mp hl
          obtain ⟨b, hg, _, hv, _⟩ := (mem_loadedPure h).mp hl
          exact ⟨l.fam, l.sid, b, rfl, hg, hv, contains_iff_mem.mp hc⟩
        · rintro ⟨f, sid, b, rfl, hg, hv, hs⟩
          exact ⟨toLoaded enc u f sid b, mem_filter.mpr ⟨toLoaded_mem hg rfl hv, contains_iff_mem.mpr hs⟩, rfl⟩
      · have e1 := refBy_iff (enc := enc) (u := u) h (fun sid => sids.contains sid) (· ∈ sids) (fun _ => contains_iff_mem)
        have e2 := refBy_iff (enc := enc) (u := u) h (fun sid => !sids.contains sid) (· ∉ sids)
          (fun _ => by rw [Bool.not_eq_true', ← Bool.not_eq_true, contains_iff_mem])
        rw [mem_map]
        refine exists_congr fun c => ?_
        rw [mem_filter, e1, Bool.not_eq_true', ← Bool.not_eq_true, contains_iff_mem, e2, and_comm, and_congr_left_iff]
        exact fun _ => eq_comm
      · -- not "not available": some loaded snapshot has the name; not "different key": its private part decrypted
        have hav := any_eq_false.mp (Bool.eq_false_iff.mpr hk2) sid hs
        rw [Bool.not_eq_true, Bool.not_eq_false'] at hav
        obtain ⟨l, hl, hls⟩ := any_eq_true.mp hav
        obtain ⟨b, hg, _, hv, heq⟩ := (mem_loadedPure h).mp hl
        have hdk := any_eq_false.mp (Bool.eq_false_iff.mpr hk1) l hl
        rw [beq_iff_eq.mp hls, contains_iff_mem.mpr hs, Bool.true_and, heq] at hdk
        refine ⟨l.fam, b, beq_iff_eq.mp hls ▸ hg, hv, ?_⟩
        cases hc : (!enc || b.owner == u.key) with
        | true => rfl
        | false =>
          refine absurd ?_ hdk
          rw [toLoaded_data, hc]
          rfl

theorem delete_spec {enc : Bool} {u : User} {sids : List Nat} {s s' : Store} (h : WF s)
    (hd : deleteSnapshots enc u sids s = .ok s') : DeleteSpec enc u sids s s' := by
  unfold deleteSnapshots at hd
  split at hd
  · cases hd
  · rename_i p hp
    cases hd
    obtain ⟨msnap, mchunk, hreq⟩ := deletePlan_inv h hp
    have hget : ∀ n, get (delAll (delAll s p.snaps) p.chunks) n = if n ∈ p.chunks then none else if n ∈ p.snaps then none else get s n :=
      fun n => by rw [get_delAll, get_delAll]
    -- neither list holds a name that is not a snapshot / not an own-family chunk
    have hkeep : ∀ n, (∀ f sid, n ≠ .snap f sid) → (∀ c, n ≠ .chunk u.fam c) →
        get (delAll (delAll s p.snaps) p.chunks) n = get s n := by
      intro n h1 h2
      rw [hget, if_neg, if_neg]
      · rintro hm
        obtain ⟨f, sid, _, hn, _⟩ := (msnap n).mp hm
        exact h1 f sid hn
      · rintro hm
        obtain ⟨c, hn, _⟩ := (mchunk n).mp hm
        exact h2 c hn
    have hsnap : ∀ f sid, Name.snap f sid ∉ p.chunks := by
      intro f sid hm
      obtain ⟨c, hn, _⟩ := (mchunk _).mp hm
      cases hn
    have hchunk : ∀ f c, Name.chunk f c ∉ p.snaps := by
      intro f c hm
      obtain ⟨_, _, _, hn, _⟩ := (msnap _).mp hm
      cases hn
    refine ⟨?_, ?_, ?_, ?_, hkeep _ (fun _ _ => Name.noConfusion) (fun _ => Name.noConfusion),
      fun k => hkeep _ (fun _ _ => Name.noConfusion) (fun _ => Name.noConfusion), hreq⟩
    · intro f sid hs hv
      rw [hget, if_neg (hsnap f sid)]
      split
      · rfl
      · rename_i hm
        cases hg : get s (.snap f sid) with
        | none => rfl
        | some o =>
          obtain ⟨b, rfl⟩ := h.get_snap hg
          exact absurd ((msnap _).mpr ⟨f, sid, b, rfl, hg, hv, hs⟩) hm
    · intro f sid hn
      rw [hget, if_neg (hsnap f sid), if_neg]
      intro hm
      obtain ⟨f', sid', _, heq, _, hv, hs⟩ := (msnap _).mp hm
      cases heq
      exact hn ⟨hs, hv⟩
    · intro c hr1 hr2
      rw [hget, if_pos ((mchunk _).mpr ⟨c, rfl, hr1, hr2⟩)]
    · intro f c hcond
      rw [hget, if_neg, if_neg (hchunk f c)]
      intro hm
      obtain ⟨c', heq, hr1, hr2⟩ := (mchunk _).mp hm
      cases heq
      exact hcond.elim (fun hf => hf rfl) (fun hr => hr.elim (fun hr => hr hr1) hr2)

theorem DeleteSpec.snap_old {enc : Bool} {u : User} {sids : List Nat} {s s' : Store} (sp : DeleteSpec enc u sids s s')
    {f : Fam} {sid : Nat} {o : Obj} (hg : get s' (.snap f sid) = some o) :
    get s (.snap f sid) = some o ∧ ¬ (sid ∈ sids ∧ visible enc u f = true) := by
  by_cases hc : sid ∈ sids ∧ visible enc u f = true
  · rw [sp.snap_gone f sid hc.1 hc.2] at hg
    cases hg
  · rw [sp.snap_keep f sid hc] at hg
    exact ⟨hg, hc⟩

/-- the observable effect of `clean` by `u` (it cannot fail on a well-formed repository) -/
structure CleanSpec (enc : Bool) (u : User) (s s' : Store) : Prop where
  chunk_keep : ∀ f c, ((f = u.fam ∧ RefBy enc u s (fun _ => True) c) ∨ (enc = true ∧ f ≠ u.fam)) →
    get s' (.chunk f c) = get s (.chunk f c)
  chunk_gone : ∀ f c, ¬ ((f = u.fam ∧ RefBy enc u s (fun _ => True) c) ∨ (enc = true ∧ f ≠ u.fam)) →
    get s' (.chunk f c) = none
  snap_keep : ∀ f sid, get s' (.snap f sid) = get s (.snap f sid)
  config_keep : get s' .config = get s .config
  other_keep : ∀ k, get s' (.other k) = get s (.other k)

theorem cleanPlan_wf {enc : Bool} {u : User} {s : Store} (h : WF s) :
    ∃ ns, cleanPlan enc u s = .ok ns ∧ ∀ n, n ∈ ns ↔
      ∃ f c, n = .chunk f c ∧ (get s (.chunk f c)).isSome ∧
        ¬ ((f = u.fam ∧ RefBy enc u s (fun _ => True) c) ∨ (enc = true ∧ f ≠ u.fam)) := by
  unfold cleanPlan
  rw [loadSnapshots_wf enc u _ s h]
  refine ⟨_, rfl, fun n => ?_⟩
  have href : ∀ c, ((loadedPure enc u (fun _ => true) s).flatMap (·.chunks)).contains c = true ↔ RefBy enc u s (fun _ => True) c := by
    intro c
    have := refBy_iff (enc := enc) (u := u) h (fun _ => true) (fun _ => True) (fun _ => iff_true_intro rfl) c
    rwa [filter_eq_self.mpr (fun _ _ => rfl), ← contains_iff_mem] at this
  have hcond : ∀ f c, ((f == u.fam && ((loadedPure enc u (fun _ => true) s).flatMap (·.chunks)).contains c) = true ∨
      (enc && !(f == u.fam)) = true) ↔ ((f = u.fam ∧ RefBy enc u s (fun _ => True) c) ∨ (enc = true ∧ f ≠ u.fam)) := by
    intro f c
    rw [Bool.and_eq_true, Bool.and_eq_true, beq_iff_eq, href, Bool.not_eq_true', beq_eq_false_iff_ne]
  rw [mem_filterMap]
  constructor
  · rintro ⟨⟨m, o⟩, he, hn⟩
    cases m with
    | chunk f c =>
      dsimp only at hn
      split at hn
      · cases hn
      · rename_i h1
        split at hn
        · cases hn
        · rename_i h2
          cases hn
          exact ⟨f, c, rfl, by rw [get_of_mem h.1 he]; rfl, fun hc => ((hcond f c).mpr hc).elim h1 h2⟩
    | _ => cases hn
  · rintro ⟨f, c, rfl, hsome, hc⟩
    obtain ⟨o, ho⟩ := Option.isSome_iff_exists.mp hsome
    refine ⟨(.chunk f c, o), mem_of_get ho, ?_⟩
    dsimp only
    rw [if_neg (fun h1 => hc ((hcond f c).mp (Or.inl h1))), if_neg (fun h2 => hc ((hcond f c).mp (Or.inr h2)))]

theorem clean_spec {enc : Bool} {u : User} {s : Store} (h : WF s) :
    ∃ s', clean enc u s = .ok s' ∧ CleanSpec enc u s s' := by
  obtain ⟨ns, hns, mem⟩ := cleanPlan_wf (enc := enc) (u := u) h
  unfold clean
  rw [hns]
  refine ⟨_, rfl, ?_⟩
  -- only chunk names are deleted
  have hkeep : ∀ n, (∀ f c, n ≠ .chunk f c) → get (delAll s ns) n = get s n := by
    intro n hn
    rw [get_delAll, if_neg]
    intro hm
    obtain ⟨f, c, heq, _⟩ := (mem n).mp hm
    exact hn f c heq
  refine ⟨?_, ?_, fun _ _ => hkeep _ (fun _ _ => Name.noConfusion), hkeep _ (fun _ _ => Name.noConfusion),
    fun _ => hkeep _ (fun _ _ => Name.noConfusion)⟩
  · intro f c hcond
    rw [get_delAll, if_neg]
    intro hm
    obtain ⟨f', c', heq, _, hn⟩ := (mem _).mp hm
    cases heq
    exact hn hcond
  · intro f c hcond
    rw [get_delAll]
    split
    · rfl
    · rename_i hm
      cases hg : get s (.chunk f c) with
      | none => rfl
      | some o => exact absurd ((mem _).mpr ⟨f, c, rfl, by rw [hg]; rfl, hcond⟩) hm

theorem clean_spec_of_ok {enc : Bool} {u : User} {s s' : Store} (h : WF s) (hd : clean enc u s = .ok s') :
    CleanSpec enc u s s' := by
  obtain ⟨s'', hs'', sp⟩ := clean_spec (enc := enc) (u := u) h
  rw [hd] at hs''
  cases hs''
  exact sp

end Replicat.Repo
