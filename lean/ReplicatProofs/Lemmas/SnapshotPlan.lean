import ReplicatProofs.Lemmas.RepoBasic
/-! The mutation plan of `snapshot` is the command: running the chunk stage and then the snapshot stage of `snapshotPlan`
in order yields exactly the store `snapshot` returns (C03). -/
namespace Replicat.Repo
open List

theorem applyMuts_append' (s : Store) (a b : List Mut) : applyMuts s (a ++ b) = applyMuts (applyMuts s a) b :=
  foldl_append ..

/-- `P` is the mutation a plan writes for an uploaded name -/
theorem foldl_uploadChunk (u : User) (P : Name → Mut) (s0 : Store) (stream : List Content) (st : Store) (acc : List Name)
    (h : st = applyMuts s0 (acc.map P)) (hP : ∀ c, P (.chunk u.fam c) = .put (.chunk u.fam c) (.chunk u.fam c)) :
    (stream.foldl (uploadChunk u) (st, acc)).1 = applyMuts s0 ((stream.foldl (uploadChunk u) (st, acc)).2.map P) := by
  induction stream generalizing st acc with
  | nil => exact h
  | cons c stream ih =>
    rw [foldl_cons]
    unfold uploadChunk
    split
    · exact ih st acc h
    · apply ih
      rw [map_append, applyMuts_append', ← h, map_singleton, hP]
      rfl

/-- running the two stages of the snapshot plan in order is `snapshot` -/
theorem snapshotPlan_runs (u : User) (stream : List Content) (files : List FileRec) (ts sid : Nat) (s : Store) :
    applyMuts s (snapshotPlan u stream files ts sid s).flatten = (snapshot u stream files ts sid s).1 := by
  unfold snapshotPlan
  rw [flatten_cons, flatten_cons, flatten_nil, append_nil, applyMuts_append']
  show applyMuts (applyMuts s (map _ (stream.foldl (uploadChunk u) (s, [])).2)) _ = _
  rw [← foldl_uploadChunk u _ s stream s [] rfl (fun _ => rfl)]
  rfl

end Replicat.Repo
