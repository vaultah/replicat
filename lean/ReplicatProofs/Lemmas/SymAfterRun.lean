import ReplicatProofs.Lemmas.SymRunStep
/-! What the readers return on a store that satisfies the history invariant: the owner of a present snapshot restores what was
recorded, a shared key of the family sees the chunk table only, a key of another family sees nothing. -/
namespace Replicat.Sym
open Term (pub sec nonce key nil pair mac kdf enc)

theorem dataOk_spec {n : Nat} {d : Data} (h : dataOk n d = true) :
    nodupB (d.files.map (·.path)) = true ∧ ∀ f ∈ d.files, ∀ r ∈ f.refs, r.index < n := by
  unfold dataOk at h
  simp only [Bool.and_eq_true, List.all_eq_true, decide_eq_true_eq] at h
  exact h

theorem taken_entry {cfg : Term} {s : St} (h : HInv cfg s) (t : Taken) (hp : lookup s.store t.loc ≠ none) :
    (t.loc, t.stored) ∈ s.store := by
  cases hl : lookup s.store t.loc with
  | none => exact absurd hl hp
  | some obj =>
    have hm : (t.loc, obj) ∈ s.store := lookup_some_mem hl
    obtain ⟨_, _, _, hname, _⟩ :=
      form_snapLoc (t := snapshotTag t.p t.name) (n := t.name) (h.hl.forms _ (h.hs.sub _ hm)) rfl
    -- the name is the digest of the object found and of the object written
    rw [Term.hash.inj hname]
    exact hm

/-- what ANY reader `q` loads under the name of a present snapshot is decided by the one object that was written -/
theorem loadBodies_taken {cfg : Term} {s : St} (h : HInv cfg s) (t : Taken) (hp : lookup s.store t.loc ≠ none) (q : Props) :
    loadBodies q t.name (snapEntries s.store) =
      (match loadSnapshot q (snapshotTag t.p t.name) t.name t.stored with
       | .error e => .error e
       | .ok (some b) => .ok [b]
       | .ok none => .ok []) :=
  have hm := taken_entry h t hp
  loadBodies_unique q h.hs.nodup hm fun _ _ hx =>
    snapTag_unique h.hu h.hl (h.hs.sub _ hx) (h.hs.sub _ hm) rfl rfl

theorem fetch_present {cfg : Term} {s : St} (h : HInv cfg s) (u : User) (hu : u ∈ s.users) (c : Term)
    (hp : lookup s.store (chunkLoc (u.props s.encrypted) (digest c)) ≠ none) :
    fetchChunk (u.props s.encrypted) s.store (digest c) = .ok c := by
  unfold fetchChunk
  cases hl : lookup s.store (chunkLoc (u.props s.encrypted) (digest c)) with
  | none => exact absurd hl hp
  | some obj =>
    simp only
    have hm := lookup_some_mem hl
    have hf := h.hl.forms _ (h.hs.sub _ hm)
    obtain ⟨u', hu', nn, c', he⟩ := form_chunkLoc (t := chunkTag (u.props s.encrypted) (digest c))
      (n := chunkName (u.props s.encrypted) (digest c)) hf rfl
    injection he with he1 he2
    obtain ⟨hd, hmac⟩ := chunkLoc_inj (p := u.props s.encrypted) (q := u'.props s.encrypted) rfl he1
    have hc : c = c' := digest_inj hd
    subst hc
    rw [he2]
    refine verifyChunk_family (p := u.props s.encrypted) (q := u'.props s.encrypted) rfl ?_ nn c
    intro he
    exact h.hu.fam u hu u' hu' (hmac he)

theorem restoreMd_taken {cfg : Term} {s : St} {ts : List Taken} (h : HInv cfg s) (hti : TI s ts) (t : Taken) (ht : t ∈ ts)
    (hp : lookup s.store t.loc ≠ none) :
    ∃ out, recordedFiles t.contents t.data.files = some out ∧ restoreMd t.p s.store t.name = .ok out := by
  obtain ⟨⟨u, hu, hpu⟩, hdok⟩ := hti.ok t ht
  have hum : u ∈ s.users := List.mem_of_getElem? hu
  obtain ⟨hnd, hrefs⟩ := dataOk_spec hdok
  have htab := table_eq_contents t
  -- every captured chunk fetches to itself
  have hf : ∀ c ∈ t.contents, fetchChunk t.p s.store (digest c) = .ok c := by
    intro c hc
    rw [hpu]
    apply fetch_present h u hum c
    rw [← hpu]
    apply hti.pres t ht hp
    rw [htab]
    exact List.mem_map.mpr ⟨c, hc, rfl⟩
  have hlen : t.table.length = t.contents.length := by rw [htab, List.length_map]
  obtain ⟨out, ho1, ho2⟩ := restoreFilesMd_complete (fetchChunk t.p s.store) t.contents hf t.data.files
    (fun f hf' r hr => hlen ▸ hrefs f hf' r hr)
  refine ⟨out, ho1, ?_⟩
  have hb := loadBodies_taken h t hp t.p
  have hown : loadSnapshot t.p (snapshotTag t.p t.name) t.name t.stored = .ok (some (t.table, some t.data)) :=
    loadSnapshot_own t.p t.n1 t.n2 t.table t.data
  rw [hown] at hb
  unfold restoreMd
  rw [loadAll_eq_loadBodies, hb]
  simp only [Except.map, List.filterMap_cons, keepData, List.filterMap_nil]
  rw [selectFiles_single t.table t.data hnd, htab]
  exact ho2

theorem restoreMd_no_body {q : Props} {store : Store} {name : Term} {bodies : List (List Term × Option Data)}
    (hb : loadBodies q name (snapEntries store) = .ok bodies) (hnone : ∀ b ∈ bodies, b.2 = none) :
    restoreMd q store name = .ok [] := by
  unfold restoreMd
  rw [loadAll_eq_loadBodies, hb]
  have : bodies.filterMap keepData = [] := by
    rw [List.filterMap_eq_nil_iff]
    intro b hbm
    obtain ⟨tb, d⟩ := b
    have := hnone _ hbm
    simp only at this
    subst this
    rfl
  simp [Except.map, this, isort, selectFiles, restoreFilesMd]

/-- a reader `q` that gets no private data out of the one object under the name of a present snapshot — it is of the family
but has another user key, or of another family and skips the object — lists what it got and restores nothing -/
theorem unreadable_taken {cfg : Term} {s : St} (h : HInv cfg s) (t : Taken) (hp : lookup s.store t.loc ≠ none) {q : Props}
    {r : Option (List Term × Option Data)} (hr : loadSnapshot q (snapshotTag t.p t.name) t.name t.stored = .ok r)
    (hnone : ∀ b ∈ r, b.2 = none) :
    loadBodies q t.name (snapEntries s.store) = .ok r.toList ∧ restoreMd q s.store t.name = .ok [] := by
  have hb := loadBodies_taken h t hp q
  rw [hr] at hb
  have hb' : loadBodies q t.name (snapEntries s.store) = .ok r.toList := by
    cases r <;> exact hb
  exact ⟨hb', restoreMd_no_body hb' fun b hbm => hnone b (Option.mem_toList.mp hbm)⟩

end Replicat.Sym
