import ReplicatModel.Settings
/-! Lemmas about `ReplicatModel/Settings.lean` for `Properties/C17.lean`: where `init` uploads, and what an accepted `init` has
checked on the way (constructor guards, the one run of cipher and KDF). -/
namespace Replicat.Settings
open Replicat.Gen

theorem throw_eq {ε α : Type} (e : ε) : (throw e : Except ε α) = .error e := rfl

theorem pure_eq {ε α : Type} (a : α) : (pure a : Except ε α) = .ok a := rfl

theorem bind_ok {ε α β : Type} {x : Except ε α} {f : α → Except ε β} {b : β} :
    (x >>= f) = .ok b ↔ ∃ a, x = .ok a ∧ f a = .ok b := by
  cases x <;> simp [bind, Except.bind]

theorem guard_ok {ε α : Type} {c : Prop} [Decidable c] {e : ε} {x : Except ε α} {b : α} :
    (if c then .error e else x) = .ok b ↔ ¬ c ∧ x = .ok b := by
  by_cases hc : c <;> simp [hc]

theorem stage_ok {s : Option Settings} {pw : Bool} {st st' : St} {sg : InitStage} (h : stage s pw st sg = .ok st') :
    stageCore s pw st.core sg = .ok st'.core ∧
      st'.puts = if sg = .uploadConfig then st.puts ++ ["config"] else st.puts := by
  unfold stage at h
  split at h
  · cases h
  · rename_i c hc
    cases h
    exact ⟨hc, rfl⟩

def noUpload (l : List (InitStage × Bool)) : Prop := ∀ p ∈ l, p.1 ≠ InitStage.uploadConfig

instance (l : List (InitStage × Bool)) : Decidable (noUpload l) := by unfold noUpload; infer_instance

/-- **The upload is the last statement.**  For any statement order that ends with the (unconditional) upload and has no other:
a run that raises has uploaded nothing, a run that returns has uploaded exactly the config. -/
theorem upload_last (s : Option Settings) (pw : Bool) (pre : List (InitStage × Bool)) (hpre : noUpload pre) (st : St) :
    (runStages s pw (pre ++ [(.uploadConfig, false)]) st).1.puts =
      if (runStages s pw (pre ++ [(.uploadConfig, false)]) st).2.isNone then st.puts ++ ["config"] else st.puts := by
  induction pre generalizing st with
  | nil =>
    simp only [List.nil_append, runStages, Bool.false_and, Bool.false_eq_true, if_false]
    cases hst : stage s pw st .uploadConfig with
    | error e => rfl
    | ok st' => exact (stage_ok hst).2
  | cons p rest ih =>
    obtain ⟨sg, encOnly⟩ := p
    have hsg : sg ≠ .uploadConfig := hpre (sg, encOnly) List.mem_cons_self
    have ih := ih (fun q hq => hpre q (List.mem_cons_of_mem _ hq))
    simp only [List.cons_append, runStages]
    by_cases hskip : (encOnly && !st.encrypted) = true
    · rw [if_pos hskip]
      exact ih st
    · rw [if_neg hskip]
      cases hst : stage s pw st sg with
      | error e => rfl
      | ok st' =>
        have := (stage_ok hst).2
        rw [if_neg hsg] at this
        rw [← this]
        exact ih st'

theorem runInit_puts (hord : initStages = canonicalStages) (s : Option Settings) (pw : Bool) :
    (runInit s pw).1.puts = if accept s pw = true then ["config"] else [] := by
  have hsplit : canonicalStages = canonicalStages.take 7 ++ [(InitStage.uploadConfig, false)] := by decide
  unfold accept runInit
  rw [hord, hsplit]
  exact upload_last s pw _ (by decide) {}

theorem accepted_run (hord : initStages = canonicalStages) {s : Option Settings} {pw : Bool} (h : accept s pw = true) :
    runStages s pw canonicalStages {} = ((runInit s pw).1, none) := by
  rw [← hord]
  exact Prod.ext rfl (Option.isNone_iff_eq_none.mp h)

theorem runStages_cons_skip {s : Option Settings} {pw : Bool} {sg : InitStage} {rest : List (InitStage × Bool)} {st : St}
    (h : st.encrypted = false) : runStages s pw ((sg, true) :: rest) st = runStages s pw rest st := by
  simp only [runStages, h, Bool.not_false, Bool.and_self, if_true]

theorem runStages_cons_run {s : Option Settings} {pw : Bool} {sg : InitStage} {eo : Bool} {rest : List (InitStage × Bool)}
    {st st' : St} (hrun : (eo && !st.encrypted) = false) (h : runStages s pw ((sg, eo) :: rest) st = (st', none)) :
    ∃ c puts, stageCore s pw st.core sg = .ok c ∧ runStages s pw rest ⟨c, puts⟩ = (st', none) := by
  simp only [runStages, hrun, Bool.false_eq_true, if_false] at h
  revert h
  cases hst : stage s pw st sg with
  | error e => nofun
  | ok st1 => exact fun h => ⟨st1.core, st1.puts, (stage_ok hst).1, h⟩

theorem sc_validate {s pw c c'} (h : stageCore s pw c .validate = .ok c') : c' = c := by
  simp only [stageCore] at h
  split at h
  · simp only [bind_ok, pure_eq, Except.ok.injEq] at h
    obtain ⟨_, _, rfl⟩ := h
    rfl
  · exact (Except.ok.inj h).symm

theorem sc_password {s pw c c'} (h : stageCore s pw c .passwordCheck = .ok c') : c' = c :=
  match pw, h with
  | true, rfl => rfl

theorem sc_upload {s pw c c'} (h : stageCore s pw c .uploadConfig = .ok c') : c' = c := by
  simp only [stageCore] at h
  split at h
  · cases h
  · exact (Except.ok.inj h).symm

theorem accepted_went (s : Option Settings) (pw : Bool) (st : St)
    (h : runStages s pw canonicalStages {} = (st, none)) :
    ∃ cfg props, makeConfig (s.getD []) = .ok cfg ∧ instantiateConfig cfg = .ok props ∧ st.core.config = some cfg ∧
      ∀ c, props.cipher = some c → ∃ kdf k, makeKey c props.chunker kdf true = .ok k ∧
        kdfDerive k.userKdf = .ok () ∧ cipherEncrypt c = .ok () ∧ st.core.key = some k := by
  unfold canonicalStages at h
  obtain ⟨c1, _, h1, h⟩ := runStages_cons_run rfl h
  cases sc_validate h1
  obtain ⟨c2, _, h2, h⟩ := runStages_cons_run rfl h
  simp only [stageCore, bind_ok, pure_eq, Except.ok.injEq] at h2
  obtain ⟨cfg, hcfg, rfl⟩ := h2
  obtain ⟨c3, _, h3, h⟩ := runStages_cons_run rfl h
  simp only [stageCore, bind_ok, pure_eq, Except.ok.injEq] at h3
  obtain ⟨props, hprops, rfl⟩ := h3
  refine ⟨cfg, props, hcfg, hprops, ?_⟩
  obtain ⟨chunker, hasher, cipher⟩ := props
  cases cipher with
  | none =>
    -- the four statements inside `if props.encrypted:` are skipped
    rw [runStages_cons_skip rfl, runStages_cons_skip rfl, runStages_cons_skip rfl, runStages_cons_skip rfl] at h
    obtain ⟨c4, _, h4, h⟩ := runStages_cons_run rfl h
    cases sc_upload h4
    cases h
    exact ⟨rfl, fun _ hc => nomatch hc⟩
  | some c =>
    obtain ⟨c4, _, h4, h⟩ := runStages_cons_run rfl h
    cases sc_password h4
    obtain ⟨c5, _, h5, h⟩ := runStages_cons_run rfl h
    simp only [stageCore, bind_ok, pure_eq, Except.ok.injEq] at h5
    obtain ⟨_, _, kdf, _, k, hmk, rfl⟩ := h5
    obtain ⟨c6, _, h6, h⟩ := runStages_cons_run rfl h
    simp only [stageCore, bind_ok, pure_eq, Except.ok.injEq] at h6
    obtain ⟨_, hder, rfl⟩ := h6
    obtain ⟨c7, _, h7, h⟩ := runStages_cons_run rfl h
    simp only [stageCore, if_true, bind_ok, pure_eq, Except.ok.injEq] at h7
    obtain ⟨_, hencr, rfl⟩ := h7
    obtain ⟨c8, _, h8, h⟩ := runStages_cons_run rfl h
    cases sc_upload h8
    cases h
    refine ⟨rfl, fun c' hc => ?_⟩
    cases hc
    exact ⟨kdf, k, hmk, hder, hencr, rfl⟩

theorem fromConfig_mem {kv : Args} {row : AdapterRow} {a : Args} (h : fromConfig kv = .ok (row, a)) : row ∈ adapterTable := by
  unfold fromConfig at h
  split at h
  · cases h
  · cases h
  · split at h
    · cases h
    · rename_i row' hrow
      simp only [bind_ok, pure_eq, Except.ok.injEq, Prod.mk.injEq] at h
      obtain ⟨_, _, rfl, _⟩ := h
      exact List.mem_of_find?_eq_some hrow
  · cases h

theorem slotConfig_ok {slot : String} {kv : Args} {dflt : String} {p : AdapterRow × Args} (h : slotConfig slot kv dflt = .ok p) :
    p.1 ∈ adapterTable ∧ ∀ base, kindChecks.lookup slot = some base → hasKind p.1 base = true := by
  unfold slotConfig at h
  revert h
  cases hf : fromConfig (withDefaultName kv dflt) with
  | error e => nofun
  | ok q =>
    dsimp only
    cases kindChecks.lookup slot with
    | none =>
      rintro ⟨⟩
      exact ⟨fromConfig_mem hf, fun _ hb => nomatch hb⟩
    | some base =>
      dsimp only
      by_cases hk : hasKind q.1 base = true
      · rw [if_pos hk]
        rintro ⟨⟩
        exact ⟨fromConfig_mem hf, fun _ hb => Option.some.inj hb ▸ hk⟩
      · rw [if_neg hk]
        nofun

theorem makeConfig_ok {s : Settings} {cfg : Config} (h : makeConfig s = .ok cfg) :
    ∃ kvh kvc, sectionArgs s "hashing" = .ok kvh ∧ slotConfig "hashing" kvh defaultHasher = .ok cfg.hashing ∧
      sectionArgs s "chunking" = .ok kvc ∧ slotConfig "chunking" kvc defaultChunker = .ok cfg.chunking ∧
      ∀ ci, cfg.cipher = some ci → ci.1 ∈ adapterTable := by
  unfold makeConfig at h
  revert h
  cases sectionArgs s "hashing" with
  | error e => nofun
  | ok kvh =>
  dsimp only
  cases h2 : slotConfig "hashing" kvh defaultHasher with
  | error e => nofun
  | ok hh =>
  cases sectionArgs s "chunking" with
  | error e => nofun
  | ok kvc =>
  dsimp only
  cases h4 : slotConfig "chunking" kvc defaultChunker with
  | error e => nofun
  | ok cc =>
    dsimp only
    intro h
    split at h
    · cases h
    · cases h
      exact ⟨kvh, kvc, rfl, h2, rfl, h4, fun _ hci => nomatch hci⟩
    · split at h
      · cases h
      · split at h
        · cases h
        · rename_i kv _ ci hci
          cases h
          exact ⟨kvh, kvc, rfl, h2, rfl, h4, fun ci' e => by cases e; exact (slotConfig_ok hci).1⟩

theorem constructCipher_ok {ci : Option (AdapterRow × Args)} {oc : Option Inst} (h : constructCipher ci = .ok oc) :
    (ci = none ∧ oc = none) ∨ ∃ row args c, ci = some (row, args) ∧ construct row args = .ok c ∧ oc = some c := by
  unfold constructCipher at h
  split at h
  · cases h
    exact .inl ⟨rfl, rfl⟩
  · split at h
    · cases h
    · rename_i row args _ c hc
      cases h
      exact .inr ⟨row, args, c, rfl, hc, rfl⟩

theorem instantiateConfig_ok {cfg : Config} {props : Props} (h : instantiateConfig cfg = .ok props) :
    constructCipher cfg.cipher = .ok props.cipher ∧ construct cfg.chunking.1 cfg.chunking.2 = .ok props.chunker ∧
      construct cfg.hashing.1 cfg.hashing.2 = .ok props.hasher := by
  unfold instantiateConfig at h
  revert h
  cases constructCipher cfg.cipher with
  | error e => nofun
  | ok ci =>
  cases construct cfg.chunking.1 cfg.chunking.2 with
  | error e => nofun
  | ok ch =>
  cases construct cfg.hashing.1 cfg.hashing.2 with
  | error e => nofun
  | ok ha =>
    rintro ⟨⟩
    exact ⟨rfl, rfl, rfl⟩

theorem construct_ok {row : AdapterRow} {args : Args} {c : Inst} (h : construct row args = .ok c) :
    runGuards args row.guards = .ok () ∧ c.row = row ∧
    (if row.name == "aes_gcm" then
      ∃ kbits kb nbits nb, lookupArg args "key_bits" = .ok kbits ∧ floorDiv8 kbits = .ok kb ∧
        lookupArg args "nonce_bits" = .ok nbits ∧ floorDiv8 nbits = .ok nb ∧ c.keyBytes = some kb ∧ c.nonceBytes = some nb
     else if row.name == "chacha20_poly1305" then True
     else c.keyBytes = none ∧
       ((row.name == "sha2" || row.name == "sha3") = true → ∃ j, lookupArg args "bits" = .ok (.val (.int j)))) := by
  unfold construct at h
  revert h
  cases runGuards args row.guards with
  | error e => nofun
  | ok u =>
    dsimp only
    intro h
    refine ⟨rfl, ?_⟩
    by_cases haes : (row.name == "aes_gcm") = true
    · rw [if_pos haes] at h ⊢
      revert h
      cases lookupArg args "key_bits" with
      | error e => nofun
      | ok kbits =>
      dsimp only
      cases h2 : floorDiv8 kbits with
      | error e => nofun
      | ok kb =>
      cases lookupArg args "nonce_bits" with
      | error e => nofun
      | ok nbits =>
      dsimp only
      cases h4 : floorDiv8 nbits with
      | error e => nofun
      | ok nb =>
        rintro ⟨⟩
        exact ⟨rfl, kbits, kb, nbits, nb, rfl, h2, rfl, h4, rfl, rfl⟩
    · rw [if_neg haes] at h ⊢
      by_cases hcha : (row.name == "chacha20_poly1305") = true
      · rw [if_pos hcha] at h ⊢
        repeat' split at h
        all_goals first | (cases h; done) | skip
        cases h
        exact ⟨rfl, trivial⟩
      · rw [if_neg hcha] at h ⊢
        by_cases hsha : (row.name == "sha2" || row.name == "sha3") = true
        · rw [if_pos hsha] at h
          split at h
          · rename_i j hj
            cases h
            exact ⟨rfl, rfl, fun _ => ⟨j, hj⟩⟩
          · cases h
          · cases h
        · rw [if_neg hsha] at h
          cases h
          exact ⟨rfl, rfl, fun hs => absurd hs hsha⟩

theorem runGuards_cons_ok {args : Args} {g : Guard} {gs : List Guard} :
    runGuards args (g :: gs) = .ok () ↔ evalCond args g.cond = .ok false ∧ runGuards args gs = .ok () := by
  simp only [runGuards, bind_ok]
  constructor
  · rintro ⟨b, hb, h⟩
    cases b
    · exact ⟨hb, h⟩
    · cases h
  · rintro ⟨hb, h⟩
    exact ⟨false, hb, h⟩

theorem notIn_guard_ok {args : Args} {p : String} {vals : List Int} {e : String} {a : Arg}
    (hg : runGuards args [⟨.notIn (.param p) vals, e⟩] = .ok ()) (ha : lookupArg args p = .ok a) : pyIn a vals = true := by
  have := (runGuards_cons_ok.mp hg).1
  simp only [evalCond, evalTerm, ha, bind_ok, pure_eq, Except.ok.injEq, exists_eq_left', Bool.not_eq_false'] at this
  exact this

theorem table_kdf : ∀ r ∈ adapterTable, hasKind r "KDFAdapter" = true → r.name = "scrypt" ∨ r.name = "blake2b" := by decide +kernel

theorem table_hash : ∀ r ∈ adapterTable, hasKind r "HashAdapter" = true →
    r.name = "blake2b" ∧ r.guards = guardsOf "blake2b" ∨
      (r.name = "sha2" ∨ r.name = "sha3") ∧ r.guards = [⟨.notIn (.param "bits") [224, 256, 384, 512], "ValueError"⟩] := by
  decide +kernel

theorem table_chunker : ∀ r ∈ adapterTable, hasKind r "ChunkerAdapter" = true →
    r.name = "gclmulchunker" ∧ r.guards = guardsOf "gclmulchunker" := by
  decide +kernel

theorem table_aes : ∀ r ∈ adapterTable, r.name = "aes_gcm" →
    hasKind r "CipherAdapter" = true ∧ r.guards = [⟨.notIn (.param "key_bits") [128, 192, 256], "ValueError"⟩] := by
  decide +kernel

theorem table_chacha : ∀ r ∈ adapterTable, r.name = "chacha20_poly1305" →
    hasKind r "CipherAdapter" = true ∧ r.consts.lookup "key_bits" = some 256 ∧ r.consts.lookup "nonce_bits" = some 96 := by
  decide +kernel

theorem argOf_of_lookupArg {args : Args} {p : String} {a : Arg} (h : lookupArg args p = .ok a) : argOf args p = a := by
  unfold lookupArg at h
  split at h
  · rename_i ha
    cases h
    simp only [argOf, ha, Option.getD_some]
  · cases h

theorem urandom_ok {a : Arg} {n : Int} (h : urandom a = .ok n) : intLike a = some n := by
  unfold urandom at h
  split at h
  · rename_i i hi
    split at h
    · cases h
    · cases h
      exact hi
  · cases h

theorem floorDiv8_intLike {a b : Arg} {m : Int} (h : floorDiv8 a = .ok b) (hb : intLike b = some m) :
    (∃ j, a = .val (.int j) ∧ m = j / 8) ∨ (∃ t, a = .val (.bool t) ∧ m = 0) := by
  cases a with
  | mapping => cases h
  | val v =>
    cases v with
    | int j =>
      cases h
      cases hb
      exact .inl ⟨j, rfl, rfl⟩
    | bool t =>
      cases h
      cases hb
      exact .inr ⟨t, rfl, rfl⟩
    | _ =>
      cases h
      all_goals cases hb

/-- `AESGCM(key)` takes a key of 16, 24 or 32 bytes, `os.urandom` an int, and the library a nonce of 8…128 bytes -/
theorem cipherEncrypt_aes {c : Inst} {kb nb : Arg} (hn : (c.row.name == "aes_gcm") = true) (hkb : c.keyBytes = some kb)
    (hnb : c.nonceBytes = some nb) (h : cipherEncrypt c = .ok ()) :
    ∃ k m, intLike kb = some k ∧ intLike nb = some m ∧ 8 ≤ m ∧ m ≤ 128 := by
  simp only [cipherEncrypt, hkb, hnb, hn, if_true, guard_ok] at h
  obtain ⟨hkey, h⟩ := h
  revert h
  cases hm : urandom nb with
  | error e => nofun
  | ok m =>
    dsimp only
    intro h
    split at h
    · cases hk : intLike kb with
      | none =>
        rw [hk] at hkey
        exact absurd rfl hkey
      | some k => exact ⟨k, m, rfl, urandom_ok hm, ‹_›⟩
    · cases h

theorem cipher_usable_of {row : AdapterRow} {args : Args} {c : Inst} (hmem : row ∈ adapterTable)
    (hcon : construct row args = .ok c) (henc : cipherEncrypt c = .ok ()) : cipherUsable (row, args) = true := by
  obtain ⟨hg, hrow, hby⟩ := construct_ok hcon
  by_cases haes : (row.name == "aes_gcm") = true
  · obtain ⟨hkind, hgd⟩ := table_aes row hmem (eq_of_beq haes)
    rw [if_pos haes] at hby
    obtain ⟨kbits, kb, nbits, nb, h1, h2, h3, h4, hkb, hnb⟩ := hby
    obtain ⟨k, m, hk, hm, hrange⟩ := cipherEncrypt_aes (hrow ▸ haes) hkb hnb henc
    have hin := notIn_guard_ok (hgd ▸ hg) h1
    -- a float `key_bits` such as `256.0` passes the constructor's membership test, but `256.0 // 8` is no key size
    have hp : isPlainIntIn kbits [128, 192, 256] = true := by
      rcases floorDiv8_intLike h2 hk with ⟨j, rfl, _⟩ | ⟨t, rfl, _⟩
      · exact hin
      · cases t <;> exact absurd hin (by decide)
    obtain ⟨i, hi, hlo, hhi⟩ : ∃ i, intLike nbits = some i ∧ 8 ≤ i / 8 ∧ i / 8 ≤ 128 := by
      rcases floorDiv8_intLike h4 hm with ⟨j, rfl, rfl⟩ | ⟨t, rfl, rfl⟩
      · exact ⟨j, rfl, hrange⟩
      · exact absurd hrange.1 (by decide)
    simp only [cipherUsable, hkind, haes, if_true, argOf_of_lookupArg h1, argOf_of_lookupArg h3, hp, hi, hlo, hhi,
      decide_true, Bool.and_self]
  · rw [if_neg haes] at hby
    by_cases hcha : (row.name == "chacha20_poly1305") = true
    · obtain ⟨hkind, hk1, hk2⟩ := table_chacha row hmem (eq_of_beq hcha)
      simp only [cipherUsable, hkind, haes, hcha, hk1, hk2, if_true, Bool.false_eq_true, if_false, beq_self_eq_true,
        Bool.and_self]
    · rw [if_neg hcha] at hby
      unfold cipherEncrypt at henc
      rw [hby.1] at henc
      cases henc

theorem unsignedArg_ok {args : Args} {p : String} {i : Int} (h : unsignedArg args p = .ok i) :
    intLike (argOf args p) = some i ∧ 0 ≤ i := by
  unfold unsignedArg at h
  split at h
  · cases h
  · rename_i a ha
    rw [argOf_of_lookupArg ha]
    unfold toUnsigned at h
    split at h
    · rename_i j hj
      split at h
      · cases h
      · rename_i hneg
        cases h
        exact ⟨hj, Int.not_lt.mp hneg⟩
    · cases h

theorem scryptDerive_ok {args : Args} (h : scryptDerive args = .ok ()) :
    ∃ l n r p, intLike (argOf args "length") = some l ∧ intLike (argOf args "n") = some n ∧
      intLike (argOf args "r") = some r ∧ intLike (argOf args "p") = some p ∧
      0 ≤ l ∧ 2 ≤ n ∧ isPow2 n = true ∧ 1 ≤ r ∧ 1 ≤ p ∧ n < (2 : Int) ^ (16 * r.toNat) := by
  unfold scryptDerive at h
  revert h
  cases hl : unsignedArg args "length" with
  | error e => nofun
  | ok l =>
  cases hn : unsignedArg args "n" with
  | error e => nofun
  | ok n =>
  cases hr : unsignedArg args "r" with
  | error e => nofun
  | ok r =>
  cases hp : unsignedArg args "p" with
  | error e => nofun
  | ok p =>
    intro h
    simp only [guard_ok, Bool.or_eq_true, decide_eq_true_eq, Bool.not_eq_true', not_or, Int.not_lt, Bool.not_eq_false,
      Int.not_le, and_true] at h
    obtain ⟨hl1, hl2⟩ := unsignedArg_ok hl
    exact ⟨l, n, r, p, hl1, (unsignedArg_ok hn).1, (unsignedArg_ok hr).1, (unsignedArg_ok hp).1, hl2, h.1.1, h.1.2, h.2.1,
      h.2.2.1, h.2.2.2⟩

theorem blake2bSize_ok {a : Arg} (h : blake2bSize a = .ok ()) : intBetween a 1 64 = true := by
  unfold blake2bSize at h
  split at h
  · rename_i i hi
    split at h
    · rename_i hr
      simp only [intBetween, hi, hr.1, hr.2, decide_true, Bool.and_self]
    · cases h
  · cases h

theorem kdf_usable_of {k : Inst} (hmem : k.row ∈ adapterTable) (hder : kdfDerive k = .ok ()) :
    kdfUsable (k.row, k.args) = true := by
  simp only [kdfDerive, guard_ok, Bool.not_eq_true', Bool.not_eq_false] at hder
  obtain ⟨hkind, hder⟩ := hder
  rcases table_kdf k.row hmem hkind with hname | hname
  · have hs : (k.row.name == "scrypt") = true := beq_iff_eq.mpr hname
    simp only [hs, if_true] at hder
    obtain ⟨l, n, r, p, h1, h2, h3, h4, h5, h6, h7, h8, h9, h10⟩ := scryptDerive_ok hder
    simp only [kdfUsable, hkind, hs, if_true, h1, h2, h3, h4, h5, h6, h7, h8, h9, h10, decide_true, Bool.and_self]
  · have hs : (k.row.name == "scrypt") = false := by
      rw [hname]
      decide +kernel
    have hb : (k.row.name == "blake2b") = true := beq_iff_eq.mpr hname
    simp only [hs, hb, Bool.false_eq_true, if_false, if_true] at hder
    split at hder
    · cases hder
    · rename_i l hl
      simp only [kdfUsable, hkind, hs, hb, Bool.false_eq_true, if_false, if_true, argOf_of_lookupArg hl,
        blake2bSize_ok hder, Bool.and_self]

theorem makeKey_mem {c ch : Inst} {kdf : Args} {fresh : Bool} {k : KeyMat} (h : makeKey c ch kdf fresh = .ok k) :
    k.userKdf.row ∈ adapterTable := by
  unfold makeKey at h
  revert h
  cases c.keyBytes with
  | none => nofun
  | some kb =>
    dsimp only
    intro h
    obtain ⟨_, h⟩ := guard_ok.mp h
    revert h
    cases hf : fromConfig (withDefaultName kdf defaultUserKdf ++ [("length", kb)]) with
    | error e => nofun
    | ok q =>
      dsimp only
      cases hc : construct q.1 q.2 with
      | error e => nofun
      | ok userKdf =>
        dsimp only
        intro h
        have hk : k.userKdf = userKdf := by
          repeat' split at h
          all_goals first | (cases h; done) | (cases h; rfl)
        rw [hk, (construct_ok hc).2.1]
        exact fromConfig_mem hf

theorem addKey_ok {s : Option Settings} {pw shared unlocked : Bool} {props : Props} {k : KeyMat}
    (h : addKey s pw shared unlocked props = .ok k) :
    ∃ c kdf, makeKey c props.chunker kdf (!shared) = .ok k ∧ kdfDerive k.userKdf = .ok () := by
  unfold addKey at h
  repeat' split at h
  all_goals first | (cases h; done) | skip
  cases h
  exact ⟨_, _, ‹makeKey _ _ _ _ = _›, ‹kdfDerive _ = _›⟩

theorem validateShape_keys {schema : List (String × List String)} {obj : List (String × Shape)}
    (h : validateShape schema obj = .ok ()) {p : String × Shape} (hp : p ∈ obj) : ∃ q ∈ schema, q.1 = p.1 := by
  simp only [validateShape, throw_eq, guard_ok] at h
  cases hs : schema.any (fun q => q.1 == p.1) with
  | false => exact absurd (List.any_eq_true.mpr ⟨p, hp, by rw [hs]; rfl⟩) h.1
  | true =>
    obtain ⟨q, hq, hqp⟩ := List.any_eq_true.mp hs
    exact ⟨q, hq, eq_of_beq hqp⟩

/-- validated init settings carry no `encryption.*` key outside the schema: `encryption.mac` / `encryption.shared_kdf`, which
`_make_key` would read, are unreachable -/
theorem validated_encryption_keys {s : Settings} (h : validateInit s = .ok ()) {enc : List (String × V2)}
    (he : encryptionSettings s = .ok (some enc)) {k : String} (hk : ∀ q ∈ initEncryptionSchema, q.1 ≠ k) :
    enc.lookup k = none := by
  simp only [validateInit, bind_ok] at h
  obtain ⟨_, _, h⟩ := h
  unfold encryptionSettings at he
  cases hv : enc.lookup k with
  | none => rfl
  | some v =>
    split at h <;> rename_i hl <;> simp only [hl] at he
    · cases he
      cases hv
    · cases he
    · cases he
      obtain ⟨l₁, l₂, rfl, _⟩ := List.lookup_eq_some_iff.mp hv
      obtain ⟨q, hq, hqk⟩ := validateShape_keys h
        (List.mem_map_of_mem (f := fun p => (p.1, p.2.shape)) (List.mem_append_right l₁ List.mem_cons_self))
      exact absurd hqk (hk q hq)
    · cases h

theorem intLike_numOf {a : Arg} {i : Int} (h : intLike a = some i) : ∃ v, a = .val v ∧ numOf v = some (i : Rat) := by
  cases a with
  | mapping => cases h
  | val v =>
    cases v with
    | int j =>
      cases h
      exact ⟨_, rfl, rfl⟩
    | bool b =>
      cases h
      cases b <;> exact ⟨_, rfl, rfl⟩
    | _ => cases h

theorem pyCmp_intLike (op : CmpOp) {a b : Arg} {i j : Int} (ha : intLike a = some i) (hb : intLike b = some j) :
    pyCmp op a b = .ok (cmpRat op (i : Rat) (j : Rat)) := by
  obtain ⟨x, rfl, hx⟩ := intLike_numOf ha
  obtain ⟨y, rfl, hy⟩ := intLike_numOf hb
  simp only [pyCmp, hx, hy, pure_eq]

theorem disj_false {args : Args} {c d : GCond} (h : evalCond args (.disj c d) = .ok false) :
    evalCond args c = .ok false ∧ evalCond args d = .ok false := by
  simp only [evalCond, bind_ok] at h
  obtain ⟨b, hb, h⟩ := h
  cases b
  · exact ⟨hb, h⟩
  · cases h

theorem notInt_false {args : Args} {p : String} (h : evalCond args (.neg (.isInt (.param p))) = .ok false) :
    ∃ a i, lookupArg args p = .ok a ∧ intLike a = some i := by
  simp only [evalCond, evalTerm, bind_ok, pure_eq, Except.ok.injEq] at h
  obtain ⟨_, ⟨a, ha, rfl⟩, h⟩ := h
  cases hi : intLike a with
  | none =>
    rw [hi] at h
    cases h
  | some i => exact ⟨a, i, ha, hi⟩

theorem blake2bFix_sound (args : Args) (h : runGuards args blake2bFixGuards = .ok ()) :
    intBetween (argOf args "length") 16 64 = true := by
  obtain ⟨hi, hch⟩ := disj_false (runGuards_cons_ok.mp h).1
  obtain ⟨a, i, ha, hia⟩ := notInt_false hi
  rw [argOf_of_lookupArg ha]
  simp only [evalCond, evalTerm, ha, bind_ok, pure_eq, Except.ok.injEq, exists_eq_left',
    pyCmp_intLike .le (a := .val (.int 16)) (i := 16) rfl hia, cmpRat, Rat.intCast_le_intCast] at hch
  obtain ⟨b, h, hb⟩ := hch
  by_cases h16 : 16 ≤ i
  · rw [if_pos (decide_eq_true h16)] at h
    have h : pyCmp .le a (.val (.int 64)) = .ok b := h
    simp only [pyCmp_intLike .le (b := .val (.int 64)) (j := 64) hia rfl, cmpRat, Rat.intCast_le_intCast] at h
    cases h
    simp only [Bool.not_eq_false', decide_eq_true_eq] at hb
    simp only [intBetween, hia, h16, hb, decide_true, Bool.and_self]
  · rw [if_neg (fun hd => h16 (of_decide_eq_true hd))] at h
    cases h
    cases hb

theorem chunkerFix_sound (args : Args) (h : runGuards args chunkerFixGuards = .ok ()) :
    ∃ mn mx, intLike (argOf args "min_length") = some mn ∧ intLike (argOf args "max_length") = some mx ∧ 1 ≤ mn ∧ mn ≤ mx := by
  obtain ⟨h1, h⟩ := runGuards_cons_ok.mp h
  obtain ⟨h2, h⟩ := runGuards_cons_ok.mp h
  obtain ⟨h3, _⟩ := runGuards_cons_ok.mp h
  obtain ⟨hmn, hmx⟩ := disj_false h1
  obtain ⟨a, i, ha, hia⟩ := notInt_false hmn
  obtain ⟨b, j, hb, hjb⟩ := notInt_false hmx
  simp only [evalCond, evalTerm, ha, hb, bind_ok, pure_eq, Except.ok.injEq, exists_eq_left', pyCmp_intLike _ hia hjb,
    pyCmp_intLike .lt (b := .val (.int 1)) (j := 1) hia rfl, cmpRat, Rat.intCast_lt_intCast, decide_eq_false_iff_not,
    Int.not_lt] at h2 h3
  rw [argOf_of_lookupArg ha, argOf_of_lookupArg hb]
  exact ⟨i, j, hia, hjb, h2, h3⟩

theorem hasher_usable_of {row : AdapterRow} {args : Args} {i : Inst} (hmem : row ∈ adapterTable)
    (hkind : hasKind row "HashAdapter" = true) (hcon : construct row args = .ok i)
    (hb : ∀ args, runGuards args (guardsOf "blake2b") = .ok () → intBetween (argOf args "length") minDigestBytes 64 = true) :
    hasherUsable (row, args) = true := by
  obtain ⟨hg, _, hby⟩ := construct_ok hcon
  rcases table_hash row hmem hkind with ⟨hname, hgd⟩ | ⟨hname, hgd⟩
  · rw [hgd] at hg
    simp only [hasherUsable, hkind, beq_iff_eq.mpr hname, if_true, hb args hg, Bool.and_self]
  · have hsha : (row.name == "sha2" || row.name == "sha3") = true := by
      rcases hname with h | h <;> rw [h] <;> decide +kernel
    have hne : (row.name == "aes_gcm") = false ∧ (row.name == "chacha20_poly1305") = false ∧ (row.name == "blake2b") = false := by
      rcases hname with h | h <;> rw [h] <;> decide +kernel
    simp only [hne.1, hne.2.1, Bool.false_eq_true, if_false] at hby
    obtain ⟨j, hj⟩ := hby.2 hsha
    simp only [hasherUsable, hkind, hne.2.2, hsha, Bool.false_eq_true, if_false, if_true, argOf_of_lookupArg hj, Bool.true_and]
    exact notIn_guard_ok (hgd ▸ hg) hj

theorem chunker_usable_of {row : AdapterRow} {args : Args} {i : Inst} (hmem : row ∈ adapterTable)
    (hkind : hasKind row "ChunkerAdapter" = true) (hcon : construct row args = .ok i)
    (hgc : ∀ args, runGuards args (guardsOf "gclmulchunker") = .ok () →
      ∃ mn mx, intLike (argOf args "min_length") = some mn ∧ intLike (argOf args "max_length") = some mx ∧ 1 ≤ mn ∧ mn ≤ mx) :
    chunkerUsable (row, args) = true := by
  obtain ⟨hname, hgd⟩ := table_chunker row hmem hkind
  have hg := (construct_ok hcon).1
  rw [hgd] at hg
  obtain ⟨mn, mx, h1, h2, h3, h4⟩ := hgc args hg
  simp only [chunkerUsable, hkind, beq_iff_eq.mpr hname, h1, h2, h3, h4, decide_true, Bool.and_self]

/-- If `/repo` checks the adapter kind of the hashing and chunking slots and the constructors of blake2b and gclmulchunker
enforce their ranges, every accepted settings dictionary lies in the region of `accept_implies_usable_partial`. -/
theorem checkedElsewhere_of_source_checks
    (hk1 : kindChecks.lookup "hashing" = some "HashAdapter") (hk2 : kindChecks.lookup "chunking" = some "ChunkerAdapter")
    (hb : ∀ args, runGuards args (guardsOf "blake2b") = .ok () → intBetween (argOf args "length") minDigestBytes 64 = true)
    (hgc : ∀ args, runGuards args (guardsOf "gclmulchunker") = .ok () →
      ∃ mn mx, intLike (argOf args "min_length") = some mn ∧ intLike (argOf args "max_length") = some mx ∧ 1 ≤ mn ∧ mn ≤ mx)
    (s : Option Settings) (pw : Bool) (st : St) (hr : runStages s pw canonicalStages {} = (st, none)) :
    checkedElsewhere s = true := by
  obtain ⟨cfg, props, hmk, hinst, _, _⟩ := accepted_went s pw st hr
  obtain ⟨kvh, kvc, h1, h2, h3, h4, _⟩ := makeConfig_ok hmk
  obtain ⟨_, hcc, hch⟩ := instantiateConfig_ok hinst
  obtain ⟨hm2, hkd2⟩ := slotConfig_ok h2
  obtain ⟨hm4, hkd4⟩ := slotConfig_ok h4
  have hH := hasher_usable_of hm2 (hkd2 _ hk1) hch hb
  have hC := chunker_usable_of hm4 (hkd4 _ hk2) hcc hgc
  simp only [checkedElsewhere, hashingInputOk, chunkingInputOk, h1, h2, h3, h4, hH, hC, Bool.and_self]

end Replicat.Settings
