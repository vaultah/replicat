import ReplicatProofs.Lemmas.CacheCmd
/-! Lemmas for C18, cache DIRECTORY part: a statically safe plan of `_store_cached` cannot fail — from any state of the directory
(whatever an earlier, killed run left) and with other clients acting on the same names between its operations; what a kill can
leave; what a completed run leaves. -/
namespace Replicat.CacheCmd
open Replicat.Repo List

/-- what OTHER clients sharing the directory may do to the names of one entry between two operations of this run: anything to
the entry (create, replace, evict) and to a temporary with a deterministic name; they never remove directories and never touch a
temporary whose name is unique to this run. -/
def EnvOk (tu : Bool) (f : Loc → Loc) : Prop :=
  ∀ l, (l.parent = true → (f l).parent = true) ∧ (tu = true → (f l).temp = l.temp)

theorem getSlot_setSlot (l : Loc) (t t' : Slot) (x : Option Obj) :
    getSlot (setSlot l t x) t' = if t' = t then x else getSlot l t' := by
  cases t <;> cases t' <;> rfl

theorem setSlot_parent (l : Loc) (t : Slot) (x : Option Obj) : (setSlot l t x).parent = l.parent := by
  cases t <;> rfl

theorem setSlot_getSlot {l : Loc} {t : Slot} {x : Option Obj} (h : getSlot l t = x) : setSlot l t x = l := by
  subst h
  cases t <;> rfl

theorem getSlot_parent (l : Loc) (p : Bool) (t : Slot) : getSlot { l with parent := p } t = getSlot l t := by
  cases t <;> rfl

theorem setSlot_setSlot (l : Loc) (t : Slot) (x y : Option Obj) : setSlot (setSlot l t x) t y = setSlot l t y := by
  cases t <;> rfl

theorem stepFs_create_iff {o : Obj} {l l' : Loc} {t : Slot} {excl : Bool} :
    stepFs o l (.create t excl) = .ok l' ↔
      l.parent = true ∧ (excl = true → getSlot l t = none) ∧ setSlot l t (some (.blob 0)) = l' := by
  rw [stepFs]
  cases l.parent
  · simp
  · cases hg : getSlot l t with
    | none => simp
    | some x => cases excl <;> simp

theorem stepFs_write_iff {o : Obj} {l l' : Loc} {t : Slot} :
    stepFs o l (.write t) = .ok l' ↔ setSlot l t ((getSlot l t).map fun _ => o) = l' := by
  rw [stepFs]
  cases hg : getSlot l t with
  | none => simp [setSlot_getSlot hg]
  | some x => simp

theorem stepFs_rename_iff {o : Obj} {l l' : Loc} {a b : Slot} :
    stepFs o l (.rename a b) = .ok l' ↔ ∃ x, getSlot l a = some x ∧ setSlot (setSlot l a none) b (some x) = l' := by
  rw [stepFs]
  cases getSlot l a <;> simp

theorem stepFs_unlink_iff {o : Obj} {l l' : Loc} {t : Slot} {mo : Bool} :
    stepFs o l (.unlink t mo) = .ok l' ↔ (mo = false → getSlot l t ≠ none) ∧ setSlot l t none = l' := by
  rw [stepFs]
  cases hg : getSlot l t with
  | none => cases mo <;> simp [setSlot_getSlot hg]
  | some x => simp

theorem stepFs_mkdir_iff {o : Obj} {l l' : Loc} {ok : Bool} :
    stepFs o l (.mkdirParents ok) = .ok l' ↔ (l.parent = true → ok = true) ∧ { l with parent := true } = l' := by
  rw [stepFs]
  cases l.parent <;> cases ok <;> simp

theorem envOk_id (tu : Bool) : EnvOk tu id := fun _ => ⟨fun h => h, fun _ => rfl⟩

/-- the invariant behind `safeStep` -/
def SafeInv (tu : Bool) (st : Bool × Bool) (l : Loc) : Prop :=
  (st.1 = true → l.parent = true) ∧ (tu = true → (getSlot l .temp).isSome = st.2)

theorem safeInv_env {tu : Bool} {st : Bool × Bool} {l : Loc} {f : Loc → Loc} (hf : EnvOk tu f) (h : SafeInv tu st l) :
    SafeInv tu st (f l) := by
  obtain ⟨h1, h2⟩ := h
  obtain ⟨e1, e2⟩ := hf l
  exact ⟨fun hp => e1 (h1 hp), fun ht => (congrArg Option.isSome (e2 ht)).trans (h2 ht)⟩

theorem safeStep_ok {tu : Bool} {st st' : Bool × Bool} {op : FsOp} (o : Obj) {l : Loc}
    (hs : safeStep tu st op = some st') (h : SafeInv tu st l) :
    ∃ l', stepFs o l op = .ok l' ∧ SafeInv tu st' l' := by
  obtain ⟨par, tmp⟩ := st
  obtain ⟨h1, h2⟩ := h
  cases op with
  | mkdirParents ok =>
    rw [safeStep] at hs
    obtain ⟨hok, hst⟩ := Option.ite_none_right_eq_some.mp hs
    cases hst
    exact ⟨_, stepFs_mkdir_iff.mpr ⟨fun _ => hok, rfl⟩, fun _ => rfl, h2⟩
  | create s excl =>
    cases s with
    | entry =>
      rw [safeStep] at hs
      obtain ⟨hc, hst⟩ := Option.ite_none_right_eq_some.mp hs
      cases hst
      rw [Bool.and_eq_true, Bool.not_eq_true'] at hc
      exact ⟨_, stepFs_create_iff.mpr ⟨h1 hc.1, fun he => Bool.noConfusion (he.symm.trans hc.2), rfl⟩, h1, h2⟩
    | temp =>
      rw [safeStep] at hs
      obtain ⟨hc, hst⟩ := Option.ite_none_right_eq_some.mp hs
      cases hst
      rw [Bool.and_eq_true, Bool.or_eq_true, Bool.not_eq_true', Bool.and_eq_true, Bool.not_eq_true'] at hc
      refine ⟨_, stepFs_create_iff.mpr ⟨h1 hc.1, fun he => ?_, rfl⟩, h1, fun ht => ht.symm⟩
      -- an exclusive create is only allowed for this run's own temporary, known to be absent
      rcases hc.2 with hx | ⟨ht, hn⟩
      · exact Bool.noConfusion (he.symm.trans hx)
      · exact Option.isSome_eq_false_iff.mp ((h2 ht).trans hn) |> Option.isNone_iff_eq_none.mp
  | write s =>
    cases hs
    refine ⟨_, stepFs_write_iff.mpr rfl, fun hp => (setSlot_parent l s _).trans (h1 hp), fun ht => ?_⟩
    cases s with
    | entry => exact h2 ht
    | temp => exact Option.isSome_map.trans (h2 ht)
  | rename a b =>
    cases a with
    | entry => cases hs
    | temp =>
      rw [safeStep] at hs
      obtain ⟨hc, hst⟩ := Option.ite_none_right_eq_some.mp hs
      cases hst
      rw [Bool.and_eq_true] at hc
      obtain ⟨x, hx⟩ := Option.isSome_iff_exists.mp ((h2 hc.1).trans hc.2)
      refine ⟨_, stepFs_rename_iff.mpr ⟨x, hx, rfl⟩, fun hp => (setSlot_parent _ b _).trans (h1 hp), fun _ => ?_⟩
      cases b <;> rfl
  | unlink s mo =>
    cases s with
    | entry =>
      rw [safeStep] at hs
      obtain ⟨hm, hst⟩ := Option.ite_none_right_eq_some.mp hs
      cases hst
      exact ⟨_, stepFs_unlink_iff.mpr ⟨fun he => Bool.noConfusion (he.symm.trans hm), rfl⟩, h1, h2⟩
    | temp =>
      rw [safeStep] at hs
      obtain ⟨hc, hst⟩ := Option.ite_none_right_eq_some.mp hs
      cases hst
      rw [Bool.or_eq_true, Bool.and_eq_true] at hc
      refine ⟨_, stepFs_unlink_iff.mpr ⟨fun he hn => ?_, rfl⟩, h1, fun _ => rfl⟩
      rcases hc with hm | ⟨ht, hn'⟩
      · exact Bool.noConfusion (he.symm.trans hm)
      · have := (h2 ht).trans hn'
        rw [hn] at this
        cases this

theorem planSafeFrom_total {tu : Bool} (o : Obj) :
    ∀ (ops : List FsOp) (st : Bool × Bool) (envs : List (Loc → Loc)) (l : Loc),
      planSafeFrom tu st ops = true → (∀ f ∈ envs, EnvOk tu f) → SafeInv tu st l → ∃ l', runOpsI o ops envs l = .ok l'
  | [], _, _, l, _, _, _ => ⟨l, rfl⟩
  | op :: rest, st, envs, l, hp, he, hi => by
    simp only [planSafeFrom] at hp
    cases hs : safeStep tu st op with
    | none => rw [hs] at hp; cases hp
    | some st' =>
      rw [hs] at hp
      have hf : EnvOk tu (envs.headD id) := by
        cases envs with
        | nil => exact envOk_id tu
        | cons f _ => exact he f mem_cons_self
      obtain ⟨l1, h1, hi1⟩ := safeStep_ok o hs (safeInv_env hf hi)
      obtain ⟨l', h'⟩ := planSafeFrom_total o rest st' envs.tail l1 hp
        (fun f hf' => he f (mem_of_mem_tail hf')) hi1
      exact ⟨l', by simp only [runOpsI, h1, h']⟩

theorem runOpsI_nil (o : Obj) : ∀ (ops : List FsOp) (l : Loc), runOpsI o ops [] l = runOps o ops l
  | [], _ => rfl
  | op :: rest, l => by
    simp only [runOpsI, runOps, List.headD_nil, id_eq, List.tail_nil]
    cases stepFs o l op with
    | error e => rfl
    | ok l' => exact runOpsI_nil o rest l'

theorem safeInv_start (tu : Bool) (l : Loc) : SafeInv tu (false, false) (startLoc tu l) := by
  refine ⟨fun h => (nomatch h), fun ht => ?_⟩
  rw [startLoc, if_pos ht]
  rfl

/-- **a safe plan never fails**: from ANY state of the directory, with other clients acting in between -/
theorem planSafe_total {tu : Bool} {ops : List FsOp} (hp : planSafe tu ops = true) (o : Obj) (envs : List (Loc → Loc))
    (he : ∀ f ∈ envs, EnvOk tu f) (l : Loc) : ∃ l', runOpsI o ops envs (startLoc tu l) = .ok l' :=
  planSafeFrom_total o ops (false, false) envs _ hp he (safeInv_start tu l)

theorem planSafe_runStore {tu : Bool} {ops : List FsOp} (hp : planSafe tu ops = true) (o : Obj) (l : Loc) :
    ∃ l', runStore ops tu o l = .ok l' := by
  obtain ⟨l', h⟩ := planSafe_total hp o [] (fun _ h => by cases h) l
  exact ⟨l', by rw [runStore, ← runOpsI_nil]; exact h⟩

/-- every payload in `l'` is the payload being stored, an empty / torn file, or was in `l` -/
def FromOld (o : Obj) (l l' : Loc) : Prop :=
  ∀ t x, getSlot l' t = some x → x = o ∨ (∃ j, x = .blob j) ∨ (∃ t', getSlot l t' = some x)

theorem fromOld_refl (o : Obj) (l : Loc) : FromOld o l l := fun t _ h => Or.inr (Or.inr ⟨t, h⟩)

theorem fromOld_trans {o : Obj} {l l1 l2 : Loc} (h1 : FromOld o l l1) (h2 : FromOld o l1 l2) : FromOld o l l2 := by
  intro t x hx
  rcases h2 t x hx with h | h | ⟨t', h⟩
  · exact Or.inl h
  · exact Or.inr (Or.inl h)
  · exact h1 t' x h

theorem fromOld_set {o : Obj} {l l1 : Loc} (h : FromOld o l l1) (s : Slot) {y : Option Obj}
    (hy : ∀ x, y = some x → x = o ∨ (∃ j, x = .blob j) ∨ (∃ t', getSlot l t' = some x)) : FromOld o l (setSlot l1 s y) := by
  intro t x hx
  rw [getSlot_setSlot] at hx
  split at hx
  · exact hy x hx
  · exact h t x hx

theorem stepFs_fromOld {o : Obj} {l l' : Loc} {op : FsOp} (h : stepFs o l op = .ok l') : FromOld o l l' := by
  cases op with
  | mkdirParents ok =>
    obtain ⟨_, rfl⟩ := stepFs_mkdir_iff.mp h
    exact fun t x hx => Or.inr (Or.inr ⟨t, hx.symm ▸ (getSlot_parent l true t).symm⟩)
  | create s excl =>
    obtain ⟨_, _, rfl⟩ := stepFs_create_iff.mp h
    exact fromOld_set (fromOld_refl o l) s (fun x hx => Or.inr (Or.inl ⟨0, (Option.some.inj hx).symm⟩))
  | write s =>
    rw [← stepFs_write_iff.mp h]
    refine fromOld_set (fromOld_refl o l) s (fun x hx => ?_)
    obtain ⟨_, _, rfl⟩ := Option.map_eq_some_iff.mp hx
    exact Or.inl rfl
  | rename a b =>
    obtain ⟨y, hy, rfl⟩ := stepFs_rename_iff.mp h
    exact fromOld_set (fromOld_set (fromOld_refl o l) a (fun _ hx => by cases hx)) b
      (fun x hx => Or.inr (Or.inr ⟨a, hy.trans hx⟩))
  | unlink s mo =>
    obtain ⟨_, rfl⟩ := stepFs_unlink_iff.mp h
    exact fromOld_set (fromOld_refl o l) s (fun _ hx => by cases hx)

theorem runOps_cons_ok {o : Obj} {op : FsOp} {rest : List FsOp} {l l' : Loc} :
    runOps o (op :: rest) l = .ok l' ↔ ∃ l1, stepFs o l op = .ok l1 ∧ runOps o rest l1 = .ok l' := by
  rw [runOps]
  cases stepFs o l op <;> simp

theorem runOps_fromOld {o : Obj} : ∀ (ops : List FsOp) {l l' : Loc}, runOps o ops l = .ok l' → FromOld o l l'
  | [], l, l', h => by cases h; exact fromOld_refl o l
  | op :: rest, l, l', h => by
    obtain ⟨l1, hs, hr⟩ := runOps_cons_ok.mp h
    exact fromOld_trans (stepFs_fromOld hs) (runOps_fromOld rest hr)

theorem tearOp_fromOld (o : Obj) (j : Nat) (l : Loc) (op : Option FsOp) : FromOld o l (tearOp j l op) := by
  cases op with
  | none => exact fromOld_refl o l
  | some op =>
    cases op with
    | write s =>
      rw [tearOp]
      cases getSlot l s with
      | none => exact fromOld_refl o l
      | some y => exact fromOld_set (fromOld_refl o l) s (fun x hx => Or.inr (Or.inl ⟨j + 1, (Option.some.inj hx).symm⟩))
    | _ => exact fromOld_refl o l

theorem startLoc_fromOld (o : Obj) (tu : Bool) (l : Loc) : FromOld o l (startLoc tu l) := by
  intro t x hx
  cases tu with
  | false => exact Or.inr (Or.inr ⟨t, hx⟩)
  | true =>
    cases t with
    | entry => exact Or.inr (Or.inr ⟨.entry, hx⟩)
    | temp => simp [startLoc, getSlot] at hx

/-- **what a hard kill leaves** under the names of one entry: the payload itself, an empty or torn file, or what was there -/
theorem killed_fromOld {ops : List FsOp} {tu : Bool} {k : Nat} {tear : Option Nat} {o : Obj} {l l' : Loc}
    (h : killed ops tu k tear o l = .ok l') : FromOld o l l' := by
  unfold killed at h
  cases hr : runOps o (ops.take k) (startLoc tu l) with
  | error e => rw [hr] at h; cases h
  | ok l1 =>
    rw [hr] at h
    cases h
    have h1 := fromOld_trans (startLoc_fromOld o tu l) (runOps_fromOld _ hr)
    cases tear with
    | none => exact h1
    | some j => exact fromOld_trans h1 (tearOp_fromOld o j l1 _)

def effGet (st : Option Bool × Option Bool) : Slot → Option Bool
  | .entry => st.1
  | .temp => st.2

def effSet (st : Option Bool × Option Bool) (t : Slot) (v : Option Bool) : Option Bool × Option Bool :=
  match t with
  | .entry => (v, st.2)
  | .temp => (st.1, v)

theorem effGet_effSet (st : Option Bool × Option Bool) (t t' : Slot) (v : Option Bool) :
    effGet (effSet st t v) t' = if t' = t then v else effGet st t' := by
  cases t <;> cases t' <;> rfl

theorem effStep_eq (st : Option Bool × Option Bool) (op : FsOp) :
    effStep st op = match op with
      | .mkdirParents _ => st
      | .create s _ => effSet st s (some false)
      | .write s => effSet st s ((effGet st s).map fun _ => true)
      | .rename a b => if a = b then st else effSet (effSet st a none) b (effGet st a)
      | .unlink s _ => effSet st s none := by
  obtain ⟨e, t⟩ := st
  cases op with
  | mkdirParents ok => rfl
  | create s excl => cases s <;> rfl
  | write s => cases s <;> rfl
  | rename a b => cases a <;> cases b <;> rfl
  | unlink s mo => cases s <;> rfl

def EffInv (o : Obj) (st : Option Bool × Option Bool) (l : Loc) : Prop :=
  ∀ t b, effGet st t = some b → ∃ x, getSlot l t = some x ∧ (b = true → x = o)

theorem effInv_set {o : Obj} {st : Option Bool × Option Bool} {l : Loc} (hi : EffInv o st l) (s : Slot) {v : Option Bool}
    {y : Option Obj} (hv : ∀ b, v = some b → ∃ x, y = some x ∧ (b = true → x = o)) :
    EffInv o (effSet st s v) (setSlot l s y) := by
  intro t b hb
  rw [effGet_effSet] at hb
  rw [getSlot_setSlot]
  split
  · rw [if_pos ‹_›] at hb
    exact hv b hb
  · rw [if_neg ‹_›] at hb
    exact hi t b hb

theorem effStep_ok {o : Obj} {st : Option Bool × Option Bool} {l l' : Loc} {op : FsOp}
    (h : stepFs o l op = .ok l') (hi : EffInv o st l) : EffInv o (effStep st op) l' := by
  rw [effStep_eq]
  cases op with
  | mkdirParents ok =>
    obtain ⟨_, rfl⟩ := stepFs_mkdir_iff.mp h
    exact fun t b hb => (getSlot_parent l true t).symm ▸ hi t b hb
  | create s excl =>
    obtain ⟨_, _, rfl⟩ := stepFs_create_iff.mp h
    exact effInv_set hi s (fun b hb => ⟨_, rfl, fun hbt => Bool.noConfusion ((Option.some.inj hb).trans hbt)⟩)
  | write s =>
    rw [← stepFs_write_iff.mp h]
    refine effInv_set hi s (fun b hb => ?_)
    obtain ⟨b0, hb0, _⟩ := Option.map_eq_some_iff.mp hb
    obtain ⟨x, hx, _⟩ := hi s b0 hb0
    exact ⟨o, by rw [hx]; rfl, fun _ => rfl⟩
  | rename a b =>
    obtain ⟨y, hy, rfl⟩ := stepFs_rename_iff.mp h
    dsimp only
    split
    · rename_i hab
      rw [← hab, setSlot_setSlot, setSlot_getSlot hy]
      exact hi
    · refine effInv_set (effInv_set hi a (fun _ hb => by cases hb)) b (fun b' hb => ?_)
      obtain ⟨x, hx, hxo⟩ := hi a b' hb
      exact ⟨x, hy.symm.trans hx, hxo⟩
  | unlink s mo =>
    obtain ⟨_, rfl⟩ := stepFs_unlink_iff.mp h
    exact effInv_set hi s (fun _ hb => by cases hb)

theorem runOps_eff {o : Obj} : ∀ (ops : List FsOp) (st : Option Bool × Option Bool) {l l' : Loc},
    runOps o ops l = .ok l' → EffInv o st l → EffInv o (ops.foldl effStep st) l'
  | [], _, l, l', h, hi => by cases h; exact hi
  | op :: rest, st, l, l', h, hi => by
    obtain ⟨l1, hs, hr⟩ := runOps_cons_ok.mp h
    exact runOps_eff rest (effStep st op) hr (effStep_ok hs hi)

/-- a plan that is `planEffective` leaves the payload under the entry name when it completes undisturbed -/
theorem planEffective_entry {ops : List FsOp} (he : planEffective ops = true) {tu : Bool} {o : Obj} {l l' : Loc}
    (h : runStore ops tu o l = .ok l') : l'.entry = some o := by
  have := runOps_eff ops (none, none) h (fun t b hb => by cases t <;> cases hb)
  unfold planEffective at he
  have h1 : (ops.foldl effStep (none, none)).1 = some true := by simpa using he
  obtain ⟨x, hx, hxo⟩ := this .entry true h1
  exact hx.trans (congrArg some (hxo rfl))

end Replicat.CacheCmd
