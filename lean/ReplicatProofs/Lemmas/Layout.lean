import ReplicatProofs.Lemmas.Slice
import ReplicatProofs.Lemmas.Common
/-! The layout is sorted and each span selects its file's bytes of the stream; on a sorted layout `_chunk_done` gives a file the
references `refsOf`; what the record table holds after the chunks completed in any order. -/
namespace Replicat
open List

/-! ## what the generated guards of `_chunk_done`, the truncate and the padding expression say -/
theorem Gen.bisectKey_eq (cs ce : Nat) : Gen.bisectKey cs ce = ce + 1 := rfl
theorem Gen.stopScan_eq (fs fe cs ce : Nat) : Gen.stopScan fs fe cs ce = decide (fe < cs) := rfl
theorem Gen.partStart_eq (fs fe cs ce : Nat) : Gen.partStart fs fe cs ce = fs - cs := rfl
theorem Gen.partEnd_eq (fs fe cs ce : Nat) : Gen.partEnd fs fe cs ce = min fe ce - cs := rfl
theorem Gen.writeTruncate_eq (e o d : Nat) : Gen.writeTruncate e o d = max e (o + d) := rfl
theorem Gen.padding_lt (n a : Nat) (ha : 0 < a) : Gen.padding n a < a := by
  unfold Gen.padding; exact Nat.mod_lt _ ha

def SpansSorted (l : List Span) : Prop :=
  l.Pairwise (fun a b => a.2 ≤ b.1) ∧ ∀ a ∈ l, a.1 ≤ a.2

theorem layoutFrom_lower (align off : Nat) (sizes : List Nat) : ∀ a ∈ layoutFrom align off sizes, off ≤ a.1 ∧ a.1 ≤ a.2 := by
  fun_induction layoutFrom align off sizes with
  | case1 => exact fun _ h => nomatch h
  | case2 off n rest ih =>
    intro a ha
    rcases mem_cons.1 ha with rfl | ha
    · exact ⟨Nat.le_refl _, Nat.le_add_right _ _⟩
    · have := ih a ha
      omega

theorem layoutFrom_sorted (align off : Nat) (sizes : List Nat) : SpansSorted (layoutFrom align off sizes) := by
  refine ⟨?_, fun a ha => (layoutFrom_lower align off sizes a ha).2⟩
  fun_induction layoutFrom align off sizes with
  | case1 => exact Pairwise.nil
  | case2 off n rest ih =>
    exact pairwise_cons.2 ⟨fun b hb => Nat.le_trans (Nat.le_add_right _ _) (layoutFrom_lower _ _ _ b hb).1, ih⟩

theorem layoutFrom_length (align off : Nat) (sizes : List Nat) : (layoutFrom align off sizes).length = sizes.length := by
  fun_induction layoutFrom align off sizes with
  | case1 => rfl
  | case2 off n rest ih => exact congrArg Nat.succ ih

theorem streamOf_cons_eq (align : Nat) (b : Bytes) (rest : List Bytes) : ∃ tail, streamOf align (b :: rest) = b ++ tail := by
  cases rest with
  | nil => exact ⟨[], (append_nil b).symm⟩
  | cons g rest' => exact ⟨_, append_assoc _ _ _⟩

/-- `pre` stands for the files and paddings before the first of `files` -/
theorem streamOf_slice (align : Nat) (files : List Bytes) (i : Nat) (f : Span) (pre : Bytes)
    (hf : (layoutFrom align pre.length (files.map List.length))[i]? = some f) :
    ∃ b, files[i]? = some b ∧ slice (pre ++ streamOf align files) f.1 f.2 = b ∧
      f.2 ≤ (pre ++ streamOf align files).length := by
  induction files generalizing i pre with
  | nil => nomatch hf
  | cons b rest ih =>
    cases i with
    | zero =>
      rw [map_cons, layoutFrom, getElem?_cons_zero] at hf
      cases hf
      obtain ⟨tail, ht⟩ := streamOf_cons_eq align b rest
      rw [ht]
      refine ⟨b, rfl, ?_, ?_⟩
      · rw [slice, drop_left, Nat.add_sub_cancel_left, take_left]
      · rw [length_append, length_append]
        exact Nat.add_le_add_left (Nat.le_add_right _ _) _
    | succ i =>
      cases rest with
      | nil => nomatch hf
      | cons g rest' =>
        -- the next file starts after this one and its padding: they join the prefix
        have key : pre.length + b.length + Gen.padding b.length align
            = (pre ++ b ++ List.replicate (Gen.padding b.length align) (0 : UInt8)).length := by
          rw [length_append, length_append, length_replicate]
        rw [map_cons, layoutFrom, getElem?_cons_succ, key] at hf
        obtain ⟨b', hb', hs, hl⟩ := ih i _ hf
        rw [append_assoc, append_assoc] at hs hl
        rw [streamOf, append_assoc]
        exact ⟨b', hb', hs, hl⟩

theorem layout_file (align : Nat) (files : List Bytes) (i : Nat) (b : Bytes) (hb : files[i]? = some b) :
    (layout align (files.map List.length)).length = files.length ∧
    ∃ f, (layout align (files.map List.length))[i]? = some f ∧ f.1 ≤ f.2 ∧
      slice (streamOf align files) f.1 f.2 = b ∧ f.2 ≤ (streamOf align files).length := by
  have hl : (layout align (files.map List.length)).length = files.length := by
    rw [layout, layoutFrom_length, length_map]
  refine ⟨hl, ?_⟩
  have hf := getElem?_eq_getElem (hl ▸ (List.getElem?_eq_some_iff.mp hb).1)
  obtain ⟨b', hb', hslice, hlen⟩ := streamOf_slice align files i _ [] hf
  rw [hb] at hb'
  cases hb'
  exact ⟨_, hf, (layoutFrom_sorted align 0 _).2 _ (mem_of_getElem? hf), hslice, hlen⟩

/-! ## the `_chunk_done` loop visits exactly the overlapping files -/
theorem take_bisect (l : List Span) (k n : Nat) :
    (l.zipIdx n).take (l.takeWhile (fun f => f.1 < k)).length = (l.zipIdx n).takeWhile (fun fi => fi.1.1 < k) := by
  induction l generalizing n with
  | nil => rfl
  | cons a l ih =>
    by_cases h : a.1 < k
    · simp [h, ih]
    · simp [h]

theorem zipIdx_pairwise {α : Type} {R : α → α → Prop} {l : List α} (n : Nat) (h : l.Pairwise R) :
    (l.zipIdx n).Pairwise (fun a b => R a.1 b.1) := by
  rw [← pairwise_map (f := Prod.fst), zipIdx_map_fst]
  exact h

theorem SpansSorted.starts {l : List Span} (h : SpansSorted l) : l.Pairwise (fun a b => a.1 ≤ b.1) :=
  h.1.imp_of_mem (fun {a _} ha _ hab => Nat.le_trans (h.2 a ha) hab)

theorem SpansSorted.ends {l : List Span} (h : SpansSorted l) : l.Pairwise (fun a b => a.2 ≤ b.2) :=
  h.1.imp_of_mem (fun {_ b} _ hb hab => Nat.le_trans hab (h.2 b hb))

/-- on a sorted layout the bisect + backwards scan with early exit equals a plain filter (in reverse order) -/
theorem visited_eq_filter (files : List Span) (hs : SpansSorted files) (cs ce : Nat) :
    visited files cs ce = ((files.zipIdx).filter (fun fi => decide (fi.1.1 < ce + 1) && decide (cs ≤ fi.1.2))).reverse := by
  unfold visited bisectPoint
  rw [Gen.bisectKey_eq, take_bisect]
  -- both loops stop at the first failure; starts and ends are monotone, so neither misses anything
  rw [takeWhile_eq_filter_of_prefixClosed (fun fi : Span × Nat => decide (fi.1.1 < ce + 1))]
  · rw [takeWhile_eq_filter_of_prefixClosed]
    · rw [filter_reverse, filter_filter]
      congr 1
      apply filter_congr
      intro x _
      rw [Gen.stopScan_eq, Bool.and_comm]
      simp only [← decide_not, Nat.not_lt]
    · rw [pairwise_reverse]
      refine ((zipIdx_pairwise 0 hs.ends).sublist filter_sublist).imp ?_
      intro a b hab
      simp only [Gen.stopScan_eq, Bool.not_eq_true', decide_eq_false_iff_not, Nat.not_lt]
      exact fun h => Nat.le_trans h hab
  · refine (zipIdx_pairwise 0 hs.starts).imp ?_
    intro a b hab
    simp only [decide_eq_true_eq]
    exact fun h => Nat.lt_of_le_of_lt hab h

theorem filterMap_zipIdx_index {α β : Type} (l : List α) (i : Nat) (g : α × Nat → Option β)
    (hg : ∀ fi, fi.2 ≠ i → g fi = none) :
    l.zipIdx.filterMap g = ((l[i]?).bind (fun a => g (a, i))).toList := by
  induction l generalizing i g with
  | nil => rfl
  | cons a l ih =>
    rw [zipIdx_cons', filterMap_cons, filterMap_map]
    cases i with
    | zero =>
      have h0 : l.zipIdx.filterMap (g ∘ Prod.map id (· + 1)) = [] :=
        filterMap_eq_nil_iff.2 (fun fi _ => hg _ (Nat.succ_ne_zero fi.2))
      rw [h0, getElem?_cons_zero, Option.bind_some]
      cases g (a, 0) <;> rfl
    | succ i =>
      rw [hg (a, 0) (Nat.succ_ne_zero i).symm, ih i (g ∘ Prod.map id (· + 1)) (fun fi h => hg _ (fun e => h (Nat.succ.inj e)))]
      rfl

/-- the guards of `_chunk_done` (see `fileRefs_cons`): one reference when the ranges touch -/
def refsOf (f : Span) (j : Nat) (c : Span) : List Ref :=
  if f.1 < c.2 + 1 ∧ c.1 ≤ f.2 then [refOf f j c] else []

theorem fileRefs_cons (f : Span) (j : Nat) (c : Span) (cs : List Span) :
    fileRefs f j (c :: cs) = refsOf f j c ++ fileRefs f (j + 1) cs := by
  rw [fileRefs, refsOf]
  simp only [Gen.bisectKey_eq, Gen.stopScan_eq, Bool.not_eq_true', decide_eq_false_iff_not, Nat.not_lt]
  split <;> rfl

/-- what chunk `j` with span `c` contributes to the references of file number `i` -/
def contrib (files : List Span) (i j : Nat) (c : Span) : List Ref :=
  match files[i]? with
  | some f => refsOf f j c
  | none => []

theorem chunkDone_contrib (files : List Span) (hs : SpansSorted files) (i j : Nat) (c : Span) :
    (chunkDone files j c).filterMap (fun ir => if ir.1 = i then some ir.2 else none) = contrib files i j c := by
  unfold chunkDone contrib
  rw [visited_eq_filter files hs, map_reverse, filterMap_reverse, filterMap_map, filterMap_filter,
    filterMap_zipIdx_index files i _ (fun fi h => by simp only [Function.comp, if_neg h, ite_self])]
  cases files[i]? with
  | none => rfl
  | some f =>
    simp only [Option.bind_some, Function.comp, if_true, Bool.and_eq_true, decide_eq_true_eq, refsOf]
    split <;> rfl

def refsOfIn (recs : Records) (i : Nat) : List Ref := (lookupRec recs i).getD []

theorem refsOfIn_addRef (recs : Records) (k i : Nat) (r : Ref) :
    refsOfIn (addRef recs k r) i = if k = i then refsOfIn recs i ++ [r] else refsOfIn recs i := by
  unfold refsOfIn lookupRec addRef
  by_cases hany : recs.any (fun e => e.1 == k) = true
  · -- the key is there: `addRef` maps a function that keeps the keys, so the lookup goes through the map
    have hkey : ((fun e : Nat × List Ref => e.1 == i) ∘ fun e => if (e.1 == k) = true then (e.1, e.2 ++ [r]) else e)
        = fun e => e.1 == i := by
      funext e
      simp only [Function.comp]
      split <;> rfl
    rw [if_pos hany, find?_map, hkey]
    cases hfind : recs.find? (fun e => e.1 == i) with
    | none =>
      have hki : ¬ k = i := by
        rintro rfl
        obtain ⟨e, he, hek⟩ := any_eq_true.mp hany
        exact absurd hek (find?_eq_none.mp hfind e he)
      rw [if_neg hki]
      rfl
    | some e =>
      have hei : (e.1 == i) = true := find?_some (p := fun e : Nat × List Ref => e.1 == i) hfind
      have hei : e.1 = i := beq_iff_eq.mp hei
      subst hei
      by_cases hki : k = e.1
      · simp [hki]
      · have : ¬ e.1 = k := fun h => hki h.symm
        simp [hki, this]
  · rw [if_neg hany, find?_append]
    by_cases hki : k = i
    · subst hki
      have : recs.find? (fun e => e.1 == k) = none :=
        find?_eq_none.mpr (fun x hx hxk => hany (any_eq_true.mpr ⟨x, hx, hxk⟩))
      simp [this]
    · cases h : recs.find? (fun e => e.1 == i) <;> simp [hki]

theorem refsOfIn_foldl_addRef (recs : Records) (l : List (Nat × Ref)) (i : Nat) :
    refsOfIn (l.foldl (fun rs ir => addRef rs ir.1 ir.2) recs) i
      = refsOfIn recs i ++ l.filterMap (fun ir => if ir.1 = i then some ir.2 else none) := by
  induction l generalizing recs with
  | nil => simp
  | cons ir l ih =>
    rw [foldl_cons, filterMap_cons, ih, refsOfIn_addRef]
    by_cases h : ir.1 = i
    · simp only [h, if_true, append_assoc, singleton_append]
    · simp only [h, if_false]

/-- contribution of chunk `j` (by position in `spans`) to file `i` -/
def contribAt (files spans : List Span) (i j : Nat) : List Ref :=
  match spans[j]? with
  | none => []
  | some c => contrib files i j c

/-- `view j` is the `state.files` that `_chunk_done` sees when it runs for chunk `j` -/
theorem refsOfIn_foldl_applyDone (view : Nat → List Span) (spans : List Span) (order : List Nat)
    (hs : ∀ j ∈ order, SpansSorted (view j)) (i : Nat) (recs : Records) :
    refsOfIn (order.foldl (fun recs j => applyDone (view j) spans recs j) recs) i
      = refsOfIn recs i ++ order.flatMap (fun j => contribAt (view j) spans i j) := by
  induction order generalizing recs with
  | nil => simp
  | cons j order ih =>
    rw [foldl_cons, flatMap_cons, ih (fun j' hj' => hs j' (mem_cons_of_mem _ hj'))]
    unfold applyDone contribAt
    cases spans[j]? with
    | none => simp
    | some c => rw [refsOfIn_foldl_addRef, chunkDone_contrib _ (hs j mem_cons_self), append_assoc]

theorem fileRefs_eq_range_flatMap (f : Span) (j0 : Nat) (cs : List Span) :
    fileRefs f j0 cs
      = (List.range cs.length).flatMap (fun k => match cs[k]? with | some c => refsOf f (j0 + k) c | none => []) := by
  induction cs generalizing j0 with
  | nil => rfl
  | cons c cs ih =>
    rw [fileRefs_cons, ih, length_cons, range_succ_eq_map, flatMap_cons, flatMap_map]
    simp only [getElem?_cons_zero, Nat.add_zero, Nat.succ_eq_add_one, getElem?_cons_succ, Nat.add_right_comm j0 1]
    rfl

theorem flatMap_contribAt_range (files spans : List Span) (i : Nat) (f : Span) (hf : files[i]? = some f) :
    (List.range spans.length).flatMap (contribAt files spans i) = fileRefs f 0 spans := by
  rw [fileRefs_eq_range_flatMap]
  congr 1
  funext j
  unfold contribAt contrib
  rw [hf, Nat.zero_add]
  cases spans[j]? <;> rfl

end Replicat
