import ReplicatModel.RateLimit
/-!
Every call through the limiter pays for its bytes with an increase of a potential (`Good.pot`); when the wall time
between two lock releases covers latency and sleep of the call (`Tight`: one thread, or no latency) the potential is
`L · (tRel + debt)`, and along such a chain the bytes with potential in `[A, B]` are at most `B − A + dmax` (`chain_window`).

Rational arithmetic goes through the order lemmas of `Rat`: `grind` is slow to check on these goals and is left
for a few linear identities with many terms.
-/
namespace Replicat.RateLimit
open Replicat

/-! ### facts about the extracted constants (re-proved about whatever the source currently says) -/
theorem thr_nonneg : 0 ≤ Gen.pauseThreshold := by decide +kernel
theorem headroom : Gen.pauseThreshold + 1 / 4 ≤ Gen.pauseLimit := by decide +kernel
theorem divisor_ge_four : 4 ≤ Gen.rateDivisor := by decide

theorem le_max_left (a b : Rat) : a ≤ max a b := by
  rw [Rat.max_def]
  split
  · assumption
  · exact Rat.le_refl

theorem le_max_right (a b : Rat) : b ≤ max a b := by
  rw [Rat.max_def]
  split
  · exact Rat.le_refl
  · exact Rat.le_of_lt (Rat.not_le.mp ‹_›)

theorem max_le {a b c : Rat} (h1 : a ≤ c) (h2 : b ≤ c) : max a b ≤ c := by
  rw [Rat.max_def]
  split
  · exact h2
  · exact h1

theorem max_eq_left {a b : Rat} (h : b ≤ a) : max a b = a :=
  Rat.le_antisymm (max_le Rat.le_refl h) (le_max_left a b)

theorem le_add_of_nonneg (a : Rat) {b : Rat} (h : 0 ≤ b) : a ≤ a + b := by
  simpa only [Rat.add_zero] using Rat.add_le_add_left (c := a).mpr h

theorem neg_nonpos {a : Rat} (h : 0 ≤ a) : -a ≤ 0 :=
  Rat.neg_le_iff.mpr (Rat.neg_zero ▸ h)

theorem mul_sub (a b c : Rat) : a * (b - c) = a * b - a * c := by
  rw [Rat.sub_eq_add_neg, Rat.mul_add, Rat.mul_neg, ← Rat.sub_eq_add_neg]

theorem mul_div_cancel' (L : Rat) (hL : 0 < L) (x : Rat) : L * (x / L) = x := by
  rw [Rat.mul_comm]
  exact Rat.div_mul_cancel (Rat.ne_of_gt hL)

theorem div_nonneg' {x L : Rat} (hx : 0 ≤ x) (hL : 0 < L) : 0 ≤ x / L := by
  rw [Rat.div_def]
  exact Rat.mul_nonneg hx (Rat.le_of_lt (Rat.inv_pos.mpr hL))

theorem div_le_quarter (L : Rat) (hL : 0 < L) (b : Nat) (hb : 4 * (b : Rat) ≤ L) : (b : Rat) / L ≤ 1 / 4 := by
  rw [← Rat.not_lt, Rat.lt_div_iff hL]
  intro h
  have := Rat.mul_lt_mul_of_pos_left h (show (0 : Rat) < 4 by decide +kernel)
  rw [← Rat.mul_assoc, show (4 : Rat) * (1 / 4) = 1 by decide +kernel, Rat.one_mul] at this
  exact Rat.not_le.mpr this hb

theorem le_ceil_toNat (B : Rat) : B ≤ (B.ceil.toNat : Rat) :=
  Rat.le_trans Rat.le_ceil (Rat.intCast_natCast _ ▸ Rat.intCast_le_intCast.mpr (Int.self_le_toNat _))

theorem owed_nonneg (L : Rat) (b : Nat) (el : Rat) : 0 ≤ owed L b el := le_max_right _ _
theorem owed_ge (L : Rat) (b : Nat) (el : Rat) : (b : Rat) / L - el ≤ owed L b el := le_max_left _ _

theorem bytes_le (L : Rat) (hL : 0 < L) (b : Nat) (el : Rat) : (b : Rat) ≤ L * (el + owed L b el) := by
  have h := Rat.mul_le_mul_of_nonneg_left (Rat.sub_right_le_iff_le_add.mp (owed_ge L b el)) (Rat.le_of_lt hL)
  rwa [mul_div_cancel' L hL, Rat.add_comm] at h

theorem owed_le_div (L : Rat) (hL : 0 < L) (b : Nat) (el : Rat) (hel : 0 ≤ el) : owed L b el ≤ (b : Rat) / L :=
  max_le (Rat.sub_right_le_iff_le_add.mpr (le_add_of_nonneg _ hel)) (div_nonneg' Rat.natCast_nonneg hL)

theorem mul_owed_le (L : Rat) (hL : 0 < L) (b : Nat) (el : Rat) (hel : 0 ≤ el) : L * owed L b el ≤ b := by
  have h := Rat.mul_le_mul_of_nonneg_left (owed_le_div L hL b el hel) (Rat.le_of_lt hL)
  rwa [mul_div_cancel' L hL] at h

theorem pause_balance (debt sec ov : Rat) :
    (pause debt sec ov).debt + (pause debt sec ov).slept + (pause debt sec ov).forgiven = debt + sec ∧
    0 ≤ (pause debt sec ov).forgiven := by
  have hc : (if debt + sec > Gen.pauseLimit then Gen.pauseLimit else debt + sec) ≤ debt + sec := by
    split
    · exact Rat.le_of_lt ‹_›
    · exact Rat.le_refl
  simp only [pause]
  generalize (if debt + sec > Gen.pauseLimit then Gen.pauseLimit else debt + sec) = c at hc ⊢
  split
  · exact ⟨by rw [Rat.add_zero, Rat.add_comm, Rat.sub_add_cancel], (Rat.le_iff_sub_nonneg _ _).mp hc⟩
  · exact ⟨by rw [Rat.sub_add_cancel, Rat.add_comm, Rat.sub_add_cancel], (Rat.le_iff_sub_nonneg _ _).mp hc⟩

/-- a sleep is only entered with a debt above the (non-negative) threshold -/
theorem pause_slept_nonneg (debt sec : Rat) {ov : Rat} (hov : 0 ≤ ov) : 0 ≤ (pause debt sec ov).slept := by
  simp only [pause]
  generalize (if debt + sec > Gen.pauseLimit then Gen.pauseLimit else debt + sec) = c
  split
  · exact Rat.le_refl
  · next h => exact Rat.add_nonneg (Rat.le_trans thr_nonneg (Rat.le_of_lt (Rat.not_le.mp h))) hov

theorem pause_uncapped (debt sec ov : Rat) (h : debt + sec ≤ Gen.pauseLimit) :
    pause debt sec ov =
      if debt + sec ≤ Gen.pauseThreshold then ⟨debt + sec, 0, 0⟩ else ⟨-ov, debt + sec + ov, 0⟩ := by
  have e : debt + sec - (debt + sec + ov) = -ov := by
    rw [Rat.sub_eq_add_neg, Rat.neg_add, ← Rat.add_assoc, Rat.add_neg_cancel, Rat.zero_add]
  simp only [pause, Rat.not_lt.mpr h, if_false, Rat.sub_self, e]

theorem pause_spec (debt sec ov eps : Rat) (hlo : -eps ≤ debt) (hd : debt ≤ Gen.pauseThreshold) (h0 : 0 ≤ sec)
    (hq : sec ≤ 1 / 4) (hov : 0 ≤ ov) (hove : ov ≤ eps) :
    (pause debt sec ov).forgiven = 0 ∧
    (pause debt sec ov).debt + (pause debt sec ov).slept = debt + sec ∧
    -eps ≤ (pause debt sec ov).debt ∧
    (pause debt sec ov).debt ≤ Gen.pauseThreshold := by
  rw [pause_uncapped debt sec ov (Rat.le_trans (Lean.Grind.OrderedAdd.add_le_add hd hq) headroom)]
  split
  · next h =>
    exact ⟨rfl, Rat.add_zero _, Rat.le_trans hlo (le_add_of_nonneg debt h0), h⟩
  · refine ⟨rfl, ?_, Rat.neg_le_neg hove, Rat.le_trans (neg_nonpos hov) thr_nonneg⟩
    rw [Rat.add_comm, Rat.add_assoc, Rat.add_neg_cancel, Rat.add_zero]

/-- what the property quantifies over: requests of at most a quarter of the limit, no negative durations,
`time.sleep` oversleeps by at most `eps` -/
def EvOk (L eps : Rat) (dmax : Nat) : Ev → Prop
  | .io _ b lat ov => 4 * (b : Rat) ≤ L ∧ b ≤ dmax ∧ 0 ≤ lat ∧ 0 ≤ ov ∧ ov ≤ eps
  | .idle _ dt => 0 ≤ dt

def Ev.stream : Ev → Nat
  | .io i _ _ _ => i
  | .idle i _ => i

def Ev.lat : Ev → Rat
  | .io _ _ lat _ => lat
  | .idle _ _ => 0

/-- the debt at rest stays in `[-eps, threshold]` -/
def Inv (eps : Rat) (s : St) : Prop := -eps ≤ s.debt ∧ s.debt ≤ Gen.pauseThreshold

/-- local facts of an observation; `d0`, `l0` = debt and last lock release before the call -/
structure Good (L eps : Rat) (dmax : Nat) (d0 l0 : Rat) (o : Obs) : Prop where
  pot : (o.bytes : Rat) ≤ L * (o.lat + o.slept + o.debt - d0)
  debt_lo : -eps ≤ o.debt
  debt_hi : o.debt ≤ Gen.pauseThreshold
  pre_hi : L * (o.debt + o.slept) ≤ L * Gen.pauseThreshold + dmax
  acq : l0 ≤ o.tAcq
  pre : o.tPre ≤ o.tAcq
  rel : o.tRel = o.tAcq + o.slept
  slept_nonneg : 0 ≤ o.slept
  forgiven : o.forgiven = 0
  small : o.bytes ≤ dmax
  lat_nonneg : 0 ≤ o.lat

def GoodTrace (L eps : Rat) (dmax : Nat) : Rat → Rat → List Obs → Prop
  | _, _, [] => True
  | d0, l0, o :: r => Good L eps dmax d0 l0 o ∧ GoodTrace L eps dmax o.debt o.tRel r

/-- the time between two lock releases covers the latency of the call -/
def Tight : Rat → List Obs → Prop
  | _, [] => True
  | l0, o :: r => l0 + o.lat ≤ o.tAcq ∧ Tight o.tRel r

variable {L eps : Rat} {dmax : Nat} {d0 l0 : Rat}

theorem Good.acq_le_rel {o : Obs} (g : Good L eps dmax d0 l0 o) : o.tAcq ≤ o.tRel :=
  g.rel ▸ le_add_of_nonneg _ g.slept_nonneg

theorem upd_same (f : Nat → Rat) (i : Nat) (v : Rat) : upd f i v i = v := if_pos rfl

theorem le_upd (f : Nat → Rat) (i : Nat) {v : Rat} (h : f i ≤ v) (j : Nat) : f j ≤ upd f i v j := by
  unfold upd
  split
  · next e => exact e ▸ h
  · exact Rat.le_refl

theorem upd_other (f : Nat → Rat) {i j : Nat} (v : Rat) (h : j ≠ i) : upd f i v j = f j := if_neg h

theorem upd_le (f : Nat → Rat) (i : Nat) {v c : Rat} (hv : v ≤ c) (hf : ∀ j, f j ≤ c) (j : Nat) : upd f i v j ≤ c := by
  unfold upd
  split
  · exact hv
  · exact hf j

theorem inv_init (eps : Rat) (heps : 0 ≤ eps) (t0 : Rat) : Inv eps (St.init t0) :=
  ⟨neg_nonpos heps, thr_nonneg⟩

theorem step_io_good (hL : 0 < L) (s : St) (i b : Nat) (lat ov : Rat)
    (he : EvOk L eps dmax (.io i b lat ov)) (hs : Inv eps s) {o : Obs} (ho : (step L s (.io i b lat ov)).2 = some o) :
    Good L eps dmax s.debt s.lockFree o := by
  obtain ⟨hb, hbd, hlat, hov, hove⟩ := he
  obtain ⟨hlo, hhi⟩ := hs
  obtain ⟨p1, p2, p3, p4⟩ := pause_spec s.debt (owed L b lat) ov eps hlo hhi (owed_nonneg L b lat)
    (Rat.le_trans (owed_le_div L hL b lat hlat) (div_le_quarter L hL b hb)) hov hove
  obtain rfl := Option.some.inj ho
  refine ⟨?_, p3, p4, ?_, le_max_right _ _, le_max_left _ _, rfl, pause_slept_nonneg _ _ hov, p1, hbd, hlat⟩
  · dsimp only
    rw [Rat.add_assoc, Rat.add_comm (pause _ _ _).slept, p2, Rat.add_comm s.debt, ← Rat.add_assoc, Rat.add_sub_cancel]
    exact bytes_le L hL b lat
  · dsimp only
    rw [p2, Rat.mul_add]
    exact Lean.Grind.OrderedAdd.add_le_add (Rat.mul_le_mul_of_nonneg_left hhi (Rat.le_of_lt hL))
      (Rat.le_trans (mul_owed_le L hL b lat hlat) (Rat.natCast_le_natCast.mpr hbd))

theorem run_cons (L : Rat) (s : St) (e : Ev) (es : List Ev) :
    run L s (e :: es) = ((run L (step L s e).1 es).1, (step L s e).2.toList ++ (run L (step L s e).1 es).2) := rfl

theorem run_append (L : Rat) (s : St) (e1 e2 : List Ev) :
    run L s (e1 ++ e2) = ((run L (run L s e1).1 e2).1, (run L s e1).2 ++ (run L (run L s e1).1 e2).2) := by
  induction e1 generalizing s with
  | nil => rfl
  | cons e es ih => simp only [List.cons_append, run_cons, ih, List.append_assoc]

theorem run_good (hL : 0 < L) (evs : List Ev) (s : St)
    (hev : ∀ e ∈ evs, EvOk L eps dmax e) (hs : Inv eps s) :
    GoodTrace L eps dmax s.debt s.lockFree (run L s evs).2 ∧ Inv eps (run L s evs).1 := by
  induction evs generalizing s with
  | nil => exact ⟨trivial, hs⟩
  | cons e es ih =>
    obtain ⟨he, hes⟩ := List.forall_mem_cons.mp hev
    cases e with
    | idle i dt => exact ih ⟨s.debt, s.lockFree, upd s.clk i (s.clk i + dt)⟩ hes hs
    | io i b lat ov =>
      have hg := step_io_good hL s i b lat ov he hs rfl
      have := ih (step L s (.io i b lat ov)).1 hes ⟨hg.debt_lo, hg.debt_hi⟩
      exact ⟨⟨hg, this.1⟩, this.2⟩

theorem run_tight_zero_lat (L : Rat) (evs : List Ev) (s : St) (h0 : ∀ e ∈ evs, e.lat = 0) :
    Tight s.lockFree (run L s evs).2 := by
  induction evs generalizing s with
  | nil => trivial
  | cons e es ih =>
    obtain ⟨he, hes⟩ := List.forall_mem_cons.mp h0
    cases e with
    | idle i dt => exact ih ⟨s.debt, s.lockFree, upd s.clk i (s.clk i + dt)⟩ hes
    | io i b lat ov =>
      obtain rfl : lat = 0 := he
      exact ⟨(Rat.add_zero _).symm ▸ le_max_right _ _, ih (step L s (.io i b 0 ov)).1 hes⟩

theorem run_tight_single (i : Nat) (evs : List Ev) (s : St) (h1 : ∀ e ∈ evs, e.stream = i)
    (hev : ∀ e ∈ evs, EvOk L eps dmax e) (hs : s.lockFree ≤ s.clk i) :
    Tight s.lockFree (run L s evs).2 ∧ ∀ o ∈ (run L s evs).2, o.tPre = o.tAcq := by
  induction evs generalizing s with
  | nil => exact ⟨trivial, fun _ h => absurd h List.not_mem_nil⟩
  | cons e es ih =>
    obtain ⟨h1e, h1s⟩ := List.forall_mem_cons.mp h1
    obtain ⟨he, hes⟩ := List.forall_mem_cons.mp hev
    cases e with
    | idle j dt =>
      obtain rfl : j = i := h1e
      have hd : 0 ≤ dt := he
      exact ih ⟨s.debt, s.lockFree, upd s.clk j (s.clk j + dt)⟩ h1s hes
        (Rat.le_trans hs (le_upd s.clk j (le_add_of_nonneg _ hd) j))
    | io j b lat ov =>
      obtain rfl : j = i := h1e
      have hpre := Rat.le_trans hs (le_add_of_nonneg _ he.2.2.1)
      have := ih (step L s (.io j b lat ov)).1 h1s hes (show _ ≤ upd s.clk j _ j from upd_same s.clk j _ ▸ Rat.le_refl)
      exact ⟨⟨Rat.le_trans (Rat.add_le_add_right.mpr hs) (le_max_left _ _), this.1⟩,
        List.forall_mem_cons.mpr ⟨(max_eq_left hpre).symm, this.2⟩⟩

theorem sumBytes_cons (o : Obs) (l : List Obs) : sumBytes (o :: l) = o.bytes + sumBytes l := rfl
theorem sumLat_cons (o : Obs) (l : List Obs) : sumLat (o :: l) = o.lat + sumLat l := rfl
theorem sumSlept_cons (o : Obs) (l : List Obs) : sumSlept (o :: l) = o.slept + sumSlept l := rfl
theorem sumBytes_nil : sumBytes [] = 0 := rfl

theorem sumBytes_append (a b : List Obs) : sumBytes (a ++ b) = sumBytes a + sumBytes b := by
  induction a with
  | nil => exact (Rat.zero_add _).symm
  | cons o l ih => rw [List.cons_append, sumBytes_cons, sumBytes_cons, ih, Rat.add_assoc]

theorem sumBytes_nonneg (l : List Obs) : 0 ≤ sumBytes l := by
  induction l with
  | nil => exact Rat.le_refl
  | cons o l ih => exact Rat.add_nonneg Rat.natCast_nonneg ih

theorem sumBytes_filter_cons (p : Obs → Bool) (o : Obs) (l : List Obs) :
    sumBytes ((o :: l).filter p) = (if p o then (o.bytes : Rat) else 0) + sumBytes (l.filter p) := by
  rw [List.filter_cons]
  split
  · rfl
  · exact (Rat.zero_add _).symm

theorem winBytes_nil (τ : Obs → Rat) (a b : Rat) : winBytes τ a b [] = 0 := rfl

theorem winBytes_cons (τ : Obs → Rat) (a b : Rat) (o : Obs) (l : List Obs) :
    winBytes τ a b (o :: l) = (if a ≤ τ o ∧ τ o ≤ b then (o.bytes : Rat) else 0) + winBytes τ a b l := by
  simp only [winBytes, sumBytes_filter_cons, Bool.and_eq_true, decide_eq_true_eq]

/-- if every observation lies in the window, the window carries all bytes -/
theorem winBytes_all (τ : Obs → Rat) (a b : Rat) (l : List Obs) (h : ∀ o ∈ l, a ≤ τ o ∧ τ o ≤ b) :
    winBytes τ a b l = sumBytes l := by
  unfold winBytes
  rw [List.filter_eq_self.mpr fun o ho => by simpa only [Bool.and_eq_true, decide_eq_true_eq] using h o ho]

theorem sumBytes_filter_le (p q r : Obs → Bool) (l : List Obs) (h : ∀ o ∈ l, p o = true → q o = true ∨ r o = true) :
    sumBytes (l.filter p) ≤ sumBytes (l.filter q) + sumBytes (l.filter r) := by
  induction l with
  | nil => exact Rat.add_nonneg Rat.le_refl Rat.le_refl
  | cons o l ih =>
    have hl := ih (fun x hx => h x (List.mem_cons_of_mem _ hx))
    have hn : ∀ c : Bool, (0 : Rat) ≤ if c then (o.bytes : Rat) else 0 := fun c => by
      cases c
      · exact Rat.le_refl
      · exact Rat.natCast_nonneg
    have ho : (if p o then (o.bytes : Rat) else 0) ≤ (if q o then (o.bytes : Rat) else 0) + (if r o then (o.bytes : Rat) else 0) := by
      cases hp : p o
      · exact Rat.add_nonneg (hn _) (hn _)
      · rcases h o List.mem_cons_self hp with h' | h'
        · rw [h']
          exact le_add_of_nonneg _ (hn _)
        · rw [h', Rat.add_comm]
          exact le_add_of_nonneg _ (hn _)
    rw [sumBytes_filter_cons, sumBytes_filter_cons, sumBytes_filter_cons, Rat.add_assoc, Rat.add_left_comm (sumBytes _),
      ← Rat.add_assoc]
    exact Lean.Grind.OrderedAdd.add_le_add ho hl

def Chain (Φ : Obs → Rat) : Rat → List Obs → Prop
  | _, [] => True
  | p, o :: r => p + o.bytes ≤ Φ o ∧ Chain Φ (Φ o) r

theorem Chain.le_head {Φ : Obs → Rat} {p : Rat} {o : Obs} {r : List Obs} (h : Chain Φ p (o :: r)) : p ≤ Φ o :=
  Rat.le_trans (le_add_of_nonneg p Rat.natCast_nonneg) h.1

theorem Chain.weaken {Φ : Obs → Rat} {p p' : Rat} (hp : p' ≤ p) : ∀ {l : List Obs}, Chain Φ p l → Chain Φ p' l
  | [], _ => trivial
  | _ :: _, h => ⟨Rat.le_trans (Rat.add_le_add_right.mpr hp) h.1, h.2⟩

theorem Chain.filter {Φ : Obs → Rat} (q : Obs → Bool) {p : Rat} {l : List Obs} (h : Chain Φ p l) :
    Chain Φ p (l.filter q) := by
  induction l generalizing p with
  | nil => trivial
  | cons o r ih =>
    rw [List.filter_cons]
    split
    · exact ⟨h.1, ih h.2⟩
    · exact ih (h.2.weaken h.le_head)

theorem chain_sum {Φ : Obs → Rat} {B p : Rat} {l : List Obs} (hc : Chain Φ p l) (hB : ∀ o ∈ l, Φ o ≤ B) (hp : p ≤ B) :
    p + sumBytes l ≤ B := by
  induction l generalizing p with
  | nil => rwa [sumBytes_nil, Rat.add_zero]
  | cons o r ih =>
    rw [sumBytes_cons, ← Rat.add_assoc]
    exact Rat.le_trans (Rat.add_le_add_right.mpr hc.1)
      (ih hc.2 (fun x hx => hB x (List.mem_cons_of_mem _ hx)) (hB o List.mem_cons_self))

/-- **window of a chain**: the observations whose potential lies in `[A, B]` are a chain of their own; the first is at
most `dmax`, the others are paid for by the increase of the potential from the first to `B` -/
theorem chain_window {Φ : Obs → Rat} {A B p : Rat} {l : List Obs} (dmax : Nat) (hc : Chain Φ p l)
    (hsm : ∀ o ∈ l, o.bytes ≤ dmax) (hAB : A ≤ B) : winBytes Φ A B l ≤ B - A + dmax := by
  unfold winBytes
  have hf := hc.filter (fun o => decide (A ≤ Φ o) && decide (Φ o ≤ B))
  have hin : ∀ o ∈ l.filter (fun o => decide (A ≤ Φ o) && decide (Φ o ≤ B)), o.bytes ≤ dmax ∧ A ≤ Φ o ∧ Φ o ≤ B := by
    intro o ho
    have := List.mem_filter.mp ho
    simpa only [Bool.and_eq_true, decide_eq_true_eq] using And.intro (hsm o this.1) this.2
  generalize l.filter (fun o => decide (A ≤ Φ o) && decide (Φ o ≤ B)) = w at hf hin
  cases w with
  | nil => exact Rat.add_nonneg ((Rat.le_iff_sub_nonneg _ _).mp hAB) Rat.natCast_nonneg
  | cons o r =>
    have ho := hin o List.mem_cons_self
    have hr := chain_sum hf.2 (fun x hx => (hin x (List.mem_cons_of_mem _ hx)).2.2) ho.2.2
    have hA : sumBytes r + A ≤ B := by
      rw [Rat.add_comm]
      exact Rat.le_trans (Rat.add_le_add_right.mpr ho.2.1) hr
    rw [sumBytes_cons, Rat.add_comm]
    exact Lean.Grind.OrderedAdd.add_le_add (Rat.le_sub_iff.mpr hA) (Rat.natCast_le_natCast.mpr ho.1)

theorem winBytes_le_winBytes (τ τ' : Obs → Rat) (a b a' b' : Rat) (l : List Obs)
    (h : ∀ o ∈ l, a ≤ τ o → τ o ≤ b → a' ≤ τ' o ∧ τ' o ≤ b') : winBytes τ a b l ≤ winBytes τ' a' b' l := by
  have := sumBytes_filter_le (fun o => decide (a ≤ τ o) && decide (τ o ≤ b))
    (fun o => decide (a' ≤ τ' o) && decide (τ' o ≤ b')) (fun _ => false) l (fun o ho hp => by
      simp only [Bool.and_eq_true, decide_eq_true_eq] at hp ⊢
      exact .inl (h o ho hp.1 hp.2))
  rwa [List.filter_eq_nil_iff.mpr fun _ _ => Bool.false_ne_true, sumBytes_nil, Rat.add_zero] at this

/-- **window bound from a potential chain**: `Ψ` is the potential in seconds (`Φ = L · Ψ`), and stays within
`[τ − lo, τ + hi]` of the time stamp `τ` the window is taken in; no order of the `τ` is needed -/
theorem window_of_chain (hL : 0 < L) (Ψ τ : Obs → Rat) (lo hi : Rat) {a b p : Rat} {l : List Obs}
    (hab : a ≤ b) (hlohi : -lo ≤ hi) (hc : Chain (fun o => L * Ψ o) p l)
    (h : ∀ o ∈ l, Ψ o ≤ τ o + hi ∧ τ o + -lo ≤ Ψ o ∧ o.bytes ≤ dmax) :
    winBytes τ a b l ≤ L * (b - a) + (L * (hi + lo) + dmax) := by
  have hL' := Rat.le_of_lt hL
  have h1 : winBytes τ a b l ≤ winBytes (fun o => L * Ψ o) (L * (a + -lo)) (L * (b + hi)) l :=
    winBytes_le_winBytes _ _ _ _ _ _ _ fun o ho ha hb =>
      ⟨Rat.mul_le_mul_of_nonneg_left (Rat.le_trans (Rat.add_le_add_right.mpr ha) (h o ho).2.1) hL',
       Rat.mul_le_mul_of_nonneg_left (Rat.le_trans (h o ho).1 (Rat.add_le_add_right.mpr hb)) hL'⟩
  have h2 := chain_window dmax hc (fun o ho => (h o ho).2.2)
    (Rat.mul_le_mul_of_nonneg_left (Lean.Grind.OrderedAdd.add_le_add hab hlohi) hL')
  have e : b + hi - (a + -lo) = b - a + (hi + lo) := by
    rw [Rat.sub_eq_add_neg, Rat.neg_add, Rat.neg_neg, Rat.add_assoc b, Rat.add_left_comm hi, ← Rat.add_assoc, ← Rat.sub_eq_add_neg]
  rw [← mul_sub, e, Rat.mul_add L (b - a), Rat.add_assoc] at h2
  exact Rat.le_trans h1 h2

variable {l : List Obs}

theorem good_forall {P : Obs → Prop} (hg : GoodTrace L eps dmax d0 l0 l)
    (h : ∀ {d l' o}, Good L eps dmax d l' o → P o) : ∀ o ∈ l, P o := by
  induction l generalizing d0 l0 with
  | nil => exact fun _ h => absurd h List.not_mem_nil
  | cons o r ih => exact List.forall_mem_cons.mpr ⟨h hg.1, ih hg.2⟩

theorem chain_of_good (hL : 0 < L) (hg : GoodTrace L eps dmax d0 l0 l) (ht : Tight l0 l) :
    Chain (fun o => L * (o.tRel + o.debt)) (L * (l0 + d0)) l := by
  induction l generalizing d0 l0 with
  | nil => trivial
  | cons o r ih =>
    refine ⟨?_, ih hg.2 ht.2⟩
    have h : l0 + d0 + (o.lat + o.slept + o.debt - d0) ≤ o.tRel + o.debt := by
      have := ht.1
      rw [hg.1.rel]
      grind only
    refine Rat.le_trans (Rat.add_le_add_left.mpr hg.1.pot) ?_
    rw [← Rat.mul_add]
    exact Rat.mul_le_mul_of_nonneg_left h (Rat.le_of_lt hL)

theorem general_sum (hL : 0 < L) (hg : GoodTrace L eps dmax d0 l0 l) (hd0 : d0 ≤ Gen.pauseThreshold) :
    sumBytes l ≤ L * (sumLat l + sumSlept l) + L * (Gen.pauseThreshold - d0) := by
  have hL' := Rat.le_of_lt hL
  induction l generalizing d0 l0 with
  | nil =>
    exact Rat.add_nonneg (Rat.mul_nonneg hL' (Rat.add_nonneg Rat.le_refl Rat.le_refl))
      (Rat.mul_nonneg hL' ((Rat.le_iff_sub_nonneg _ _).mp hd0))
  | cons o r ih =>
    have h := Lean.Grind.OrderedAdd.add_le_add hg.1.pot (ih hg.2 hg.1.debt_hi)
    have e : o.lat + o.slept + o.debt - d0 + (sumLat r + sumSlept r + (Gen.pauseThreshold - o.debt)) =
        o.lat + sumLat r + (o.slept + sumSlept r) + (Gen.pauseThreshold - d0) := by grind only
    rwa [← Rat.mul_add, ← Rat.mul_add, e, Rat.mul_add] at h

theorem window_rel_of_good (hL : 0 < L) (hg : GoodTrace L eps dmax d0 l0 l) (ht : Tight l0 l) (heps : 0 ≤ eps)
    {a b : Rat} (hab : a ≤ b) :
    winBytes (·.tRel) a b l ≤ L * (b - a) + burst L eps dmax :=
  window_of_chain hL (fun o => o.tRel + o.debt) (·.tRel) eps Gen.pauseThreshold hab
    (Rat.le_trans (neg_nonpos heps) thr_nonneg) (chain_of_good hL hg ht) <| good_forall hg fun g =>
      ⟨Rat.add_le_add_left.mpr g.debt_hi, Rat.add_le_add_left.mpr g.debt_lo, g.small⟩

/-- time stamp = the moment the pause section is entered (for a single thread that is the moment the bytes cross
the underlying stream): the sleep of the call lies after the stamp, `L · (debt + slept) ≤ L · threshold + dmax` -/
theorem window_acq_of_good (hL : 0 < L) (hg : GoodTrace L eps dmax d0 l0 l) (ht : Tight l0 l) (heps : 0 ≤ eps)
    {a b : Rat} (hab : a ≤ b) :
    winBytes (·.tAcq) a b l ≤ L * (b - a) + burstPre L eps dmax := by
  have hc := mul_div_cancel' L hL dmax
  have := window_of_chain hL (fun o => o.tRel + o.debt) (·.tAcq) eps (Gen.pauseThreshold + (dmax : Rat) / L) hab
    (Rat.le_trans (neg_nonpos heps) (Rat.add_nonneg thr_nonneg (div_nonneg' Rat.natCast_nonneg hL)))
    (chain_of_good hL hg ht) <| good_forall hg fun {_ _ o} g => by
      have h := g.pre_hi
      rw [← hc, ← Rat.mul_add] at h
      rw [g.rel, Rat.add_assoc, Rat.add_comm o.slept]
      refine ⟨Rat.add_le_add_left.mpr (Rat.le_of_mul_le_mul_left h hL), ?_, g.small⟩
      rw [Rat.add_comm o.debt]
      exact Rat.add_le_add_left.mpr (Rat.zero_add (-eps) ▸ Lean.Grind.OrderedAdd.add_le_add g.slept_nonneg g.debt_lo)
  unfold burstPre
  rw [Rat.add_assoc Gen.pauseThreshold, Rat.add_comm (_ / L), ← Rat.add_assoc Gen.pauseThreshold, Rat.mul_add, hc,
    Rat.add_assoc] at this
  rwa [show (2 : Rat) = 1 + 1 by decide +kernel, Rat.add_mul, Rat.one_mul]

end Replicat.RateLimit
