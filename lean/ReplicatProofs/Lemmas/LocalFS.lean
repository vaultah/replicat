import ReplicatModel.LocalFS
import ReplicatProofs.Lemmas.Store
import Mathlib.Data.List.Nodup
/-! Lemmas for C13: `splitSlash` and `joinSlash` are inverse to each other, `Path(s)` of a canonical name, and what the flat
file-system model maintains over a prefix-free universe of names (`Universe`, `Inv`). -/
namespace Replicat.LocalFS
open Replicat Replicat.Store

theorem splitSlash_eq (s : List Char) : splitSlash s = s.splitOn '/' := by
  induction s with
  | nil => rfl
  | cons c cs ih =>
    rw [splitSlash, List.splitOn_cons_eq_if_modifyHead, ih]
    simp only [beq_iff_eq]
    cases hs : List.splitOn '/' cs with
    | nil => exact absurd hs (List.splitOn_ne_nil '/' cs)
    | cons w ws => rfl

theorem joinSlash_eq (p : List (List Char)) : joinSlash p = ['/'].intercalate p := by
  induction p with
  | nil => rfl
  | cons s ss ih =>
    cases ss with
    | nil => exact List.intercalate_singleton.symm
    | cons t ts => rw [joinSlash, ih, List.intercalate_cons_cons, List.append_assoc, List.singleton_append]

theorem splitSlash_cons_slash (cs : List Char) : splitSlash ('/' :: cs) = [] :: splitSlash cs := by
  rw [splitSlash, if_pos rfl]

theorem splitSlash_ne_nil (s : List Char) : splitSlash s ≠ [] :=
  splitSlash_eq s ▸ List.splitOn_ne_nil '/' s

theorem splitSlash_eq_head_tail (cs : List Char) :
    splitSlash cs = (splitSlash cs).headD [] :: (splitSlash cs).tail := by
  cases hs : splitSlash cs with
  | nil => exact absurd hs (splitSlash_ne_nil cs)
  | cons s ss => rfl

theorem splitSlash_cons_ne (c : Char) (hc : c ≠ '/') (cs : List Char) :
    splitSlash (c :: cs) = (c :: (splitSlash cs).headD []) :: (splitSlash cs).tail := by
  rw [splitSlash, if_neg hc]
  cases splitSlash cs <;> rfl

theorem splitSlash_append_noslash (a t : List Char) (ha : '/' ∉ a) :
    splitSlash (a ++ t) = (a ++ (splitSlash t).headD []) :: (splitSlash t).tail := by
  induction a with
  | nil => exact splitSlash_eq_head_tail t
  | cons c cs ih =>
    rw [List.cons_append, splitSlash_cons_ne c (fun e => ha (e ▸ List.mem_cons_self)), ih (fun e => ha (List.mem_cons_of_mem _ e))]
    rfl

/-- `/s₁/s₂/…` -/
def slashed (q : Path) : List Char := q.flatMap (fun s => '/' :: s)

theorem slashed_cons (s : Seg) (q : Path) : slashed (s :: q) = '/' :: s ++ slashed q := rfl
theorem slashed_append (p q : Path) : slashed (p ++ q) = slashed p ++ slashed q := List.flatMap_append

theorem joinSlash_cons_cons (s t : List Char) (ss : List (List Char)) :
    joinSlash (s :: t :: ss) = s ++ '/' :: joinSlash (t :: ss) := rfl

theorem joinSlash_cons_slashed (s : Seg) (q : Path) : joinSlash (s :: q) = s ++ slashed q := by
  induction q generalizing s with
  | nil => exact (List.append_nil s).symm
  | cons t ts ih => rw [joinSlash_cons_cons, ih, slashed_cons, List.cons_append]

theorem slashed_eq (q : Path) (h : q ≠ []) : slashed q = '/' :: joinSlash q := by
  obtain ⟨s, ss, rfl⟩ := List.exists_cons_of_ne_nil h
  rw [slashed_cons, joinSlash_cons_slashed, List.cons_append]

theorem joinSlash_append_slashed (p q : Path) (hp : p ≠ []) : joinSlash (p ++ q) = joinSlash p ++ slashed q := by
  obtain ⟨s, ss, rfl⟩ := List.exists_cons_of_ne_nil hp
  rw [List.cons_append, joinSlash_cons_slashed, joinSlash_cons_slashed, slashed_append, List.append_assoc]

theorem joinSlash_append (p q : List (List Char)) (hp : p ≠ []) (hq : q ≠ []) :
    joinSlash (p ++ q) = joinSlash p ++ '/' :: joinSlash q := by
  rw [joinSlash_append_slashed p q hp, slashed_eq q hq]

theorem splitSlash_joinSlash (p : List (List Char)) (hne : p ≠ []) (h : ∀ s ∈ p, '/' ∉ s) :
    splitSlash (joinSlash p) = p := by
  rw [joinSlash_eq, splitSlash_eq]
  exact List.splitOn_intercalate '/' h hne

theorem joinSlash_splitSlash (s : List Char) : joinSlash (splitSlash s) = s := by
  rw [splitSlash_eq, joinSlash_eq]
  exact List.intercalate_splitOn '/'

theorem splitSlash_inj {a b : List Char} (h : splitSlash a = splitSlash b) : a = b := by
  rw [← joinSlash_splitSlash a, ← joinSlash_splitSlash b, h]

theorem splitSlash_seg_no_slash (s : List Char) : ∀ x ∈ splitSlash s, '/' ∉ x := by
  induction s with
  | nil =>
    intro x hx
    cases List.mem_singleton.mp hx
    exact List.not_mem_nil
  | cons c cs ih =>
    intro x hx
    by_cases hc : c = '/'
    · rw [hc, splitSlash_cons_slash] at hx
      rcases List.mem_cons.mp hx with rfl | hx
      · exact List.not_mem_nil
      · exact ih x hx
    · rw [splitSlash_cons_ne c hc] at hx
      rw [splitSlash_eq_head_tail cs] at ih
      rcases List.mem_cons.mp hx with rfl | hx
      · intro hm
        rcases List.mem_cons.mp hm with e | hm
        · exact hc e.symm
        · exact ih _ List.mem_cons_self hm
      · exact ih x (List.mem_cons_of_mem _ hx)

theorem splitSlash_append_slash' (a b : List Char) :
    splitSlash (a ++ '/' :: b) = splitSlash a ++ splitSlash b := by
  rw [splitSlash_eq, splitSlash_eq, splitSlash_eq]
  exact List.splitOn_append_cons_self a b

theorem takeWhile_all {p : Char → Bool} (l : List Char) (h : ∀ a ∈ l, p a = true) : l.takeWhile p = l := by
  rw [← List.append_nil l, List.takeWhile_append_of_pos h]
  rfl

theorem dropWhile_all {p : Char → Bool} (l : List Char) (h : ∀ a ∈ l, p a = true) : l.dropWhile p = [] := by
  rw [← List.append_nil l, List.dropWhile_append_of_pos h]
  rfl

theorem foldl_eq_append {α : Type} (f : List α → α → List α) (xs acc : List α) (h : ∀ out, ∀ c ∈ xs, f out c = out ++ [c]) :
    xs.foldl f acc = acc ++ xs := by
  induction xs generalizing acc with
  | nil => exact (List.append_nil acc).symm
  | cons x xs ih =>
    rw [List.foldl_cons, h acc x List.mem_cons_self, ih _ (fun out c hc => h out c (List.mem_cons_of_mem _ hc)), List.append_assoc]
    rfl

theorem normalizeComponents_of_no_dots (xs : List (List Char)) (h : ∀ x ∈ xs, x ≠ dot ∧ x ≠ dotdot) :
    normalizeComponents xs = xs :=
  foldl_eq_append _ xs [] (fun _ c hc => by rw [if_neg (h c hc).1, if_neg (h c hc).2])

/-- names without dot segments and without `? # % +` reach the B2 download URL unchanged -/
theorem b2Addr_safe (n : Name) (hdot : hasDotSegment n = false)
    (hchars : ∀ c ∈ n, c ≠ '?' ∧ c ≠ '#' ∧ c ≠ '%' ∧ c ≠ '+') : b2Addr n = some n := by
  have hcut : n.takeWhile (fun c => decide (c ≠ '?' ∧ c ≠ '#')) = n :=
    takeWhile_all n (fun c hc => decide_eq_true ⟨(hchars c hc).1, (hchars c hc).2.1⟩)
  have hany : n.any (fun c => decide (c = '%' ∨ c = '+')) = false :=
    List.any_eq_false.mpr (fun c hc => by
      rw [decide_eq_true_iff, not_or]
      exact (hchars c hc).2.2)
  have hsegs : ∀ x ∈ [[], "file".toList, "bucket".toList] ++ splitSlash n, x ≠ dot ∧ x ≠ dotdot := by
    intro x hx
    rcases List.mem_append.mp hx with hx | hx
    · exact (by decide +kernel : ∀ x ∈ [[], "file".toList, "bucket".toList], x ≠ dot ∧ x ≠ dotdot) x hx
    · have := List.any_eq_false.mp hdot x hx
      rwa [decide_eq_true_iff, not_or] at this
  obtain ⟨s, ss, hs⟩ := List.exists_cons_of_ne_nil (splitSlash_ne_nil n)
  unfold b2Addr
  simp only [hcut, hany, Bool.false_eq_true, if_false]
  rw [normalizeComponents_of_no_dots _ hsegs, hs]
  simp only [List.cons_append, List.nil_append, true_and, ne_eq, reduceCtorEq, not_false_eq_true, if_true]
  rw [← hs, joinSlash_splitSlash]

theorem validSeg_iff (s : Seg) : validSeg s = true ↔ s ≠ [] ∧ '/' ∉ s ∧ s ≠ dot ∧ s ≠ dotdot :=
  decide_eq_true_iff

theorem validPath_iff (p : Path) : validPath p = true ↔ p ≠ [] ∧ ∀ s ∈ p, validSeg s = true := by
  rw [validPath, decide_eq_true_iff, List.all_eq_true]

theorem split_join_valid {p : Path} (h : validPath p = true) : splitSlash (joinSlash p) = p :=
  have hp := (validPath_iff p).mp h
  splitSlash_joinSlash p hp.1 (fun s hs => ((validSeg_iff s).mp (hp.2 s hs)).2.1)

theorem validName_joinSlash {p : Path} (h : validPath p = true) : validName (joinSlash p) = true := by
  rw [validName, split_join_valid h, h]

theorem joinSlash_inj_valid {p q : Path} (hp : validPath p = true) (hq : validPath q = true)
    (h : joinSlash p = joinSlash q) : p = q := by
  rw [← split_join_valid hp, ← split_join_valid hq, h]

theorem joinSlash_head_not_slash (p : Path) (h : ∀ s ∈ p, validSeg s = true) : (joinSlash p).head? ≠ some '/' := by
  cases p with
  | nil => exact (nofun : (none : Option Char) ≠ some '/')
  | cons s ss =>
    have hs := (validSeg_iff s).mp (h s List.mem_cons_self)
    rw [joinSlash_cons_slashed]
    cases s with
    | nil => exact absurd rfl hs.1
    | cons c cs => exact fun e => hs.2.1 (Option.some.inj e ▸ List.mem_cons_self)

theorem takeWhile_of_head (l : List Char) (h : l.head? ≠ some '/') :
    l.takeWhile (· = '/') = [] ∧ l.dropWhile (· = '/') = l := by
  cases l with
  | nil => exact ⟨rfl, rfl⟩
  | cons c cs =>
    have hc : ¬ (decide (c = '/')) = true := fun e => h (congrArg some (of_decide_eq_true e))
    exact ⟨List.takeWhile_cons_of_neg hc, List.dropWhile_cons_of_neg hc⟩

theorem pparse_joinSlash (p : Path) (h : ∀ s ∈ p, validSeg s = true) : pparse (joinSlash p) = ⟨[], p⟩ := by
  obtain ⟨h1, h2⟩ := takeWhile_of_head _ (joinSlash_head_not_slash p h)
  unfold pparse
  simp only [h1, h2, List.length_nil, if_true]
  congr 1
  cases p with
  | nil => rfl
  | cons s ss =>
    rw [splitSlash_joinSlash _ (List.cons_ne_nil _ _) (fun s hs => ((validSeg_iff s).mp (h s hs)).2.1)]
    exact List.filter_eq_self.mpr (fun s hs =>
      have hv := (validSeg_iff s).mp (h s hs)
      decide_eq_true ⟨hv.1, hv.2.2.1⟩)

theorem relPath_joinSlash (p : Path) (h : ∀ s ∈ p, validSeg s = true) : relPath (joinSlash p) = some p := by
  have hany : p.any (fun x => decide (x = dotdot)) = false :=
    List.any_eq_false.mpr (fun s hs => by
      rw [decide_eq_true_iff]
      exact ((validSeg_iff s).mp (h s hs)).2.2.2)
  unfold relPath
  simp only [pparse_joinSlash p h, hany, ne_eq, not_true_eq_false, Bool.false_eq_true, or_self, if_false]

theorem relPath_valid {n : Name} (h : validName n = true) : relPath n = some (splitSlash n) := by
  have := relPath_joinSlash (splitSlash n) ((validPath_iff _).mp h).2
  rwa [joinSlash_splitSlash] at this

theorem mem_ancestors (a p : Path) : a ∈ ancestors p ↔ a ≠ [] ∧ a <+: p ∧ a ≠ p := by
  induction p generalizing a with
  | nil =>
    simp only [ancestors, List.not_mem_nil, List.prefix_nil, false_iff]
    rintro ⟨h1, h2, _⟩; exact h1 h2
  | cons s rest ih =>
    simp only [ancestors, List.mem_append, List.mem_map]
    constructor
    · rintro (⟨b, hb, rfl⟩ | h)
      · obtain ⟨h1, h2, h3⟩ := (ih b).mp hb
        exact ⟨List.cons_ne_nil _ _, (List.cons_prefix_cons).mpr ⟨rfl, h2⟩, fun e => h3 (List.cons.inj e).2⟩
      · by_cases hr : rest = []
        · rw [if_pos hr] at h
          cases h
        · rw [if_neg hr] at h
          cases List.mem_singleton.mp h
          exact ⟨List.cons_ne_nil _ _, (List.cons_prefix_cons).mpr ⟨rfl, List.nil_prefix⟩, fun e => hr (List.cons.inj e).2.symm⟩
    · rintro ⟨h1, h2, h3⟩
      cases a with
      | nil => exact absurd rfl h1
      | cons x b =>
        obtain ⟨rfl, hb⟩ := (List.cons_prefix_cons).mp h2
        have hbr : b ≠ rest := fun e => h3 (by rw [e])
        by_cases hbn : b = []
        · subst hbn
          right
          rw [if_neg (Ne.symm hbr)]
          exact List.mem_singleton_self _
        · left
          exact ⟨b, (ih b).mpr ⟨hbn, hb, hbr⟩, rfl⟩

theorem ancestors_trans {a b c : Path} (h1 : a ∈ ancestors b) (h2 : b ∈ ancestors c) : a ∈ ancestors c := by
  obtain ⟨ha, hab, hne⟩ := (mem_ancestors a b).mp h1
  obtain ⟨_, hbc, hne'⟩ := (mem_ancestors b c).mp h2
  refine (mem_ancestors a c).mpr ⟨ha, hab.trans hbc, ?_⟩
  intro e
  subst e
  exact hne (List.IsPrefix.eq_of_length_le hab (hbc.length_le))

theorem mem_ancestors_append (d t : Path) (hd : d ≠ []) (ht : t ≠ []) : d ∈ ancestors (d ++ t) :=
  (mem_ancestors d _).mpr ⟨hd, List.prefix_append d t, fun e => ht (List.append_right_eq_self.mp e.symm)⟩

theorem mem_dedup {α : Type} [DecidableEq α] (l : List α) (a : α) : a ∈ dedup l ↔ a ∈ l := by
  induction l with
  | nil => exact Iff.rfl
  | cons x xs ih =>
    unfold dedup
    by_cases h : x ∈ xs
    · rw [if_pos h, ih, List.mem_cons]
      exact ⟨Or.inr, fun h' => h'.elim (fun e => e ▸ h) id⟩
    · rw [if_neg h, List.mem_cons, List.mem_cons, ih]

theorem nodup_dedup {α : Type} [DecidableEq α] (l : List α) : (dedup l).Nodup := by
  induction l with
  | nil => exact List.nodup_nil
  | cons x xs ih =>
    unfold dedup
    by_cases h : x ∈ xs
    · rw [if_pos h]
      exact ih
    · rw [if_neg h]
      exact List.nodup_cons.mpr ⟨fun hm => h ((mem_dedup xs x).mp hm), ih⟩

/-- the name universe of the property, as a set of paths: canonical names, none a directory prefix of another -/
structure Universe (U : Path → Prop) : Prop where
  valid : ∀ p, U p → validPath p = true
  prefixFree : ∀ p q, U p → U q → p ∉ ancestors q

/-- what every history over the universe maintains -/
structure Inv (U : Path → Prop) (fs : FS) : Prop where
  nodup : (fs.files.map (·.1)).Nodup
  filesU : ∀ p ∈ fs.files.map (·.1), U p
  dirsOfFiles : ∀ p ∈ fs.files.map (·.1), ∀ a ∈ ancestors p, a ∈ fs.dirs
  dirsU : ∀ d ∈ fs.dirs, ∃ u, U u ∧ d ∈ ancestors u

theorem Inv.empty (U : Path → Prop) : Inv U FS.empty :=
  ⟨List.nodup_nil, fun _ h => (List.not_mem_nil h).elim, fun _ h => (List.not_mem_nil h).elim, fun _ h => (List.not_mem_nil h).elim⟩

theorem isFile_iff (fs : FS) (p : Path) : fs.isFile p = true ↔ p ∈ fs.files.map (·.1) :=
  (mem_keys_iff_alookup fs.files p).symm

theorem mem_mkdirs (fs : FS) (ds : List Path) (d : Path) : d ∈ (fs.mkdirs ds).dirs ↔ d ∈ fs.dirs ∨ d ∈ ds := by
  rw [FS.mkdirs, List.mem_append, List.mem_filter, decide_eq_true_iff]
  exact ⟨Or.imp_right And.left, fun h => h.elim Or.inl (fun hds => (Classical.em (d ∈ fs.dirs)).imp_right (fun hd => ⟨hds, hd⟩))⟩

theorem inv_erase {U : Path → Prop} {fs : FS} (hinv : Inv U fs) (p : Path) : Inv U (fs.erase p) :=
  ⟨nodup_keys_aerase _ _ hinv.nodup,
   fun q hq => hinv.filesU q ((keys_aerase_sublist fs.files p).subset hq),
   fun q hq => hinv.dirsOfFiles q ((keys_aerase_sublist fs.files p).subset hq),
   hinv.dirsU⟩

theorem inv_upload {U : Path → Prop} {fs : FS} (hinv : Inv U fs) {p : Path} (hp : U p) (d : Bytes) : Inv U (fs.upload p d) := by
  refine ⟨nodup_keys_ainsert _ _ _ hinv.nodup, fun q hq => ?_, fun q hq a ha => ?_, fun d' hd' => ?_⟩
  · rcases List.mem_cons.mp hq with rfl | hq
    · exact hp
    · exact hinv.filesU q ((keys_aerase_sublist _ p).subset hq)
  · apply (mem_mkdirs fs (ancestors p) a).mpr
    rcases List.mem_cons.mp hq with rfl | hq
    · exact Or.inr ha
    · exact Or.inl (hinv.dirsOfFiles q ((keys_aerase_sublist _ p).subset hq) a ha)
  · rcases (mem_mkdirs fs (ancestors p) d').mp hd' with h | h
    · exact hinv.dirsU d' h
    · exact ⟨p, hp, h⟩

section inv
variable {U : Path → Prop} (hU : Universe U) {fs : FS} (hinv : Inv U fs)
include hU hinv

theorem not_blocked {p : Path} (hp : U p) : fs.blocked p = false :=
  List.any_eq_false.mpr (fun a ha hf => hU.prefixFree a p (hinv.filesU a ((isFile_iff fs a).mp hf)) hp ha)

theorem not_isDir {p : Path} (hp : U p) : fs.isDir p = false := by
  refine decide_eq_false (not_or.mpr ⟨((validPath_iff p).mp (hU.valid p hp)).1, fun hd => ?_⟩)
  obtain ⟨u, hu, ha⟩ := hinv.dirsU p hd
  exact hU.prefixFree p u hp hu ha

theorem kind_of_U {p : Path} (hp : U p) : fs.kind p = if fs.isFile p then .file else .none := by
  rw [FS.kind, not_blocked hU hinv hp, not_isDir hU hinv hp, if_neg Bool.false_ne_true, if_neg Bool.false_ne_true]

/-- the body of `download` / `download_stream` at a name of the universe (`f` is what the variant does to the payload) -/
theorem read_of_U (f : Bytes → Bytes) {p : Path} (hp : U p) :
    (match fs.kind p with
      | .file => (match fs.get p with | some d => Ret.bytes (f d) | none => .error .notFound)
      | .dir => .error .osError
      | .none => .error (if fs.blocked p then .osError else .notFound)) =
    match fs.get p with | some d => .bytes (f d) | none => .error .notFound := by
  rw [kind_of_U hU hinv hp, not_blocked hU hinv hp, FS.isFile]
  cases fs.get p <;> rfl

theorem step_download (root : List Char) {n : Name} (hv : validName n = true) (hu : U (splitSlash n)) :
    LocalFS.step root fs (.download n) =
      (fs, match fs.abs n with | some d => .bytes d | none => .error .notFound) := by
  rw [LocalFS.step, relPath_valid hv, FS.abs, if_pos hv]
  exact congrArg (Prod.mk fs) (read_of_U hU hinv id hu)

theorem step_downloadStream (root : List Char) {n : Name} (hv : validName n = true) (hu : U (splitSlash n))
    (c : Nat) (sink : Bytes) :
    LocalFS.step root fs (.downloadStream n c sink) =
      (fs, match fs.abs n with | some d => .bytes (sinkAfter sink c d) | none => .error .notFound) := by
  rw [LocalFS.step, relPath_valid hv, FS.abs, if_pos hv]
  exact congrArg (Prod.mk fs) (read_of_U hU hinv (sinkAfter sink c) hu)

end inv

theorem abs_upload (fs : FS) {n : Name} (hn : validName n = true) (d : Bytes) :
    (fs.upload (splitSlash n) d).abs = fs.abs.put n d := by
  funext k
  show (if validName k then alookup (ainsert fs.files (splitSlash n) d) (splitSlash k) else none) = if k = n then some d else fs.abs k
  rw [alookup_ainsert]
  by_cases hk : k = n
  · rw [hk, if_pos hn, if_pos rfl, if_pos rfl]
  · rw [if_neg (fun e => hk (splitSlash_inj e)), if_neg hk]
    rfl

theorem abs_erase (fs : FS) {n : Name} (hn : validName n = true) :
    (fs.erase (splitSlash n)).abs = fs.abs.del n := by
  funext k
  show (if validName k then alookup (aerase fs.files (splitSlash n)) (splitSlash k) else none) = if k = n then none else fs.abs k
  by_cases hk : k = n
  · rw [hk, alookup_aerase_self, ite_self, if_pos rfl]
  · rw [alookup_aerase_ne _ _ _ (fun e => hk (splitSlash_inj e)), if_neg hk]
    rfl

theorem abs_del_of_none (fs : FS) (n : Name) (h : fs.abs n = none) : fs.abs.del n = fs.abs := by
  funext k
  unfold Spec.del
  by_cases hk : k = n
  · rw [if_pos hk, hk, h]
  · rw [if_neg hk]

end Replicat.LocalFS
