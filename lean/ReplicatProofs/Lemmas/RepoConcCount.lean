import ReplicatProofs.Lemmas.RepoConcSeq
import ReplicatProofs.Lemmas.RepoExact
/-! Counting the racy uploads of overlapping snapshot commands: every upload belongs to one worker that observed the chunk
absent, a command never uploads one chunk more often than it has workers (nor than the chunk occurs in its data), never
uploads a chunk stored before, and every new chunk is uploaded by somebody.  Used by C07 (`racy_upload_bounded`). -/
namespace Replicat.Repo
open List

theorem uploads_snoc (d : List Ev) (e : Ev) (i : Nat) (c : Content) :
    uploads (d ++ [e]) i c = uploads d i c + (if Ev.isUpload i c e = true then 1 else 0) := by
  unfold uploads
  rw [countP_append, countP_singleton]

theorem absents_snoc (d : List Ev) (e : Ev) (i : Nat) (c : Content) :
    absents (d ++ [e]) i c = absents d i c + (if Ev.isAbsent i c e = true then 1 else 0) := by
  unfold absents
  rw [countP_append, countP_singleton]

theorem uploads_snoc_of_not {d : List Ev} {e : Ev} {i : Nat} {c : Content} (h : Ev.isUpload i c e = false) :
    uploads (d ++ [e]) i c = uploads d i c := by
  rw [uploads_snoc, h]
  rfl

theorem absents_snoc_of_not {d : List Ev} {e : Ev} {i : Nat} {c : Content} (h : Ev.isAbsent i c e = false) :
    absents (d ++ [e]) i c = absents d i c := by
  rw [absents_snoc, h]
  rfl

theorem uploads_snoc_self (d : List Ev) (i : Nat) (f : Fam) (c : Content) (o : Obj) :
    uploads (d ++ [.upload i (.chunk f c) o]) i c = uploads d i c + 1 := by
  rw [uploads_snoc, Ev.isUpload, beq_self_eq_true, beq_self_eq_true]
  rfl

theorem absents_snoc_self (d : List Ev) (i : Nat) (c : Content) :
    absents (d ++ [.exists i c false]) i c = absents d i c + 1 := by
  rw [absents_snoc, Ev.isAbsent, beq_self_eq_true, beq_self_eq_true]
  rfl

/-- what `Ev.isUpload i c'` and `Ev.isAbsent i c'` evaluate to on command `i`'s own upload or absent observation of another chunk `c` -/
theorem beq_and_ne {i : Nat} {c c' : Content} (h : c ≠ c') : (i == i && c == c') = false := by
  rw [beq_self_eq_true, Bool.true_and]
  exact beq_false_of_ne h

theorem window_free {cmd : SnapCmd} {p : Prog} {c : Content} (h : c ∈ window cmd p) : p.pending.length < cmd.workers := by
  unfold window at h
  apply Nat.lt_of_sub_pos
  apply Nat.pos_of_ne_zero
  intro h0
  rw [h0, take_zero] at h
  cases h

structure WorkerInv (s0 : Store) (d : List Ev) (s : Store) (i : Nat) (cmd : SnapCmd) (p : Prog) : Prop where
  /-- every absent observation is an upload made or an upload outstanding -/
  k1 : ∀ c, absents d i c = uploads d i c + p.pending.count c
  k2 : p.pending.length ≤ cmd.workers
  k3 : ∀ c, get s (.chunk cmd.u.fam c) = none → uploads d i c = 0
  k4 : ∀ c, absents d i c ≤ cmd.workers
  k5 : ∀ c, absents d i c + p.todo.count c ≤ cmd.stream.count c
  k6 : ∀ c, (get s0 (.chunk cmd.u.fam c)).isSome → absents d i c = 0

theorem workerInv_frame {s0 s s' : Store} {d : List Ev} {e : Ev} {i : Nat} {cmd : SnapCmd} {p p' : Prog}
    (h : WorkerInv s0 d s i cmd p) (hu : ∀ c, Ev.isUpload i c e = false) (ha : ∀ c, Ev.isAbsent i c e = false)
    (hback : ∀ n, get s' n = none → get s n = none) (hpend : p'.pending = p.pending)
    (htodo : ∀ c, p'.todo.count c ≤ p.todo.count c) : WorkerInv s0 (d ++ [e]) s' i cmd p' where
  k1 := by
    intro c
    rw [absents_snoc_of_not (ha c), uploads_snoc_of_not (hu c), hpend]
    exact h.k1 c
  k2 := hpend ▸ h.k2
  k3 := by
    intro c hn
    rw [uploads_snoc_of_not (hu c)]
    exact h.k3 c (hback _ hn)
  k4 := by
    intro c
    rw [absents_snoc_of_not (ha c)]
    exact h.k4 c
  k5 := by
    intro c
    rw [absents_snoc_of_not (ha c)]
    exact Nat.le_trans (Nat.add_le_add_left (htodo c) _) (h.k5 c)
  k6 := by
    intro c hs
    rw [absents_snoc_of_not (ha c)]
    exact h.k6 c hs

theorem workerInv_absent {s0 s : Store} {d : List Ev} {i : Nat} {cmd : SnapCmd} {p : Prog} {c : Content}
    (W : WorkerInv s0 d s i cmd p) (hwin : c ∈ window cmd p) (hnone : get s (.chunk cmd.u.fam c) = none)
    (hmono : ∀ n, (get s0 n).isSome → (get s n).isSome) :
    WorkerInv s0 (d ++ [.exists i c false]) s i cmd ⟨p.todo.erase c, p.pending ++ [c], p.done⟩ := by
  have hfree := window_free hwin
  have hu : ∀ c', uploads (d ++ [.exists i c false]) i c' = uploads d i c' := fun c' => uploads_snoc_of_not rfl
  have ha : ∀ c', c ≠ c' → absents (d ++ [.exists i c false]) i c' = absents d i c' :=
    fun c' hcc => absents_snoc_of_not (beq_and_ne hcc)
  refine ⟨?_, ?_, ?_, ?_, ?_, ?_⟩
  · intro c'
    rw [hu, count_append, count_singleton]
    by_cases hcc : c = c'
    · subst hcc
      rw [absents_snoc_self, W.k1 c, beq_self_eq_true]
      rfl
    · rw [ha c' hcc, W.k1 c', beq_false_of_ne hcc]
      rfl
  · rw [length_append, length_singleton]
    exact hfree
  · intro c' hn
    rw [hu]
    exact W.k3 c' hn
  · intro c'
    by_cases hcc : c = c'
    · subst hcc
      -- nothing of `c` was uploaded yet, so all earlier absent observations of `c` are still held by workers
      have h1 := W.k1 c
      rw [W.k3 c hnone, Nat.zero_add] at h1
      rw [absents_snoc_self, h1]
      exact Nat.lt_of_le_of_lt count_le_length hfree
    · rw [ha c' hcc]
      exact W.k4 c'
  · intro c'
    have h5 := W.k5 c'
    by_cases hcc : c = c'
    · subst hcc
      have hpos : 0 < p.todo.count c := count_pos_iff.mpr (mem_of_mem_take hwin)
      rw [absents_snoc_self, count_erase_self, Nat.add_assoc, Nat.add_sub_cancel' hpos]
      exact h5
    · rw [ha c' hcc, count_erase_of_ne (fun e => hcc e.symm)]
      exact h5
  · intro c' hs
    by_cases hcc : c = c'
    · subst hcc
      have := hmono _ hs
      rw [hnone] at this
      cases this
    · rw [ha c' hcc]
      exact W.k6 c' hs

theorem workerInv_upload {s0 s : Store} {d : List Ev} {i : Nat} {cmd : SnapCmd} {p : Prog} {c : Content}
    (W : WorkerInv s0 d s i cmd p) (hm : c ∈ p.pending) :
    WorkerInv s0 (d ++ [.upload i (.chunk cmd.u.fam c) (.chunk cmd.u.fam c)]) (put s (.chunk cmd.u.fam c) (.chunk cmd.u.fam c)) i cmd
      ⟨p.todo, p.pending.erase c, p.done⟩ := by
  have ha : ∀ c', absents (d ++ [.upload i (.chunk cmd.u.fam c) (.chunk cmd.u.fam c)]) i c' = absents d i c' :=
    fun c' => absents_snoc_of_not rfl
  have hu : ∀ c', c ≠ c' → uploads (d ++ [.upload i (.chunk cmd.u.fam c) (.chunk cmd.u.fam c)]) i c' = uploads d i c' :=
    fun c' hcc => uploads_snoc_of_not (beq_and_ne hcc)
  refine ⟨?_, ?_, ?_, fun c' => (ha c').symm ▸ W.k4 c', fun c' => (ha c').symm ▸ W.k5 c', fun c' hs => (ha c').symm ▸ W.k6 c' hs⟩
  · intro c'
    rw [ha, W.k1 c']
    by_cases hcc : c = c'
    · subst hcc
      have hpos : 0 < p.pending.count c := count_pos_iff.mpr hm
      rw [uploads_snoc_self, count_erase_self, Nat.add_assoc, Nat.add_sub_cancel' hpos]
    · rw [hu c' hcc, count_erase_of_ne (fun e => hcc e.symm)]
  · exact Nat.le_trans (erase_sublist).length_le W.k2
  · intro c' hn
    by_cases hcc : c = c'
    · subst hcc
      rw [get_put_same] at hn
      cases hn
    · rw [get_put_other _ _ _ _ (by intro h; cases h; exact hcc rfl)] at hn
      rw [hu c' hcc]
      exact W.k3 c' hn

structure CountInv (s0 : Store) (cmds : List SnapCmd) (d : List Ev) (st : CState) : Prop where
  worker : ∀ (i : Nat) cmd p, cmds[i]? = some cmd → st.progs[i]? = some p → WorkerInv s0 d st.store i cmd p
  mono : ∀ n, (get s0 n).isSome → (get st.store n).isSome
  src : ∀ f c, get s0 (.chunk f c) = none → get st.store (.chunk f c) ≠ none →
    ∃ (j : Nat) (cmd' : SnapCmd), cmds[j]? = some cmd' ∧ cmd'.u.fam = f ∧ 1 ≤ uploads d j c
  payload : ∀ i n o, Ev.upload i n o ∈ d → ∃ f c, n = .chunk f c ∧ o = .chunk f c

theorem countInv_init (s : Store) (cmds : List SnapCmd) : CountInv s cmds [] (CState.init s cmds) where
  worker := by
    intro i cmd p hc hp
    rw [init_lookup hc hp]
    exact ⟨fun _ => rfl, Nat.zero_le _, fun _ _ => rfl, fun _ => Nat.zero_le _, fun _ => Nat.le_of_eq (Nat.zero_add _),
      fun _ _ => rfl⟩
  mono := fun _ h => h
  src := fun _ _ h hne => absurd h hne
  payload := fun _ _ _ h => nomatch h

theorem isSome_of_back {s s' : Store} (hback : ∀ n, get s' n = none → get s n = none) {n : Name} (h : (get s n).isSome) :
    (get s' n).isSome := by
  cases hg : get s' n with
  | none => rw [hback n hg] at h; cases h
  | some o => rfl

theorem isAbsent_of_ne {i j : Nat} (hne : j ≠ i) (c c' : Content) (r : Bool) : Ev.isAbsent j c' (.exists i c r) = false := by
  cases r with
  | true => rfl
  | false =>
    show (i == j && c == c') = false
    rw [beq_false_of_ne (Ne.symm hne)]
    rfl

theorem isUpload_of_ne {i j : Nat} (hne : j ≠ i) (c' : Content) (n : Name) (o : Obj) : Ev.isUpload j c' (.upload i n o) = false := by
  cases n with
  | chunk f c =>
    show (i == j && c == c') = false
    rw [beq_false_of_ne (Ne.symm hne)]
    rfl
  | _ => rfl

theorem payload_snoc {d : List Ev} {e : Ev} (hpay : ∀ i n o, Ev.upload i n o ∈ d → ∃ f c, n = Name.chunk f c ∧ o = Obj.chunk f c)
    (he : ∀ i n o, e = Ev.upload i n o → ∃ f c, n = Name.chunk f c ∧ o = Obj.chunk f c) :
    ∀ i n o, Ev.upload i n o ∈ d ++ [e] → ∃ f c, n = Name.chunk f c ∧ o = Obj.chunk f c := by
  intro i n o hm
  rcases mem_append.mp hm with hm | hm
  · exact hpay i n o hm
  · exact he i n o (mem_singleton.mp hm).symm

theorem countInv_step {s0 : Store} {cmds : List SnapCmd} {d : List Ev} {st st' : CState} {e : Ev}
    (hinv : CountInv s0 cmds d st) (h : CStep cmds st e st') : CountInv s0 cmds (d ++ [e]) st' := by
  have hback : ∀ n, get st'.store n = none → get st.store n = none := fun n hn => h.get_none hn
  obtain ⟨hw, hmono, hsrc, hpay⟩ := hinv
  have hsrc' : ∀ f c, get s0 (.chunk f c) = none → get st.store (.chunk f c) ≠ none →
      ∃ (j : Nat) (cmd' : SnapCmd), cmds[j]? = some cmd' ∧ cmd'.u.fam = f ∧ 1 ≤ uploads (d ++ [e]) j c := by
    intro f c h0 hne
    obtain ⟨j, cmd', hj, hf, hu⟩ := hsrc f c h0 hne
    exact ⟨j, cmd', hj, hf, Nat.le_trans hu (by rw [uploads_snoc]; exact Nat.le_add_right _ _)⟩
  cases h with
  | «exists» hc hp hwin hr =>
    rename_i i c r cmd p
    refine ⟨forall_set hc hw ?_ ?_, hmono, hsrc', payload_snoc hpay (fun _ _ _ h => nomatch h)⟩
    · cases r with
      | true =>
        exact workerInv_frame (hw i cmd p hc hp) (fun _ => rfl) (fun _ => rfl) hback rfl (fun c' => (erase_sublist).count_le c')
      | false =>
        apply workerInv_absent (hw i cmd p hc hp) hwin _ hmono
        cases hg : get st.store (.chunk cmd.u.fam c) with
        | none => rfl
        | some o => rw [hg] at hr; cases hr
    · intro j x y hne W
      exact workerInv_frame W (fun _ => rfl) (fun c' => isAbsent_of_ne hne c c' r) hback rfl (fun _ => Nat.le_refl _)
  | upload hc hp hm =>
    rename_i i c cmd p
    refine ⟨forall_set hc hw (workerInv_upload (hw i cmd p hc hp) hm) ?_, fun n hs => isSome_of_back hback (hmono n hs), ?_,
      payload_snoc hpay (fun _ _ _ h => by cases h; exact ⟨_, _, rfl, rfl⟩)⟩
    · intro j x y hne W
      exact workerInv_frame W (fun c' => isUpload_of_ne hne c' _ _) (fun _ => rfl) hback rfl (fun _ => Nat.le_refl _)
    · intro f c' h0 hne
      by_cases hn : Name.chunk f c' = .chunk cmd.u.fam c
      · cases hn
        exact ⟨i, cmd, hc, rfl, by rw [uploads_snoc_self]; exact Nat.le_add_left 1 _⟩
      · rw [get_put_other _ _ _ _ hn] at hne
        exact hsrc' f c' h0 hne
  | commit hc hp ht hpe hd =>
    rename_i i cmd p
    refine ⟨forall_set hc hw ?_ ?_, fun n hs => isSome_of_back hback (hmono n hs), ?_, payload_snoc hpay (fun _ _ _ h => nomatch h)⟩
    · exact workerInv_frame (hw i cmd p hc hp) (fun _ => rfl) (fun _ => rfl) hback hpe.symm (fun _ => Nat.zero_le _)
    · intro j x y _ W
      exact workerInv_frame W (fun _ => rfl) (fun _ => rfl) hback rfl (fun _ => Nat.le_refl _)
    · intro f c' h0 hne
      rw [get_put_other _ _ _ _ (fun h => name_ne_chunk cmd f c' h.symm)] at hne
      exact hsrc' f c' h0 hne
  | read =>
    refine ⟨fun j x y hx hy => ?_, hmono, hsrc', payload_snoc hpay (fun _ _ _ h => nomatch h)⟩
    exact workerInv_frame (hw j x y hx hy) (fun _ => rfl) (fun _ => rfl) hback rfl (fun _ => Nat.le_refl _)

theorem countInv_run {s : Store} {cmds : List SnapCmd} {tr : List Ev} {st' : CState}
    (h : crun cmds (CState.init s cmds) tr = some st') : CountInv s cmds tr st' :=
  crun_invariant_tr (CountInv s cmds) (fun _ _ _ _ hi hs => countInv_step hi hs) tr [] _ st' (countInv_init s cmds) h

/-- the commands write pairwise different snapshot names, none of which exists at the start -/
def FreshCmds (s : Store) : List SnapCmd → Prop
  | [] => True
  | a :: cs => get s a.name = none ∧ (∀ b ∈ cs, b.name ≠ a.name) ∧ FreshCmds s cs

instance decFreshCmds (s : Store) : (cmds : List SnapCmd) → Decidable (FreshCmds s cmds)
  | [] => isTrue trivial
  | a :: cs => by
    unfold FreshCmds
    have := decFreshCmds s cs
    infer_instance

instance decFreshOp (s : Store) : (op : Op) → Decidable (FreshOp s op)
  | .snapshot u _ _ _ sid => by unfold FreshOp; infer_instance
  | .delete _ _ => isTrue trivial
  | .clean _ => isTrue trivial

instance decRunOk (enc : Bool) : (s : Store) → (ops : List Op) → Decidable (RunOk enc s ops)
  | _, [] => isTrue trivial
  | s, op :: ops => by
    unfold RunOk
    have := decRunOk enc (step enc s op) ops
    infer_instance

theorem freshCmds_namesOk {s : Store} {cmds : List SnapCmd} (h : FreshCmds s cmds) : NamesOk cmds := by
  induction cmds with
  | nil => intro a ha; cases ha
  | cons x xs ih =>
    obtain ⟨_, hne, hrest⟩ := h
    intro a ha b hb hab
    rcases mem_cons.mp ha with rfl | ha'
    · rcases mem_cons.mp hb with rfl | hb'
      · rfl
      · exact absurd hab.symm (hne b hb')
    · rcases mem_cons.mp hb with rfl | hb'
      · exact absurd hab (hne a ha')
      · exact ih hrest a ha' b hb' hab

theorem freshCmds_snapshot {s : Store} {a : SnapCmd} {cs : List SnapCmd} (hne : ∀ b ∈ cs, b.name ≠ a.name) (h : FreshCmds s cs) :
    FreshCmds (snapshot a.u a.stream a.files a.ts a.sid s).1 cs := by
  induction cs with
  | nil => trivial
  | cons b bs ih =>
    obtain ⟨hb0, hbne, hbrest⟩ := h
    refine ⟨?_, hbne, ih (fun x hx => hne x (mem_cons_of_mem _ hx)) hbrest⟩
    exact (snapshot_get_snap_other a.u a.stream a.files a.ts a.sid s (hne b mem_cons_self)).trans hb0

theorem runOk_of_fresh {enc : Bool} (cmds : List SnapCmd) (s : Store) (hok : ∀ cmd ∈ cmds, OpOk enc cmd.op) (hf : FreshCmds s cmds) :
    RunOk enc s (cmds.map SnapCmd.op) := by
  induction cmds generalizing s with
  | nil => trivial
  | cons a cs ih =>
    obtain ⟨h0, hne, hrest⟩ := hf
    exact ⟨hok a mem_cons_self, h0, ih _ (fun cmd hm => hok cmd (mem_cons_of_mem _ hm)) (freshCmds_snapshot hne hrest)⟩

theorem exact_of_get_eq {f : Fam} {a b : Store} (h : ∀ n, get a n = get b n) (hb : Exact f b) : Exact f a := by
  unfold Exact
  rw [funext h]
  exact hb

end Replicat.Repo
