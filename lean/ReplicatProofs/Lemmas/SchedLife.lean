import ReplicatProofs.Lemmas.Sched
/-!
Helper lemmas for C09, system S1′ (slot requests from threads vs. the life of the event loop).
-/
namespace Replicat.Sched

/-- As long as no loader has failed, or if the operation joins its loaders before it re-raises (`joins`), the operation has returned
only if nothing is queued, waiting or held, hence no slot is ever given back to a stopped loop. -/
structure LifeInv (joins : Bool) (n : Nat) (σ : Life) : Prop where
  cons : σ.free + σ.held + σ.lost = n
  closed_ret : σ.closed = true → σ.returned = true
  settled : σ.returned = true → σ.failed = false ∨ joins = true → σ.queued = 0 ∧ σ.waiting = 0 ∧ σ.held = 0
  kept : σ.failed = false ∨ joins = true → σ.lost = 0

theorem life_init_inv (joins : Bool) (n jobs : Nat) : LifeInv joins n (Life.init n jobs) :=
  ⟨rfl, fun h => (nomatch h), fun h => (nomatch h), fun _ => rfl⟩

theorem life_step_inv (joins : Bool) (n : Nat) (σ : Life) (e : LifeEv) (σ' : Life)
    (h : LifeInv joins n σ) (hs : Life.step joins σ e = some σ') : LifeInv joins n σ' := by
  cases e with
  | begin =>
    obtain ⟨hg, rfl⟩ := of_guarded hs
    exact { h with settled := fun r c => absurd (h.settled r c).1 (Nat.ne_of_gt hg) }
  | grant =>
    obtain ⟨hg, rfl⟩ := of_guarded hs
    exact { h with cons := (congrArg (· + σ.lost) (sub_one_add_succ hg.2.2 _)).trans h.cons,
                   settled := fun r c => absurd (h.settled r c).2.1 (Nat.ne_of_gt hg.2.1) }
  | finish ok =>
    obtain ⟨hg, hs⟩ := Option.ite_none_right_eq_some.mp hs
    -- a transfer can only end before the operation has returned, or after a failure it did not wait for
    have hst' : σ.returned = true → ¬ ((σ.failed || !ok) = false ∨ joins = true) :=
      fun r c => absurd (h.settled r (c.imp_left fun c => (Bool.or_eq_false_iff.mp c).1)).2.2 (Nat.ne_of_gt hg)
    by_cases hcl : σ.closed = true
    · rw [if_pos hcl] at hs
      cases hs
      refine { h with cons := ?_, settled := fun r c => absurd c (hst' r),
                      kept := fun c => absurd c (hst' (h.closed_ret hcl)) }
      dsimp only
      rw [Nat.add_assoc, sub_one_add_succ hg, ← Nat.add_assoc]
      exact h.cons
    · rw [if_neg hcl] at hs
      cases hs
      exact { h with cons := (congrArg (· + σ.lost) (succ_add_sub_one hg _)).trans h.cons, settled := fun r c => absurd c (hst' r),
                     kept := fun c => h.kept (c.imp_left fun c => (Bool.or_eq_false_iff.mp c).1) }
  | dropQueued =>
    obtain ⟨hg, rfl⟩ := of_guarded hs
    exact { h with settled := fun r => (nomatch r.symm.trans ((Bool.not_eq_true' _).mp hg.2.2)) }
  | ret =>
    obtain ⟨_, hs⟩ := Option.ite_none_left_eq_some.mp hs
    by_cases hz : σ.queued = 0 ∧ σ.waiting = 0 ∧ σ.held = 0
    · rw [if_pos hz] at hs
      cases hs
      exact { h with closed_ret := fun _ => rfl, settled := fun _ _ => hz }
    · rw [if_neg hz] at hs
      obtain ⟨hg, rfl⟩ := of_guarded hs
      refine { h with closed_ret := fun _ => rfl, settled := fun _ c => ?_ }
      rcases c with c | c
      · exact nomatch c.symm.trans hg.1
      · exact nomatch c.symm.trans ((Bool.not_eq_true' _).mp hg.2)
  | cancelWaiter =>
    obtain ⟨hg, rfl⟩ := of_guarded hs
    -- with `joins` the operation returns only when nobody waits, so there is no request left to cancel
    have hj : ¬ ((true = false) ∨ joins = true) := fun c =>
      absurd (h.settled hg.1 (c.elim (fun c => nomatch c) Or.inr)).2.1 (Nat.ne_of_gt hg.2.2)
    exact { h with settled := fun _ c => absurd c hj, kept := fun c => absurd c hj }
  | close =>
    obtain ⟨hg, rfl⟩ := of_guarded hs
    exact { h with closed_ret := fun _ => hg.1 }

theorem life_reach_inv (joins : Bool) (n jobs : Nat) (evs : List LifeEv) (σ : Life)
    (h : run (Life.step joins) (Life.init n jobs) evs = some σ) : LifeInv joins n σ :=
  run_inv _ (LifeInv joins n) (life_step_inv joins n) evs _ _ (life_init_inv joins n jobs) h

theorem life_restored {joins : Bool} {n : Nat} {σ : Life} (h : LifeInv joins n σ) (hr : σ.returned = true)
    (hc : σ.failed = false ∨ joins = true) : σ.queued = 0 ∧ σ.waiting = 0 ∧ σ.held = 0 ∧ σ.free = n := by
  obtain ⟨hq, hw, hh⟩ := h.settled hr hc
  have hn := h.cons
  rw [hh, h.kept hc] at hn
  exact ⟨hq, hw, hh, hn⟩

theorem life_step_stuck (joins : Bool) (σ : Life) (e : LifeEv) (σ' : Life) (hc : σ.closed = true)
    (hs : Life.step joins σ e = some σ') : σ'.closed = true ∧ σ.waiting ≤ σ'.waiting := by
  have hno : ¬ ((!σ.closed) = true) := fun c => nomatch hc.symm.trans ((Bool.not_eq_true' _).mp c)
  cases e with
  | begin =>
    obtain ⟨_, rfl⟩ := of_guarded hs
    exact ⟨hc, Nat.le_succ _⟩
  | grant => exact absurd (of_guarded hs).1.1 hno
  | finish ok =>
    obtain ⟨_, hs⟩ := Option.ite_none_right_eq_some.mp hs
    rw [if_pos hc] at hs
    cases hs
    exact ⟨hc, Nat.le_refl _⟩
  | dropQueued =>
    obtain ⟨_, rfl⟩ := of_guarded hs
    exact ⟨hc, Nat.le_refl _⟩
  | ret =>
    obtain ⟨_, hs⟩ := Option.ite_none_left_eq_some.mp hs
    by_cases hz : σ.queued = 0 ∧ σ.waiting = 0 ∧ σ.held = 0
    · rw [if_pos hz] at hs
      cases hs
      exact ⟨hc, Nat.le_refl _⟩
    · rw [if_neg hz] at hs
      obtain ⟨_, rfl⟩ := of_guarded hs
      exact ⟨hc, Nat.le_refl _⟩
  | cancelWaiter => exact absurd (of_guarded hs).1.2.1 hno
  | close => exact absurd (of_guarded hs).1.2 hno

end Replicat.Sched
