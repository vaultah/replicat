import ReplicatModel.SymBackend
import ReplicatProofs.Lemmas.SymStore
/-! The commands of a history, component by component: what one chunk upload, an add-key and the end of a snapshot do to the
users, the fresh-value supply, the store and the log.  Every invariant of a history (`Inv`, `HInv`, `TI`, `NR`) is proved
against these equations, not against the text of `step`. -/
namespace Replicat.Sym
open Term (pub sec nonce key nil pair mac kdf enc)

theorem putChunk_spec (p : Props) (s : St) (c : Term) :
    (putChunk p s c).users = s.users ∧ (putChunk p s c).encrypted = s.encrypted ∧ s.next ≤ (putChunk p s c).next ∧
    (((putChunk p s c).store = s.store ∧ (putChunk p s c).log = s.log ∧ lookup s.store (chunkLoc p (digest c)) ≠ none) ∨
     (lookup s.store (chunkLoc p (digest c)) = none ∧
      (putChunk p s c).store = s.store ++ [(chunkLoc p (digest c), chunkObject p (nonce s.next) c)] ∧
      (putChunk p s c).log = s.log ++ [(chunkLoc p (digest c), chunkObject p (nonce s.next) c)])) := by
  unfold putChunk
  cases hp : p.encrypted <;> cases hl : lookup s.store (chunkLoc p (digest c)) <;> simp [hl]

theorem putChunk_users (p : Props) (s : St) (c : Term) : (putChunk p s c).users = s.users := (putChunk_spec p s c).1

theorem putChunk_encrypted (p : Props) (s : St) (c : Term) : (putChunk p s c).encrypted = s.encrypted :=
  (putChunk_spec p s c).2.1

theorem putChunk_next (p : Props) (s : St) (c : Term) : s.next ≤ (putChunk p s c).next := (putChunk_spec p s c).2.2.1

theorem putChunk_store (p : Props) (s : St) (c : Term) :
    ((putChunk p s c).store = s.store ∧ (putChunk p s c).log = s.log ∧ lookup s.store (chunkLoc p (digest c)) ≠ none) ∨
    (lookup s.store (chunkLoc p (digest c)) = none ∧
      (putChunk p s c).store = s.store ++ [(chunkLoc p (digest c), chunkObject p (nonce s.next) c)] ∧
      (putChunk p s c).log = s.log ++ [(chunkLoc p (digest c), chunkObject p (nonce s.next) c)]) :=
  (putChunk_spec p s c).2.2.2

theorem putChunks_users (p : Props) (cs : List Term) (s : St) : (cs.foldl (putChunk p) s).users = s.users :=
  foldl_inv (P := fun s' => s'.users = s.users) (fun s' c _ h => (putChunk_users p s' c).trans h) rfl

theorem putChunks_encrypted (p : Props) (cs : List Term) (s : St) : (cs.foldl (putChunk p) s).encrypted = s.encrypted :=
  foldl_inv (P := fun s' => s'.encrypted = s.encrypted) (fun s' c _ h => (putChunk_encrypted p s' c).trans h) rfl

def keyAdded (s : St) (kdfcfg pw : Term) (sh : Shared) (k : Nat) : St :=
  { s with next := k + 2, users := s.users ++ [⟨kdfcfg, pw, nonce k, sh⟩],
           log := s.log ++ [(keyLoc s.users.length, keyFile kdfcfg (nonce k) pw sh (nonce (k + 1)))],
           uses := s.uses ++ [(userKeyOf pw (nonce k), nonce (k + 1))] }

theorem step_addKey (s : St) (base : Nat) (shared : Bool) (kdfcfg shcfg pw : Term) :
    step s (.addKey base shared kdfcfg shcfg pw) = s ∨
    s.encrypted = true ∧
      ((∃ b ∈ s.users, step s (.addKey base shared kdfcfg shcfg pw) = keyAdded s kdfcfg pw b.sh s.next) ∨
       step s (.addKey base shared kdfcfg shcfg pw) = keyAdded s kdfcfg pw (freshShared shcfg s.next) (s.next + 4)) := by
  rw [step]
  cases he : s.encrypted with
  | false => exact Or.inl rfl
  | true =>
    cases hb : s.users[base]? with
    | none => exact Or.inl rfl
    | some b =>
      refine Or.inr ⟨rfl, ?_⟩
      -- `cases he` has put `true` for the flag on the left; `keyAdded s …` still carries `s.encrypted`
      cases shared with
      | true =>
        refine Or.inl ⟨b, List.mem_of_getElem? hb, ?_⟩
        rw [keyAdded, he]
        rfl
      | false =>
        refine Or.inr ?_
        rw [keyAdded, he]
        rfl

def finishing (user : Nat) (p : Props) (s1 : St) (chunks : List Term) (data : Data) : Taken :=
  ⟨user, p, chunks, data, nonce s1.next, nonce (s1.next + 1)⟩

theorem step_snapshot_eq (s : St) (user : Nat) (chunks : List Term) (data : Data) :
    step s (.snapshot user chunks data) =
      match s.users[user]? with
      | none => s
      | some u => finishSnapshot (u.props s.encrypted) s.encrypted (chunks.foldl (putChunk (u.props s.encrypted)) s) chunks data := by
  simp only [step]
  cases s.users[user]? <;> rfl

theorem takenBy_snapshot {s : St} {user : Nat} {u : User} (hu : s.users[user]? = some u) (chunks : List Term) (data : Data) :
    takenBy s (.snapshot user chunks data) =
      [finishing user (u.props s.encrypted) (chunks.foldl (putChunk (u.props s.encrypted)) s) chunks data] := by
  simp only [takenBy, hu]
  rfl

theorem finishSnapshot_users (p : Props) (en : Bool) (s1 : St) (chunks : List Term) (data : Data) :
    (finishSnapshot p en s1 chunks data).users = s1.users := by
  cases en <;> rfl

theorem finishSnapshot_encrypted (p : Props) (en : Bool) (s1 : St) (chunks : List Term) (data : Data) :
    (finishSnapshot p en s1 chunks data).encrypted = s1.encrypted := by
  cases en <;> rfl

theorem finishSnapshot_next (p : Props) (en : Bool) (s1 : St) (chunks : List Term) (data : Data) :
    s1.next ≤ (finishSnapshot p en s1 chunks data).next := by
  cases en
  · exact Nat.le_refl _
  · exact Nat.le_add_right _ 2

theorem finishSnapshot_store (user : Nat) (p : Props) (en : Bool) (s1 : St) (chunks : List Term) (data : Data) :
    (finishSnapshot p en s1 chunks data).store =
      s1.store.filter (fun e => e.1 ≠ (finishing user p s1 chunks data).loc) ++
        [((finishing user p s1 chunks data).loc, (finishing user p s1 chunks data).stored)] := by
  cases en <;> rfl

theorem finishSnapshot_log (user : Nat) (p : Props) (en : Bool) (s1 : St) (chunks : List Term) (data : Data) :
    (finishSnapshot p en s1 chunks data).log =
      s1.log ++ [((finishing user p s1 chunks data).loc, (finishing user p s1 chunks data).stored)] := by
  cases en <;> rfl

theorem putChunkAns_honest (p : Props) (s : St) (c : Term) : putChunkAnsWith true p s c none = putChunk p s c := by
  unfold putChunkAnsWith putChunk queuedWith
  simp only [if_true]
  cases hl : lookup (if p.encrypted = true then
      { s with next := s.next + 1, uses := s.uses ++ [(subKey p (if Gen.chunkWriteKeyFromDigest then digest c else nil), nonce s.next)] }
    else s).store (chunkLoc p (digest c)) with
  | some o => simp [answered]
  | none =>
    simp only [answered, Option.getD_none, Option.isSome_none, Bool.false_eq_true, if_false]
    rw [filter_ne_of_lookup_none _ _ hl]

theorem evChunks_honest (cs : List Term) : evChunks (honestEvs cs) = cs := by
  induction cs with
  | nil => rfl
  | cons c cs ih => simp only [honestEvs, List.map_cons, evChunks] at ih ⊢; rw [ih]

theorem foldl_honest (p : Props) (cs : List Term) (s : St) :
    (honestEvs cs).foldl (evStepWith true p) s = cs.foldl (putChunk p) s := by
  induction cs generalizing s with
  | nil => rfl
  | cons c cs ih =>
    simp only [honestEvs, List.map_cons, List.foldl_cons, evStepWith] at ih ⊢
    rw [putChunkAns_honest, ih]

theorem snapshotEv_honest (s : St) (user : Nat) (chunks : List Term) (data : Data) :
    snapshotEvWith true s user (honestEvs chunks) data = step s (.snapshot user chunks data) := by
  rw [step_snapshot_eq]
  unfold snapshotEvWith
  cases s.users[user]? with
  | none => rfl
  | some u => simp only [foldl_honest, evChunks_honest]

theorem putChunkAns_encrypted (q : Bool) (p : Props) (s : St) (c : Term) (ans : Option Bool) :
    (putChunkAnsWith q p s c ans).encrypted = s.encrypted := by
  -- the result is `s1`, or `s1` with another store and log, where `s1` is `s`, or `s` with another supply and `uses`
  have h : ∀ (s1 : St) (b : Bool) (st lg : Store),
      (if b then s1 else { s1 with store := st, log := lg }).encrypted = s1.encrypted :=
    fun s1 b st lg => by cases b <;> rfl
  unfold putChunkAnsWith
  refine (h _ _ _ _).trans ?_
  cases p.encrypted <;> rfl

theorem evs_encrypted (q : Bool) (p : Props) (evs : List Ev) (s : St) : (evs.foldl (evStepWith q p) s).encrypted = s.encrypted := by
  refine foldl_inv (P := fun s' : St => s'.encrypted = s.encrypted) (fun s' e _ h => ?_) rfl
  cases e with
  | chunk c ans => exact (putChunkAns_encrypted q p s' c ans).trans h
  | vanish locs => exact h

theorem step_encrypted (s : St) (op : Op) : (step s op).encrypted = s.encrypted := by
  cases op with
  | addKey base shared kdfcfg shcfg pw =>
    rcases step_addKey s base shared kdfcfg shcfg pw with h | ⟨_, ⟨_, _, h⟩ | h⟩ <;> rw [h] <;> rfl
  | snapshot user chunks data =>
    rw [step_snapshot_eq]
    cases s.users[user]? with
    | none => rfl
    | some u => exact (finishSnapshot_encrypted ..).trans (putChunks_encrypted ..)
  | remove locs => rfl

theorem stepB_encrypted (q : Bool) (s : St) (op : BOp) : (stepBWith q s op).encrypted = s.encrypted := by
  cases op with
  | plain op => exact step_encrypted s op
  | snapshotEv user evs data =>
    simp only [stepBWith, snapshotEvWith]
    cases s.users[user]? with
    | none => rfl
    | some u => exact (finishSnapshot_encrypted ..).trans (evs_encrypted ..)

theorem initSt_encrypted (a : InitArgs) : (initSt a).encrypted = a.encrypted := by
  unfold initSt
  cases a.encrypted <;> rfl

theorem run_encrypted (a : InitArgs) (ops : List Op) : (run a ops).encrypted = a.encrypted :=
  foldl_inv (P := fun s => s.encrypted = a.encrypted) (fun s op _ h => (step_encrypted s op).trans h) (initSt_encrypted a)

theorem stepView_encrypted (s : St) (v : Bool) (op : Op) : (stepView s v op).encrypted = s.encrypted := rfl

theorem St.set_encrypted_self (s : St) {b : Bool} (h : s.encrypted = b) : { s with encrypted := b } = s := by
  subst h
  rfl

theorem stepView_faithful (s : St) (op : Op) : stepView s s.encrypted op = step s op :=
  St.set_encrypted_self _ (step_encrypted s op)

theorem stepViewB_faithful (q : Bool) (s : St) (op : BOp) : stepViewBWith q s s.encrypted op = stepBWith q s op :=
  St.set_encrypted_self _ (stepB_encrypted q s op)

theorem foldl_view_faithful (ops : List (Bool × Op)) (s : St) (h : ∀ vo ∈ ops, vo.1 = s.encrypted) :
    ops.foldl (fun s vo => stepView s vo.1 vo.2) s = (ops.map (·.2)).foldl step s := by
  induction ops generalizing s with
  | nil => rfl
  | cons vo ops ih =>
    have h0 : vo.1 = s.encrypted := h vo (by simp)
    simp only [List.foldl_cons, List.map_cons]
    rw [h0, stepView_faithful]
    apply ih
    intro vo' hvo'
    rw [step_encrypted]
    exact h vo' (List.mem_cons_of_mem _ hvo')

end Replicat.Sym
