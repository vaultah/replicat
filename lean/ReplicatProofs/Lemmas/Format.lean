import ReplicatModel.Format
/-! Python's `posixpath.join`, `rpartition`, `rsplit` as modelled in `ReplicatModel/Format.lean`, and the round trip for a
location with any number of tag components. -/
namespace Replicat.Format
open List

theorem takeWhile_append_stop {α : Type} (p : α → Bool) (a : List α) (c : α) (r : List α)
    (ha : ∀ x ∈ a, p x = true) (hc : p c = false) : (a ++ c :: r).takeWhile p = a := by
  rw [takeWhile_append_of_pos ha, takeWhile_cons_of_neg (Bool.not_eq_true _ ▸ hc), append_nil]

theorem dropWhile_append_stop {α : Type} (p : α → Bool) (a : List α) (c : α) (r : List α)
    (ha : ∀ x ∈ a, p x = true) (hc : p c = false) : (a ++ c :: r).dropWhile p = c :: r := by
  rw [dropWhile_append_of_pos ha, dropWhile_cons_of_neg (Bool.not_eq_true _ ▸ hc)]

theorem dropWhile_all {α : Type} (p : α → Bool) (a : List α) (ha : ∀ x ∈ a, p x = true) : a.dropWhile p = [] := by
  rw [← append_nil a, dropWhile_append_of_pos ha]
  rfl

/-- `(x + sep + name).rpartition(sep)` when `name` has no `sep` -/
theorem rpartition_append (sep : Char) (x name : Str) (hn : ∀ ch ∈ name, ch ≠ sep) :
    rpartition sep (x ++ sep :: name) = (x, name) := by
  unfold rpartition
  have hrev : (x ++ sep :: name).reverse = name.reverse ++ sep :: x.reverse := by simp
  have hall : ∀ ch ∈ name.reverse, (ch != sep) = true := by
    intro ch hch
    simpa using hn ch (mem_reverse.mp hch)
  rw [hrev, dropWhile_append_stop _ _ _ _ hall (by simp), takeWhile_append_stop _ _ _ _ hall (by simp)]
  simp

theorem lsplit_step (sep : Char) (n : Nat) (a r : Str) (ha : ∀ ch ∈ a, ch ≠ sep) :
    lsplit sep (n + 1) (a ++ sep :: r) = a :: lsplit sep n r := by
  have hall : ∀ ch ∈ a, (ch != sep) = true := by
    intro ch hch
    simpa using ha ch hch
  simp only [lsplit]
  rw [dropWhile_append_stop _ _ _ _ hall (by simp), takeWhile_append_stop _ _ _ _ hall (by simp)]

theorem rsplit_zero (sep : Char) (s : Str) : rsplit sep 0 s = [s] := by
  unfold rsplit lsplit
  rw [map_singleton, reverse_singleton, reverse_reverse]

theorem rsplit_snoc (sep : Char) (n : Nat) (x b : Str) (hb : ∀ ch ∈ b, ch ≠ sep) :
    rsplit sep (n + 1) (x ++ sep :: b) = rsplit sep n x ++ [b] := by
  unfold rsplit
  rw [reverse_append, reverse_cons, append_assoc, singleton_append,
    lsplit_step _ _ _ _ (fun ch hch => hb ch (mem_reverse.mp hch)), map_cons, reverse_cons, reverse_reverse]

theorem rsplit_joined (sep : Char) (k : Nat) (a : Str) (ps : List Str) (hps : ∀ p ∈ ps, ∀ ch ∈ p, ch ≠ sep) :
    rsplit sep (k + ps.length) (ps.foldl (fun acc b => acc ++ sep :: b) a) = rsplit sep k a ++ ps := by
  induction ps generalizing a k with
  | nil =>
    rw [append_nil]
    rfl
  | cons p ps ih =>
    rw [foldl_cons, length_cons, ← Nat.add_assoc, Nat.add_right_comm, ih (k + 1) _ (fun q hq => hps q (mem_cons_of_mem _ hq)),
      rsplit_snoc _ _ _ _ (hps p mem_cons_self), append_assoc, singleton_append]

theorem joinStep_after_slash (p0 b : Str) (hb : b.head? ≠ some '/') : joinStep (p0 ++ ['/']) b = p0 ++ '/' :: b := by
  unfold joinStep
  have : (b.head? == some '/') = false := by simpa using hb
  simp [this]

theorem joinStep_after_char (path b : Str) (hb : b.head? ≠ some '/') (hne : path ≠ []) (hl : path.getLast? ≠ some '/') :
    joinStep path b = path ++ '/' :: b := by
  unfold joinStep
  have h1 : (b.head? == some '/') = false := by simpa using hb
  have h2 : path.isEmpty = false := by simpa using hne
  have h3 : (path.getLast? == some '/') = false := by simpa using hl
  simp [h1, h2, h3]

theorem head?_ne_of_all (b : Str) (c : Char) (h : ∀ ch ∈ b, ch ≠ c) : b.head? ≠ some c := by
  cases b with
  | nil => simp
  | cons x xs => simpa using h x (by simp)

theorem getLast?_append_ne (a b : Str) (c : Char) (hb : b ≠ []) (h : ∀ ch ∈ b, ch ≠ c) : (a ++ b).getLast? ≠ some c := by
  rw [getLast?_append]
  cases hl : b.getLast? with
  | none => exact absurd (getLast?_eq_none_iff.mp hl) hb
  | some x =>
    intro heq
    simp at heq
    subst heq
    exact h x (mem_of_getLast? hl) rfl

theorem slice_parts (tag : Str) (k1 k2 : Nat) (h : k1 ≤ k2) : slice tag 0 k1 ++ (slice tag k1 k2 ++ tag.drop k2) = tag := by
  unfold slice
  simp only [drop_zero]
  have : take k1 tag = take k1 (take k2 tag) := by rw [take_take]; congr 1; omega
  rw [this, ← append_assoc, take_append_drop, take_append_drop]

theorem mem_slice {tag : Str} {i j : Nat} {ch : Char} (h : ch ∈ slice tag i j) : ch ∈ tag :=
  mem_of_mem_take (mem_of_mem_drop h)

theorem slice_ne_nil (tag : Str) (i j : Nat) (h1 : i < j) (h2 : i < tag.length) : slice tag i j ≠ [] := by
  unfold slice
  intro h
  have := congrArg List.length h
  simp at this
  omega

theorem joined_prefix (a : Str) (ps : List Str) : ∃ t, ps.foldl (fun acc b => acc ++ '/' :: b) a = a ++ t := by
  induction ps generalizing a with
  | nil => exact ⟨[], (append_nil a).symm⟩
  | cons p ps ih =>
    obtain ⟨t, ht⟩ := ih (a ++ '/' :: p)
    exact ⟨'/' :: p ++ t, by rw [foldl_cons, ht, append_assoc]⟩

theorem foldl_joinStep (a : Str) (qs : List Str) (hne : a ≠ []) (hl : a.getLast? ≠ some '/')
    (hqs : ∀ q ∈ qs, q ≠ [] ∧ ∀ ch ∈ q, ch ≠ '/') :
    qs.foldl joinStep a = qs.foldl (fun acc b => acc ++ '/' :: b) a ∧
      qs.foldl joinStep a ≠ [] ∧ (qs.foldl joinStep a).getLast? ≠ some '/' := by
  induction qs generalizing a with
  | nil => exact ⟨rfl, hne, hl⟩
  | cons q qs ih =>
    obtain ⟨hq1, hq2⟩ := hqs q mem_cons_self
    rw [foldl_cons, foldl_cons, joinStep_after_char a q (head?_ne_of_all q '/' hq2) hne hl]
    refine ih _ (append_ne_nil_of_right_ne_nil _ (cons_ne_nil _ _)) ?_ (fun q' hq' => hqs q' (mem_cons_of_mem _ hq'))
    rw [← singleton_append, ← append_assoc]
    exact getLast?_append_ne _ q '/' hq1 hq2

theorem pjoin_parts (pre0 c : Str) (qs : List Str) (last : Str) (hc : c ≠ [] ∧ ∀ ch ∈ c, ch ≠ '/')
    (hqs : ∀ q ∈ qs, q ≠ [] ∧ ∀ ch ∈ q, ch ≠ '/') (hlast : last.head? ≠ some '/') :
    pjoin (pre0 ++ ['/']) (c :: (qs ++ [last])) = qs.foldl (fun acc b => acc ++ '/' :: b) (pre0 ++ '/' :: c) ++ '/' :: last := by
  unfold pjoin
  have hl : (pre0 ++ '/' :: c).getLast? ≠ some '/' := by
    rw [← singleton_append, ← append_assoc]
    exact getLast?_append_ne _ c '/' hc.1 hc.2
  obtain ⟨h1, h2, h3⟩ := foldl_joinStep (pre0 ++ '/' :: c) qs (append_ne_nil_of_right_ne_nil _ (cons_ne_nil _ _)) hl hqs
  rw [foldl_cons, joinStep_after_slash _ _ (head?_ne_of_all _ _ hc.2), foldl_append, foldl_cons, foldl_nil,
    joinStep_after_char _ _ hlast h2 h3, h1]

/-- **Round trip for a location with any number (≥ 2) of tag components** -/
theorem roundtrip (pre0 name c : Str) (qs : List Str) (rest tag : Str) (idx : List Nat) (hc : c ≠ [] ∧ ∀ ch ∈ c, ch ≠ '/')
    (hqs : ∀ q ∈ qs, q ≠ [] ∧ ∀ ch ∈ q, ch ≠ '/') (hrest : ∀ ch ∈ rest, ch ≠ '/') (hname : ∀ ch ∈ name, ch ≠ '-')
    (hpick : pickParts (pre0 :: c :: (qs ++ [rest])) idx = some tag) :
    parseLocation (pre0 ++ ['/']) '-' '/' (qs.length + 2) idx
      (pjoin (pre0 ++ ['/']) (c :: (qs ++ [rest ++ '-' :: name]))) = .ok (name, tag) := by
  have hhead : (rest ++ '-' :: name).head? ≠ some '/' := by
    cases rest with
    | nil => exact fun h => nomatch h
    | cons x xs => exact fun h => hrest x mem_cons_self (Option.some.inj h)
  rw [pjoin_parts pre0 c qs _ hc hqs hhead]
  have hloc : qs.foldl (fun acc b => acc ++ '/' :: b) (pre0 ++ '/' :: c) ++ '/' :: (rest ++ '-' :: name)
      = (c :: (qs ++ [rest])).foldl (fun acc b => acc ++ '/' :: b) pre0 ++ '-' :: name := by
    rw [foldl_cons, foldl_append, foldl_cons, foldl_nil, append_assoc, cons_append]
  obtain ⟨t, ht⟩ := joined_prefix (pre0 ++ '/' :: c) (qs ++ [rest])
  have hpre : (pre0 ++ ['/']).isPrefixOf ((c :: (qs ++ [rest])).foldl (fun acc b => acc ++ '/' :: b) pre0 ++ '-' :: name) = true := by
    rw [isPrefixOf_iff_prefix, foldl_cons, ht]
    exact ⟨c ++ t ++ '-' :: name, by simp only [append_assoc, cons_append, nil_append]⟩
  have hsplit := rsplit_joined '/' 0 pre0 (c :: (qs ++ [rest])) (by
    intro p hp
    rcases mem_cons.mp hp with rfl | hp
    · exact hc.2
    · rcases mem_append.mp hp with hp | hp
      · exact (hqs p hp).2
      · rw [mem_singleton.mp hp]
        exact hrest)
  rw [Nat.zero_add, rsplit_zero, length_cons, length_append, length_singleton, singleton_append] at hsplit
  unfold parseLocation
  rw [hloc, hpre, rpartition_append '-' _ name hname]
  show (match pickParts (rsplit '/' (qs.length + 2) _) idx with | some tag => _ | none => _) = _
  rw [hsplit, hpick]

theorem isHex_ne (ch : Char) (h : isHex ch = true) : ch ≠ '-' ∧ ch ≠ '/' := by
  constructor <;> (intro heq; subst heq; revert h; decide)

end Replicat.Format
