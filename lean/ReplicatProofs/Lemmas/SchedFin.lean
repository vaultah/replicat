import ReplicatProofs.Lemmas.Sched
/-!
Helper lemmas for C09, system S3/loaders: pending digest sets and the finaliser of `Repository.restore._download_chunk`,
for the code that decides `finished` under the lock (`underLock = true`).
-/
namespace Replicat.Sched
open List

theorem lookup_some {L : List Loader} {d : Nat} {l : Loader} (h : lookupLoader L d = some l) : l ∈ L ∧ l.d = d := by
  unfold lookupLoader at h
  exact ⟨mem_of_find?_eq_some h, by simpa using find?_some h⟩

theorem lookup_of_mem {L : List Loader} {l : Loader} (hn : (L.map (·.d)).Nodup) (hl : l ∈ L) : lookupLoader L l.d = some l := by
  induction L with
  | nil => cases hl
  | cons a t ih =>
    rw [lookupLoader, find?_cons]
    rcases mem_cons.mp hl with rfl | h1
    · rw [beq_self_eq_true]
    · have hne : a.d ≠ l.d := fun e => (nodup_cons.mp hn).1 (mem_map.mpr ⟨l, h1, e.symm⟩)
      rw [beq_false_of_ne hne]
      exact ih (nodup_cons.mp hn).2 h1

/-- the files whose pending set still contains this loader's digest -/
def owes (l : Loader) : LPhase → List Nat
  | .dl => l.paths
  | .writing _ => l.paths
  | .fin t => t
  | .removed _ t => t
  | .popping _ t => t
  | .done => []
  | .failed => []

theorem owes_of_not_past {l : Loader} {ph : LPhase} (h : pastWriting ph = false) : owes l ph = l.paths := by
  cases ph with
  | dl => rfl
  | writing _ => rfl
  | _ => cases h

def owesD (L : List Loader) (phase : Nat → LPhase) (d : Nat) : List Nat :=
  match lookupLoader L d with
  | some l => owes l (phase d)
  | none => []

def popsD (phase : Nat → LPhase) (d : Nat) : Option Nat := poppingFile (phase d)

theorem owesD_setAt {L : List Loader} {d : Nat} {l : Loader} (hl : lookupLoader L d = some l) (phase : Nat → LPhase) (p : LPhase) :
    owesD L (setAt phase d p) = setAt (owesD L phase) d (owes l p) := by
  funext x
  by_cases hx : x = d
  · subst hx
    simp only [owesD, hl, setAt_same]
  · simp only [owesD, setAt_other hx]

theorem popsD_setAt (phase : Nat → LPhase) (d : Nat) (p : LPhase) : popsD (setAt phase d p) = setAt (popsD phase) d (poppingFile p) :=
  funext fun x => setAt_forall (P := fun x q => poppingFile q = setAt (popsD phase) d (poppingFile p) x) (setAt_same ..).symm
    (fun _ hx => (setAt_other (f := popsD phase) hx).symm) x

/-- *claimed*: by the one loader that found the pending set empty and is about to finalise the file.  `pp d` = the file loader `d`
is about to finalise. -/
inductive FileSt (L : List Loader) (pp : Nat → Option Nat) (pd : Nat → List Nat) (cnt : Nat → Nat) (f : Nat) : Prop
  | opened (h0 : cnt f = 0) (hp : ∀ d, pp d ≠ some f) (he : pd f = [] → pending₀ L f = [])
  | claimed (d : Nat) (h0 : cnt f = 0) (he : pd f = []) (hp : ∀ d', pp d' = some f ↔ d' = d)
  | finalised (h1 : cnt f = 1) (he : pd f = []) (hp : ∀ d, pp d ≠ some f)

theorem fileSt_congr {L : List Loader} {pp pp' : Nat → Option Nat} {pd pd' : Nat → List Nat} {cnt cnt' : Nat → Nat} {f : Nat}
    (h : FileSt L pp pd cnt f) (hpp : ∀ d, pp' d = some f ↔ pp d = some f) (hpd : pd' f = pd f) (hc : cnt' f = cnt f) :
    FileSt L pp' pd' cnt' f := by
  cases h with
  | opened h0 hp he => exact .opened (hc.trans h0) (fun d hd => hp d ((hpp d).mp hd)) fun e => he (hpd ▸ e)
  | claimed d h0 he hp => exact .claimed d (hc.trans h0) (hpd.trans he) fun d' => (hpp d').trans (hp d')
  | finalised h1 he hp => exact .finalised (hc.trans h1) (hpd.trans he) fun d hd => hp d ((hpp d).mp hd)

/-- The part of the invariant that sees the phases only through what a loader still owes (`ow d`: the files whose pending set holds
its digest) and what it is about to finalise (`pp d`). -/
structure Core (L : List Loader) (ow : Nat → List Nat) (pp : Nat → Option Nat) (pd : Nat → List Nat) (hm : Nat → Bool)
    (cnt : Nat → Nat) : Prop where
  owes_nodup : ∀ d, (ow d).Nodup
  pend : ∀ f d, d ∈ pd f ↔ f ∈ ow d
  pend_nodup : ∀ f, (pd f).Nodup
  hmeta : ∀ f, hm f = true ↔ cnt f = 0
  file : ∀ f, FileSt L pp pd cnt f

abbrev FinCore (L : List Loader) (σ : Fin) : Prop :=
  Core L (owesD L σ.phase) (popsD σ.phase) σ.pending σ.hasMeta σ.finCount

structure FinAux (L : List Loader) (σ : Fin) : Prop where
  absent : ∀ d, lookupLoader L d = none → σ.phase d = .done
  nofail : ∀ d, σ.phase d ≠ .failed
  norem : ∀ d f t, σ.phase d ≠ .removed f t
  owes_sub : ∀ d l, lookupLoader L d = some l → ∀ f ∈ owes l (σ.phase d), f ∈ l.paths
  wr : ∀ d l, lookupLoader L d = some l →
    (σ.phase d = .dl → σ.written d = []) ∧ (∀ t, σ.phase d = .writing t → (σ.written d ++ t) ~ l.refs) ∧
    (pastWriting (σ.phase d) = true → σ.written d ~ l.refs)

theorem finCore_setAt {L : List Loader} {phase : Nat → LPhase} {d : Nat} {l : Loader} {p : LPhase} {pd : Nat → List Nat}
    {hm : Nat → Bool} {cnt : Nat → Nat} (hl : lookupLoader L d = some l)
    (h : Core L (setAt (owesD L phase) d (owes l p)) (setAt (popsD phase) d (poppingFile p)) pd hm cnt) :
    Core L (owesD L (setAt phase d p)) (popsD (setAt phase d p)) pd hm cnt := by
  rw [owesD_setAt hl, popsD_setAt]
  exact h

theorem core_frame {L : List Loader} {σ : Fin} {d : Nat} {l : Loader} {p : LPhase} (hc : FinCore L σ)
    (hl : lookupLoader L d = some l) (ho : owes l p = owes l (σ.phase d)) (hp : poppingFile p = poppingFile (σ.phase d)) :
    Core L (owesD L (setAt σ.phase d p)) (popsD (setAt σ.phase d p)) σ.pending σ.hasMeta σ.finCount := by
  refine finCore_setAt hl ?_
  have hod : owes l (σ.phase d) = owesD L σ.phase d := by simp only [owesD, hl]
  rw [ho, hod, setAt_eq_self, hp]
  show Core L _ (setAt (popsD σ.phase) d (popsD σ.phase d)) _ _ _
  rw [setAt_eq_self]
  exact hc

theorem mem_pending₀ {L : List Loader} (hn : (L.map (·.d)).Nodup) (f d : Nat) :
    d ∈ pending₀ L f ↔ ∃ l, lookupLoader L d = some l ∧ f ∈ l.paths := by
  simp only [pending₀, mem_map, mem_filter, contains_iff_mem]
  constructor
  · rintro ⟨l, ⟨hl, hf⟩, rfl⟩
    exact ⟨l, lookup_of_mem hn hl, hf⟩
  · rintro ⟨l, hl, hf⟩
    obtain ⟨h1, h2⟩ := lookup_some hl
    exact ⟨l, ⟨h1, hf⟩, h2⟩

theorem fin_init_core (L : List Loader) (hwf : LoadersWF L) : FinCore L (Fin.init L) := by
  obtain ⟨hn, hl⟩ := hwf
  have hpop : ∀ d, popsD (Fin.init L).phase d = none := by
    intro d
    simp only [popsD, Fin.init]
    cases lookupLoader L d <;> rfl
  have howes : ∀ d, owesD L (Fin.init L).phase d = match lookupLoader L d with | some l => l.paths | none => [] := by
    intro d
    unfold owesD
    cases h : lookupLoader L d with
    | none => rfl
    | some l => simp only [Fin.init, h, owes]
  refine ⟨fun d => ?_, fun f d => ?_, fun f => hn.sublist (filter_sublist.map _), fun f => ⟨fun _ => rfl, fun _ => rfl⟩,
    fun f => .opened rfl (fun d hd => nomatch (hpop d).symm.trans hd) id⟩
  · rw [howes]
    cases h : lookupLoader L d with
    | none => exact nodup_nil
    | some l => exact (hl l (lookup_some h).1).1
  · rw [howes]
    show d ∈ pending₀ L f ↔ _
    rw [mem_pending₀ hn]
    cases h : lookupLoader L d with
    | none => simp
    | some l => simp

structure AuxAt (L : List Loader) (d : Nat) (ph : LPhase) (w : List Nat) : Prop where
  absent : lookupLoader L d = none → ph = .done
  nofail : ph ≠ .failed
  norem : ∀ f t, ph ≠ .removed f t
  owes_sub : ∀ l, lookupLoader L d = some l → ∀ f ∈ owes l ph, f ∈ l.paths
  wr : ∀ l, lookupLoader L d = some l →
    (ph = .dl → w = []) ∧ (∀ t, ph = .writing t → (w ++ t) ~ l.refs) ∧ (pastWriting ph = true → w ~ l.refs)

theorem finAux_at {L : List Loader} {σ : Fin} (h : FinAux L σ) (d : Nat) : AuxAt L d (σ.phase d) (σ.written d) :=
  ⟨h.absent d, h.nofail d, h.norem d, h.owes_sub d, h.wr d⟩

theorem finAux_of_at {L : List Loader} {σ : Fin} (h : ∀ d, AuxAt L d (σ.phase d) (σ.written d)) : FinAux L σ :=
  ⟨fun d => (h d).absent, fun d => (h d).nofail, fun d => (h d).norem, fun d => (h d).owes_sub, fun d => (h d).wr⟩

theorem lookup_of_not_done {L : List Loader} {σ : Fin} (h : FinAux L σ) {d : Nat} (hd : σ.phase d ≠ .done) :
    ∃ l, lookupLoader L d = some l := by
  cases hl : lookupLoader L d with
  | none => exact absurd (h.absent d hl) hd
  | some l => exact ⟨l, rfl⟩

theorem auxAt_of_lookup {L : List Loader} {d : Nat} {l : Loader} {ph : LPhase} {w : List Nat} (hl : lookupLoader L d = some l)
    (hnf : ph ≠ .failed) (hnr : ∀ f t, ph ≠ .removed f t) (hsub : ∀ f ∈ owes l ph, f ∈ l.paths)
    (hwr : (ph = .dl → w = []) ∧ (∀ t, ph = .writing t → (w ++ t) ~ l.refs) ∧ (pastWriting ph = true → w ~ l.refs)) :
    AuxAt L d ph w :=
  ⟨fun hn => (nomatch hl.symm.trans hn), hnf, hnr, fun _ hl' => Option.some.inj (hl.symm.trans hl') ▸ hsub,
    fun _ hl' => Option.some.inj (hl.symm.trans hl') ▸ hwr⟩

theorem fin_init_aux (L : List Loader) : FinAux L (Fin.init L) := by
  refine finAux_of_at fun d => ?_
  show AuxAt L d (match lookupLoader L d with | some _ => .dl | none => .done) []
  cases hl : lookupLoader L d with
  | none => exact ⟨fun _ => rfl, nofun, fun _ _ => nofun, fun _ h => (nomatch hl.symm.trans h), fun _ h => (nomatch hl.symm.trans h)⟩
  | some l => exact auxAt_of_lookup hl nofun (fun _ _ => nofun) (fun f hf => hf) ⟨fun _ => rfl, nofun, nofun⟩

theorem auxAt_past {L : List Loader} {d : Nat} {l : Loader} {ph ph' : LPhase} {w : List Nat} (h : AuxAt L d ph w)
    (hl : lookupLoader L d = some l) (hp : pastWriting ph = true) (hp' : pastWriting ph' = true) (hnf : ph' ≠ .failed)
    (hnr : ∀ f t, ph' ≠ .removed f t) (hsub : ∀ f ∈ owes l ph', f ∈ owes l ph) : AuxAt L d ph' w := by
  refine auxAt_of_lookup hl hnf hnr (fun f hf => h.owes_sub l hl f (hsub f hf)) ⟨fun e => ?_, fun t e => ?_, fun _ => (h.wr l hl).2.2 hp⟩
  · rw [e] at hp'
    cases hp'
  · rw [e] at hp'
    cases hp'

theorem finAux_setAt {L : List Loader} {σ : Fin} {d : Nat} {p : LPhase} {pd : Nat → List Nat} {hm : Nat → Bool} {cnt : Nat → Nat}
    (ha : FinAux L σ) (h : AuxAt L d p (σ.written d)) : FinAux L ⟨setAt σ.phase d p, pd, hm, cnt, σ.written⟩ :=
  finAux_of_at (setAt_forall (P := fun x q => AuxAt L x q (σ.written x)) h fun x _ => finAux_at ha x)

/-- `remove` under the lock; `v = some f` exactly when `d` has emptied the pending set of `f` -/
theorem core_remove {L : List Loader} {ow : Nat → List Nat} {pp : Nat → Option Nat} {pd : Nat → List Nat} {hm : Nat → Bool}
    {cnt : Nat → Nat} (hc : Core L ow pp pd hm cnt) {d f : Nat} (hmem : f ∈ ow d) (hnp : pp d = none) (v : Option Nat)
    (hv1 : (pd f).erase d = [] → v = some f) (hv2 : (pd f).erase d ≠ [] → v = none) :
    Core L (setAt ow d ((ow d).erase f)) (setAt pp d v) (setAt pd f ((pd f).erase d)) hm cnt := by
  obtain ⟨c1, c2, c3, c6, c7⟩ := hc
  have hpne : pd f ≠ [] := ne_nil_of_mem ((c2 f d).mpr hmem)
  refine ⟨setAt_forall ((c1 d).erase f) fun x _ => c1 x, fun g x => ?_, setAt_forall ((c3 f).erase d) fun g _ => c3 g, c6, fun g => ?_⟩
  · refine setAt_forall (P := fun g l => x ∈ l ↔ g ∈ setAt ow d ((ow d).erase f) x) ?_ (fun g hg => ?_) g
    · exact setAt_forall (P := fun x l => x ∈ (pd f).erase d ↔ f ∈ l)
        ⟨fun h => absurd rfl ((c3 f).mem_erase_iff.mp h).1, fun h => absurd rfl ((c1 d).mem_erase_iff.mp h).1⟩
        (fun x hx => (mem_erase_of_ne hx).trans (c2 f x)) x
    · exact setAt_forall (P := fun x l => x ∈ pd g ↔ g ∈ l) ((c2 g d).trans (mem_erase_of_ne hg).symm) (fun x _ => c2 g x) x
  · by_cases hg : g = f
    · subst hg
      cases c7 g with
      | claimed _ _ he _ => exact absurd he hpne
      | finalised _ he _ => exact absurd he hpne
      | opened h0 hp he =>
        by_cases hemp : (pd g).erase d = []
        · exact .claimed d h0 ((setAt_same ..).trans hemp) fun d' =>
            setAt_forall (P := fun d' o => o = some g ↔ d' = d) ⟨fun _ => rfl, fun _ => hv1 hemp⟩
              (fun x hx => ⟨fun h => absurd h (hp x), fun h => absurd h hx⟩) d'
        · exact .opened h0 (setAt_forall (P := fun _ o => o ≠ some g) (hv2 hemp ▸ nofun) fun x _ => hp x)
            fun e => absurd ((setAt_same ..).symm.trans e) hemp
    · have hv : v ≠ some g := by
        by_cases hemp : (pd f).erase d = []
        · exact hv1 hemp ▸ fun e => hg (Option.some.inj e).symm
        · exact hv2 hemp ▸ nofun
      exact fileSt_congr (c7 g) (setAt_eq_iff_of_ne (hnp ▸ nofun) hv) (setAt_other hg) rfl

/-- `pop`: the loader that has claimed `g` finalises it -/
theorem core_pop {L : List Loader} {ow : Nat → List Nat} {pp : Nat → Option Nat} {pd : Nat → List Nat} {hm : Nat → Bool}
    {cnt : Nat → Nat} (hc : Core L ow pp pd hm cnt) {d g : Nat} (hpd : pp d = some g) :
    Core L ow (setAt pp d none) pd (setAt hm g false) (setAt cnt g (cnt g + 1)) := by
  obtain ⟨c1, c2, c3, c6, c7⟩ := hc
  refine ⟨c1, c2, c3, setAt_forall₂ (P := fun _ (m : Bool) (c : Nat) => m = true ↔ c = 0) ⟨nofun, nofun⟩ fun h _ => c6 h, fun h => ?_⟩
  by_cases hh : h = g
  · subst hh
    cases c7 h with
    | opened _ hp _ => exact absurd hpd (hp d)
    | finalised _ _ hp => exact absurd hpd (hp d)
    | claimed d0 h0 he hp =>
      cases (hp d).mp hpd
      exact .finalised ((setAt_same ..).trans (congrArg (· + 1) h0)) he
        (setAt_forall (P := fun _ o => o ≠ some h) nofun fun x hx hpx => hx ((hp x).mp hpx))
  · exact fileSt_congr (c7 h) (setAt_eq_iff_of_ne (hpd ▸ fun e => hh (Option.some.inj e).symm) nofun) rfl (setAt_other hh)

theorem fin_step_inv (L : List Loader) (σ : Fin) (e : FinEv) (σ' : Fin)
    (h : FinCore L σ ∧ FinAux L σ) (hs : Fin.step true L σ e = some σ') : FinCore L σ' ∧ FinAux L σ' := by
  obtain ⟨hc, ha⟩ := h
  cases e with
  | downloaded d =>
    simp only [Fin.step] at hs
    split at hs
    · rename_i l hl hph
      cases hs
      refine ⟨core_frame hc hl (hph ▸ rfl) (hph ▸ rfl), finAux_setAt ha ?_⟩
      refine auxAt_of_lookup hl nofun (fun _ _ => nofun) (fun f hf => hf) ⟨nofun, fun t e => ?_, nofun⟩
      cases e
      rw [((finAux_at ha d).wr l hl).1 hph]
      exact Perm.refl _
    · cases hs
  | write d f =>
    simp only [Fin.step] at hs
    split at hs
    · rename_i todo hph
      obtain ⟨hmem, rfl⟩ := of_guarded hs
      obtain ⟨l, hl⟩ := lookup_of_not_done ha (d := d) (hph ▸ nofun)
      refine ⟨core_frame hc hl (hph ▸ rfl) (hph ▸ rfl),
        finAux_of_at (setAt_forall₂ (P := fun x p w => AuxAt L x p w) ?_ fun x _ => finAux_at ha x)⟩
      refine auxAt_of_lookup hl nofun (fun _ _ => nofun) (fun g hg => hg) ⟨nofun, fun t e => ?_, nofun⟩
      cases e
      exact (perm_middle.symm.trans ((perm_cons_erase hmem).symm.append_left _)).trans (((finAux_at ha d).wr l hl).2.1 todo hph)
    · cases hs
  | joined d =>
    simp only [Fin.step] at hs
    split at hs
    · rename_i l todo0 hl hph
      have hjoin : Gen.loaderJoinsWritersFirst = true := by decide
      obtain ⟨hemp, rfl⟩ := of_guarded hs
      rw [hjoin, Bool.not_true, Bool.or_false, isEmpty_iff] at hemp
      subst hemp
      refine ⟨core_frame hc hl (hph ▸ rfl) (hph ▸ rfl), finAux_setAt ha ?_⟩
      refine auxAt_of_lookup hl nofun (fun _ _ => nofun) (fun g hg => hg) ⟨nofun, nofun, fun _ => ?_⟩
      have h0 := ((finAux_at ha d).wr l hl).2.1 [] hph
      rwa [append_nil] at h0
    · cases hs
  | remove d f =>
    simp only [Fin.step] at hs
    split at hs
    · rename_i todo hph
      obtain ⟨hmem, hs⟩ := Option.ite_none_right_eq_some.mp hs
      rw [if_pos trivial] at hs
      obtain ⟨l, hl⟩ := lookup_of_not_done ha (d := d) (hph ▸ nofun)
      have hod : owesD L σ.phase d = todo := by simp only [owesD, hl, hph, owes]
      have hcore := fun v => core_remove hc (d := d) (f := f) (hod ▸ hmem) (congrArg poppingFile hph) v
      rw [hod] at hcore
      have haux : ∀ np, pastWriting np = true → np ≠ .failed → (∀ g t, np ≠ .removed g t) → owes l np = todo.erase f →
          AuxAt L d np (σ.written d) := fun np h1 h2 h3 h4 =>
        auxAt_past (finAux_at ha d) hl (hph ▸ rfl) h1 h2 h3 fun g hg => hph ▸ mem_of_mem_erase (h4 ▸ hg)
      by_cases hemp : ((σ.pending f).erase d).isEmpty = true
      · rw [if_pos hemp] at hs
        cases hs
        exact ⟨finCore_setAt hl (hcore (some f) (fun _ => rfl) fun h => absurd (isEmpty_iff.mp hemp) h),
          finAux_setAt ha (haux _ rfl nofun (fun _ _ => nofun) rfl)⟩
      · rw [if_neg hemp] at hs
        cases hs
        exact ⟨finCore_setAt hl (hcore none (fun h => absurd (isEmpty_iff.mpr h) hemp) fun _ => rfl),
          finAux_setAt ha (haux _ rfl nofun (fun _ _ => nofun) rfl)⟩
    · cases hs
  | test d f =>
    simp only [Fin.step] at hs
    split at hs
    · rename_i g todo hph
      exact absurd hph (ha.norem d g todo)
    · cases hs
  | pop d f =>
    simp only [Fin.step] at hs
    split at hs
    · rename_i g todo hph
      obtain ⟨rfl, hs⟩ := Option.ite_none_right_eq_some.mp hs
      have hpd : popsD σ.phase d = some g := congrArg poppingFile hph
      have hm : σ.hasMeta g = true := by
        cases hc.file g with
        | opened _ hp _ => exact absurd hpd (hp d)
        | finalised _ _ hp => exact absurd hpd (hp d)
        | claimed _ h0 _ _ => exact (hc.hmeta g).mpr h0
      rw [if_pos hm] at hs
      cases hs
      obtain ⟨l, hl⟩ := lookup_of_not_done ha (d := d) (hph ▸ nofun)
      have hod : owes l (.fin todo) = owesD L σ.phase d := by simp only [owesD, hl, hph, owes]
      refine ⟨finCore_setAt hl ?_,
        finAux_setAt ha (auxAt_past (finAux_at ha d) hl (hph ▸ rfl) rfl nofun (fun _ _ => nofun) fun h hh => hph ▸ hh)⟩
      rw [hod, setAt_eq_self]
      exact core_pop hc hpd
    · cases hs
  | finish d =>
    simp only [Fin.step] at hs
    split at hs
    · rename_i hph
      cases hs
      obtain ⟨l, hl⟩ := lookup_of_not_done ha (d := d) (hph ▸ nofun)
      exact ⟨core_frame hc hl (hph ▸ rfl) (hph ▸ rfl),
        finAux_setAt ha (auxAt_past (finAux_at ha d) hl (hph ▸ rfl) rfl nofun (fun _ _ => nofun) nofun)⟩
    · cases hs

end Replicat.Sched
