import ReplicatProofs.Lemmas.Restore
/-! `_write_file_part` as the operation list read from the source (`Gen.writePartOps`, `runW`). -/
namespace Replicat
open List

theorem setLength_of_ge (cur : Bytes) (n : Nat) (h : cur.length ≤ n) :
    setLength cur n = cur ++ List.replicate (n - cur.length) 0 := by
  unfold setLength
  apply take_of_length_le
  rw [length_append, length_replicate, Nat.add_sub_cancel' h]
  exact Nat.le_refl n

theorem writeAt_of_le (cur : Bytes) (pos : Nat) (data : Bytes) (h : pos ≤ cur.length) :
    writeAt cur pos data = cur.take pos ++ data ++ cur.drop (pos + data.length) := by
  simp only [writeAt, Nat.sub_eq_zero_of_le h, replicate_zero, append_nil]

/-- the straight line `seek(0, SEEK_END); truncate(max(file_end, offset+len)); seek(offset); write(data)` is `writePart` -/
theorem runW_straight (leave : Bytes → Bool) (old : Bytes) (off : Nat) (data : Bytes) (p0 e0 : Nat) :
    runW leave off data [.seekEnd, .truncate, .seekOffset, .writeData] ⟨old, p0, e0⟩ = writePart old off data := by
  simp only [runW, stepW]
  rw [Gen.writeTruncate_eq, setLength_of_ge old _ (Nat.le_max_left _ _),
    writeAt_of_le _ _ _ (Nat.le_trans (Nat.le_add_right off data.length) (Nat.le_trans (Nat.le_max_right _ _) (le_length_zeroExt _ _)))]
  rfl

/-- with a data-dependent exit between the truncate and the write the old bytes of the range survive whenever it is taken -/
theorem runW_leave_keeps_old (old : Bytes) (off : Nat) (data : Bytes) (h : off + data.length ≤ old.length) :
    runW (fun _ => true) off data [.seekEnd, .truncate, .branch, .seekOffset, .writeData] ⟨old, 0, 0⟩ = old := by
  simp only [runW, stepW, if_true]
  rw [Gen.writeTruncate_eq, Nat.max_eq_left h, setLength_of_le _ _ (Nat.le_refl _), take_length]

end Replicat
