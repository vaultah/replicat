import ReplicatProofs.Lemmas.RateLimit
/-!
The two observation points of a call: `tPre` (the bytes crossed the underlying stream) and `tRel` (the wrapper call
returned).  At any instant every thread has at most one call between the two, so a window counted at `tPre`
carries at most `N · dmax` bytes more than the same window counted at `tRel`.
-/
namespace Replicat.RateLimit
open Replicat

theorem run_stream_order {L eps : Rat} {dmax : Nat} (evs : List Ev) (s : St) (hev : ∀ e ∈ evs, EvOk L eps dmax e) :
    (∀ o ∈ (run L s evs).2, s.clk o.stream ≤ o.tPre ∧ o.tPre ≤ o.tRel ∧ o.bytes ≤ dmax) ∧
    List.Pairwise (fun o o' => o.stream = o'.stream → o.tRel ≤ o'.tPre) (run L s evs).2 := by
  induction evs generalizing s with
  | nil => exact ⟨fun _ h => absurd h List.not_mem_nil, .nil⟩
  | cons e es ih =>
    obtain ⟨he, hes⟩ := List.forall_mem_cons.mp hev
    cases e with
    | idle i dt =>
      have hdt : 0 ≤ dt := he
      have := ih ⟨s.debt, s.lockFree, upd s.clk i (s.clk i + dt)⟩ hes
      exact ⟨fun o ho => ⟨Rat.le_trans (le_upd s.clk i (le_add_of_nonneg _ hdt) _) (this.1 o ho).1, (this.1 o ho).2⟩, this.2⟩
    | io i b lat ov =>
      have hlat : s.clk i ≤ s.clk i + lat := le_add_of_nonneg _ he.2.2.1
      have hpre := Rat.le_trans (le_max_left (s.clk i + lat) s.lockFree)
        (le_add_of_nonneg _ (pause_slept_nonneg s.debt (owed L b lat) he.2.2.2.1))
      have := ih (step L s (.io i b lat ov)).1 hes
      refine ⟨List.forall_mem_cons.mpr ⟨⟨hlat, hpre, he.2.1⟩, fun o' ho' =>
          ⟨Rat.le_trans (le_upd s.clk i (Rat.le_trans hlat hpre) _) (this.1 o' ho').1, (this.1 o' ho').2⟩⟩,
        List.pairwise_cons.mpr ⟨fun o' ho' hs' => ?_, this.2⟩⟩
      have h1 : upd s.clk i _ o'.stream ≤ o'.tPre := (this.1 o' ho').1
      rwa [← (hs' : i = o'.stream), upd_same] at h1

theorem run_obs_stream (L : Rat) (P : Nat → Prop) (evs : List Ev) (s : St) (h : ∀ e ∈ evs, P e.stream) :
    ∀ o ∈ (run L s evs).2, P o.stream := by
  induction evs generalizing s with
  | nil => exact fun _ h => absurd h List.not_mem_nil
  | cons e es ih =>
    obtain ⟨he, hes⟩ := List.forall_mem_cons.mp h
    cases e with
    | idle i dt => exact ih _ hes
    | io i b lat ov => exact List.forall_mem_cons.mpr ⟨he, ih _ hes⟩

theorem sumBytes_le_length (l : List Obs) (dmax : Nat) (h : ∀ o ∈ l, o.bytes ≤ dmax) :
    sumBytes l ≤ (l.length : Rat) * dmax := by
  induction l with
  | nil => exact (Rat.zero_mul _).symm ▸ Rat.le_refl
  | cons o r ih =>
    rw [sumBytes_cons, List.length_cons, Rat.natCast_add, Rat.natCast_ofNat, Rat.add_mul, Rat.one_mul, Rat.add_comm]
    exact Lean.Grind.OrderedAdd.add_le_add (ih fun o ho => h o (List.mem_cons_of_mem _ ho))
      (Rat.natCast_le_natCast.mpr (h o List.mem_cons_self))

/-- the calls "in flight" at time `b` (bytes moved, call not yet returned) carry at most `N · dmax` bytes -/
theorem inflight_le (l : List Obs) (N dmax : Nat) (b : Rat)
    (hp : List.Pairwise (fun o o' => o.stream = o'.stream → o.tRel ≤ o'.tPre) l)
    (hN : ∀ o ∈ l, o.stream < N) (hsm : ∀ o ∈ l, o.bytes ≤ dmax) :
    sumBytes (l.filter (fun o => decide (o.tPre ≤ b) && decide (b < o.tRel))) ≤ (N : Rat) * dmax := by
  let S := l.filter (fun o => decide (o.tPre ≤ b) && decide (b < o.tRel))
  have hnodup : (S.map (·.stream)).Nodup := by
    unfold List.Nodup
    rw [List.pairwise_map, List.pairwise_filter]
    refine hp.imp ?_
    intro o o' hr h1 h2 heq
    simp only [Bool.and_eq_true, decide_eq_true_eq] at h1 h2
    exact Rat.not_le.mpr h1.2 (Rat.le_trans (hr heq) h2.1)
  have hsub : S.map (·.stream) ⊆ List.range N := by
    intro x hx
    obtain ⟨o, ho, rfl⟩ := List.mem_map.mp hx
    exact List.mem_range.mpr (hN o (List.mem_filter.mp ho).1)
  have hlen : S.length ≤ N := by simpa using hnodup.length_le_of_subset hsub
  have h1 := sumBytes_le_length S dmax (fun o ho => hsm o (List.mem_filter.mp ho).1)
  exact Rat.le_trans h1 (Rat.mul_le_mul_of_nonneg_right (Rat.natCast_le_natCast.mpr hlen) Rat.natCast_nonneg)

/-- a call counted at `tPre` has returned by `b` or is in flight at `b` -/
theorem winBytes_pre_le (l : List Obs) (a b : Rat) (hle : ∀ o ∈ l, o.tPre ≤ o.tRel) :
    winBytes (·.tPre) a b l ≤ winBytes (·.tRel) a b l +
      sumBytes (l.filter (fun o => decide (o.tPre ≤ b) && decide (b < o.tRel))) := by
  refine sumBytes_filter_le _ _ _ l fun o ho hp => ?_
  simp only [Bool.and_eq_true, decide_eq_true_eq] at hp ⊢
  by_cases h : o.tRel ≤ b
  · exact .inl ⟨Rat.le_trans hp.1 (hle o ho), h⟩
  · exact .inr ⟨hp.2, Rat.not_le.mp h⟩

theorem winBytes_pre_le_rel {L eps : Rat} {dmax : Nat} (evs : List Ev) (s : St)
    (hev : ∀ e ∈ evs, EvOk L eps dmax e) (N : Nat) (hN : ∀ e ∈ evs, e.stream < N) (a b : Rat) :
    winBytes (·.tPre) a b (run L s evs).2 ≤ winBytes (·.tRel) a b (run L s evs).2 + N * dmax := by
  have ho := run_stream_order evs s hev
  have hshift := winBytes_pre_le (run L s evs).2 a b fun o h => (ho.1 o h).2.1
  have hfl := inflight_le (run L s evs).2 N dmax b ho.2 (run_obs_stream L (· < N) evs s hN) fun o h => (ho.1 o h).2.2
  exact Rat.le_trans hshift (Rat.add_le_add_left.mpr hfl)

end Replicat.RateLimit
