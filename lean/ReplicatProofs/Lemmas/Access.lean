import ReplicatModel.Access
/-! Invariant of key graphs built by `init` / `add-key` (C06 `unlock_iff`, `keygraph_relations`). -/
namespace Replicat.Access
open Replicat.Repo List

variable {K : Type} [DecidableEq K]

/-- an entry whose private section is encrypted under the key derived from its own password, KDF settings and salt -/
def SealedOwn (kdf : Nat → Nat → Nat → K) (e : Entry K) : Prop :=
  ∃ n m, e.file.priv = .enc (kdf e.file.cfg e.password e.file.salt) n m

/-- what `init` and every `add-key` preserve -/
structure Inv (kdf : Nat → Nat → Nat → K) (g : Graph K) : Prop where
  sealed : ∀ e ∈ g.entries, SealedOwn kdf e
  keyIdLt : ∀ e ∈ g.entries, e.keyId < g.nextSalt
  famLt : ∀ e ∈ g.entries, ∀ n m k, e.file.priv = .enc k n m → m.fam < g.nextFam

theorem unlock_own (kdf : Nat → Nat → Nat → K) (e : Entry K) (h : SealedOwn kdf e) :
    ∃ m, unlock kdf e.file e.password = some (kdf e.file.cfg e.password e.file.salt, m) ∧ ∃ n k, e.file.priv = .enc k n m := by
  obtain ⟨n, m, hp⟩ := h
  refine ⟨m, ?_, n, _, hp⟩
  simp [unlock, hp, dec]

theorem unlock_isSome_iff (kdf : Nat → Nat → Nat → K) (hinj : ∀ c s p p', kdf c p s = kdf c p' s → p = p')
    (e : Entry K) (h : SealedOwn kdf e) (p' : Nat) : (unlock kdf e.file p').isSome ↔ p' = e.password := by
  obtain ⟨n, m, hp⟩ := h
  unfold unlock
  rw [hp]
  simp only [dec, Option.isSome_map]
  constructor
  · intro hs
    by_cases hk : kdf e.file.cfg e.password e.file.salt = kdf e.file.cfg p' e.file.salt
    · exact (hinj _ _ _ _ hk).symm
    · simp [hk] at hs
  · rintro rfl
    simp

omit [DecidableEq K] in
theorem makeKey_sealed (kdf : Nat → Nat → Nat → K) (g : Graph K) (pw cfg : Nat) (m : Private) :
    SealedOwn kdf (makeKey kdf g pw cfg m) := ⟨g.nextNonce, m, rfl⟩

omit [DecidableEq K] in
theorem Inv.snoc {kdf : Nat → Nat → Nat → K} {g : Graph K} (h : Inv kdf g) {e : Entry K} {salt' fam' : Nat} (nonce' : Nat)
    (hs : SealedOwn kdf e) (hsalt : g.nextSalt ≤ salt') (hfam : g.nextFam ≤ fam') (hid : e.keyId < salt')
    (hef : ∀ n m k, e.file.priv = .enc k n m → m.fam < fam') : Inv kdf ⟨g.entries ++ [e], salt', fam', nonce'⟩ := by
  refine ⟨fun e' he => ?_, fun e' he => ?_, fun e' he n m k hp => ?_⟩
  · rcases mem_append.mp he with he | he
    · exact h.sealed e' he
    · exact mem_singleton.mp he ▸ hs
  · rcases mem_append.mp he with he | he
    · exact Nat.lt_of_lt_of_le (h.keyIdLt e' he) hsalt
    · exact mem_singleton.mp he ▸ hid
  · rcases mem_append.mp he with he | he
    · exact Nat.lt_of_lt_of_le (h.famLt e' he n m k hp) hfam
    · rw [mem_singleton.mp he] at hp
      exact hef n m k hp

omit [DecidableEq K] in
theorem makeKey_priv {kdf : Nat → Nat → Nat → K} {g : Graph K} {pw cfg : Nat} {m m' : Private} {k : K} {n : Nat}
    (hp : (makeKey kdf g pw cfg m).file.priv = .enc k n m') : m' = m :=
  (Sealed.enc.inj hp).2.2.symm

omit [DecidableEq K] in
theorem inv_init (kdf : Nat → Nat → Nat → K) (pw cfg : Nat) : Inv kdf (init kdf pw cfg) := by
  refine ⟨fun e he => ?_, fun e he => ?_, fun e he n m k hp => ?_⟩
  · exact mem_singleton.mp he ▸ makeKey_sealed ..
  · exact mem_singleton.mp he ▸ Nat.lt_succ_self 1
  · rw [mem_singleton.mp he] at hp
    exact makeKey_priv hp ▸ Nat.lt_succ_self 1

theorem inv_addKey (kdf : Nat → Nat → Nat → K) (g : Graph K) (h : Inv kdf g) (a : AddKey) : Inv kdf (addKey kdf g a) := by
  unfold addKey
  split
  · exact h
  · rename_i b hb
    have hbm : b ∈ g.entries := mem_of_getElem? hb
    split
    · -- clone: the entry a second time
      exact h.snoc _ (h.sealed b hbm) (Nat.le_refl _) (Nat.le_refl _) (h.keyIdLt b hbm) (h.famLt b hbm)
    · -- independent: fresh salt, fresh family
      exact h.snoc _ (makeKey_sealed ..) (Nat.le_succ _) (Nat.le_succ _) (Nat.lt_succ_self _)
        (fun _ _ _ hp => makeKey_priv hp ▸ Nat.lt_succ_self _)
    · -- shared: fresh salt, the private section of the base entry
      obtain ⟨mb, hub, nb, kb, hpb⟩ := unlock_own kdf b (h.sealed b hbm)
      rw [hub]
      exact h.snoc _ (makeKey_sealed ..) (Nat.le_succ _) (Nat.le_refl _) (Nat.lt_succ_self _)
        (fun _ _ _ hp => makeKey_priv hp ▸ h.famLt b hbm nb mb kb hpb)

theorem inv_build (kdf : Nat → Nat → Nat → K) (pw cfg : Nat) (steps : List AddKey) : Inv kdf (build kdf pw cfg steps) := by
  unfold build
  generalize hg : init kdf pw cfg = g0
  have h0 : Inv kdf g0 := hg ▸ inv_init kdf pw cfg
  clear hg
  induction steps generalizing g0 with
  | nil => exact h0
  | cons a steps ih => exact ih _ (inv_addKey kdf g0 h0 a)

theorem userOf_of_unlock {kdf : Nat → Nat → Nat → K} {e : Entry K} {p : Nat} {k : K} {m : Private}
    (h : unlock kdf e.file p = some (k, m)) : userOf kdf e p = some ⟨e.keyId, m.fam⟩ := by
  unfold userOf
  rw [h]
  rfl

theorem userOf_makeKey (kdf : Nat → Nat → Nat → K) (g : Graph K) (pw cfg : Nat) (m : Private) :
    userOf kdf (makeKey kdf g pw cfg m) pw = some ⟨g.nextSalt, m.fam⟩ := by
  obtain ⟨m', hu, _, _, hp⟩ := unlock_own kdf _ (makeKey_sealed kdf g pw cfg m)
  rw [makeKey_priv hp] at hu
  exact userOf_of_unlock hu

/-- the user a sealed entry yields with its own password -/
theorem userOf_own (kdf : Nat → Nat → Nat → K) (e : Entry K) (h : SealedOwn kdf e) :
    ∃ m n k, e.file.priv = .enc k n m ∧ userOf kdf e e.password = some ⟨e.keyId, m.fam⟩ := by
  obtain ⟨m, hu, n, k, hp⟩ := unlock_own kdf e h
  exact ⟨m, n, k, hp, userOf_of_unlock hu⟩

theorem userOf_some (kdf : Nat → Nat → Nat → K) (e : Entry K) (p : Nat) (u : User) (h : userOf kdf e p = some u) :
    u.key = e.keyId ∧ ∀ k n m, e.file.priv = .enc k n m → u.fam = m.fam := by
  unfold userOf unlock at h
  simp only [Option.map_map, Option.map_eq_some_iff, Function.comp] at h
  obtain ⟨m, hd, rfl⟩ := h
  refine ⟨rfl, ?_⟩
  intro k n m' hp
  rw [hp] at hd
  simp only [dec] at hd
  split at hd
  · cases hd
    rfl
  · cases hd

end Replicat.Access
