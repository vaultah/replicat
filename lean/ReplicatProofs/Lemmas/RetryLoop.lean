import ReplicatProofs.Lemmas.Retry
/-!
The back-off loop with re-authentication (`loop`), for an arbitrary attempt function and policy.

`Inv` is what every failed attempt must restore (stream rewound, nothing half-written visible), `Good` what a successful attempt
establishes, `ErrOk` the exceptions the attempts can raise for the faults of the plan, `Allowed` the faults of the plan, `Hard`
faults that certainly make an attempt fail.
-/
namespace Replicat.Retry

section
variable {σ : Type} (att : Option Fault → σ → Att σ) (pol : Err → Nat → Nat → Decision) (vis : σ → Option Bytes)
variable (Inv Good : σ → Prop) (ErrOk : Err → Prop) (Allowed Hard : Fault → Prop)

def AttSpec : Prop :=
  ∀ (f : Option Fault) (st : σ), Inv st → (∀ x, f = some x → Allowed x) →
    ((att f st).err = none ∧ Good (att f st).st ∧ ∀ x, f = some x → ¬ Hard x) ∨
    (∃ e, f ≠ none ∧ (att f st).err = some e ∧ ErrOk e ∧ Inv (att f st).st)

theorem bump_outcome (r : Res σ) (a b c : Nat) (v : Option Bytes) : (r.bump a b c v).outcome = r.outcome := rfl
theorem bump_final (r : Res σ) (a b c : Nat) (v : Option Bytes) : (r.bump a b c v).final = r.final := rfl
theorem bump_attempts (r : Res σ) (a b c : Nat) (v : Option Bytes) : (r.bump a b c v).attempts = r.attempts + 1 := rfl
theorem bump_history (r : Res σ) (a b c : Nat) (v : Option Bytes) : (r.bump a b c v).history = v :: r.history := rfl
theorem bump_sleeps (r : Res σ) (a b c : Nat) (v : Option Bytes) : (r.bump a b c v).sleeps = r.sleeps + a := rfl
theorem bump_reauths (r : Res σ) (a b c : Nat) (v : Option Bytes) : (r.bump a b c v).reauths = r.reauths + b := rfl

end

section
variable {σ : Type} {att : Option Fault → σ → Att σ} {pol : Err → Nat → Nat → Decision} {vis : σ → Option Bytes}
variable {Inv Good : σ → Prop} {ErrOk : Err → Prop} {Allowed Hard : Fault → Prop} {plan : List Fault} {st : σ}

theorem loop_of_ok (h : (att plan.head? st).err = none) (fuel tries rounds : Nat) :
    loop att pol vis (fuel + 1) tries rounds plan st =
      ⟨.ok, 1, 0, 0, [(att plan.head? st).recv], [vis (att plan.head? st).st], (att plan.head? st).st⟩ := by
  rw [loop]
  simp only [h]

theorem loop_of_reauth {e : Err} {tries rounds : Nat} {s : Bool} (h : (att plan.head? st).err = some e)
    (hp : pol e tries rounds = .reauth s) (fuel : Nat) :
    loop att pol vis (fuel + 1) tries rounds plan st =
      (loop att pol vis fuel 1 (rounds + 1) plan.tail (att plan.head? st).st).bump s.toNat 1 (att plan.head? st).recv
        (vis (att plan.head? st).st) := by
  rw [loop]
  simp only [h, hp]

theorem allowed_head (hall : ∀ x ∈ plan, Allowed x) (x : Fault) (hx : plan.head? = some x) : Allowed x :=
  hall x (List.mem_of_head? hx)

theorem allowed_tail (hall : ∀ x ∈ plan, Allowed x) (x : Fault) (hx : x ∈ plan.tail) : Allowed x :=
  hall x (List.mem_of_mem_tail hx)

theorem AttSpec.good (hatt : AttSpec att Inv Good ErrOk Allowed Hard) (hinv : Inv st) (hall : ∀ x ∈ plan, Allowed x)
    (h : (att plan.head? st).err = none) : Good (att plan.head? st).st := by
  rcases hatt plan.head? st hinv (allowed_head hall) with ⟨_, hg, _⟩ | ⟨e, _, he, _⟩
  · exact hg
  · rw [h] at he
    cases he

/-- an attempt without a fault does not fail, so a failed attempt has consumed a fault of the plan -/
theorem AttSpec.fail (hatt : AttSpec att Inv Good ErrOk Allowed Hard) (hinv : Inv st) (hall : ∀ x ∈ plan, Allowed x) {e : Err}
    (h : (att plan.head? st).err = some e) : ErrOk e ∧ Inv (att plan.head? st).st ∧ plan.tail.length + 1 = plan.length := by
  rcases hatt plan.head? st hinv (allowed_head hall) with ⟨hn, _⟩ | ⟨e', hf, he, hok, hi⟩
  · rw [h] at hn
    cases hn
  · rw [h] at he
    cases he
    cases plan with
    | nil => exact absurd rfl hf
    | cons x rest => exact ⟨hok, hi, rfl⟩

theorem AttSpec.hard (hatt : AttSpec att Inv Good ErrOk Allowed Hard) (hinv : Inv st) (hall : ∀ x ∈ plan, Allowed x) {x : Fault}
    (hx : plan.head? = some x) (hh : Hard x) : (att plan.head? st).err ≠ none := by
  rcases hatt plan.head? st hinv (allowed_head hall) with ⟨_, _, hn⟩ | ⟨e, _, he, _⟩
  · exact absurd hh (hn x hx)
  · rw [he]
    nofun

theorem loop_history (P : Option Bytes → Prop) (hatt : AttSpec att Inv Good ErrOk Allowed Hard)
    (hI : ∀ st, Inv st → P (vis st)) (hG : ∀ st, Good st → P (vis st))
    (fuel tries rounds : Nat) (plan : List Fault) (st : σ) (hinv : Inv st) (hall : ∀ x ∈ plan, Allowed x) :
    ∀ v ∈ (loop att pol vis fuel tries rounds plan st).history, P v := by
  fun_induction loop att pol vis fuel tries rounds plan st with
  | case1 => exact fun v hv => nomatch hv
  | case2 fuel tries rounds plan st a h => exact List.forall_mem_singleton.mpr (hG _ (hatt.good hinv hall h))
  | case3 fuel tries rounds plan st a e h e' slept hp => exact List.forall_mem_singleton.mpr (hI _ (hatt.fail hinv hall h).2.1)
  | case4 fuel tries rounds plan st a e h x hp ih | case5 fuel tries rounds plan st a e h x hp ih =>
    have hi := (hatt.fail hinv hall h).2.1
    exact List.forall_mem_cons.mpr ⟨hI _ hi, ih hi (allowed_tail hall)⟩

theorem loop_final (hatt : AttSpec att Inv Good ErrOk Allowed Hard)
    (fuel tries rounds : Nat) (plan : List Fault) (st : σ) (hinv : Inv st) (hall : ∀ x ∈ plan, Allowed x) :
    ((loop att pol vis fuel tries rounds plan st).outcome = .ok → Good (loop att pol vis fuel tries rounds plan st).final) ∧
    ((loop att pol vis fuel tries rounds plan st).outcome ≠ .ok → Inv (loop att pol vis fuel tries rounds plan st).final) := by
  fun_induction loop att pol vis fuel tries rounds plan st with
  | case1 => exact ⟨nofun, fun _ => hinv⟩
  | case2 fuel tries rounds plan st a h => exact ⟨fun _ => hatt.good hinv hall h, fun hne => absurd rfl hne⟩
  | case3 fuel tries rounds plan st a e h e' slept hp => exact ⟨nofun, fun _ => (hatt.fail hinv hall h).2.1⟩
  | case4 fuel tries rounds plan st a e h x hp ih | case5 fuel tries rounds plan st a e h x hp ih =>
    exact ih (hatt.fail hinv hall h).2.1 (allowed_tail hall)

/-- every failed attempt consumed a fault of the plan, and once the plan is exhausted the next attempt succeeds -/
theorem loop_plan_consumed (hatt : AttSpec att Inv Good ErrOk Allowed Hard)
    (fuel tries rounds : Nat) (plan : List Fault) (st : σ) (hinv : Inv st) (hall : ∀ x ∈ plan, Allowed x) :
    (loop att pol vis fuel tries rounds plan st).attempts ≤ plan.length + 1 ∧
    (plan.length < fuel → (loop att pol vis fuel tries rounds plan st).outcome ≠ .fuel) := by
  fun_induction loop att pol vis fuel tries rounds plan st with
  | case1 => exact ⟨Nat.zero_le _, fun h => absurd h (Nat.not_lt_zero _)⟩
  | case2 | case3 => exact ⟨Nat.le_add_left _ _, fun _ => nofun⟩
  | case4 fuel tries rounds plan st a e h x hp ih | case5 fuel tries rounds plan st a e h x hp ih =>
    obtain ⟨_, hi, hlen⟩ := hatt.fail hinv hall h
    obtain ⟨hle, hfuel⟩ := ih hi (allowed_tail hall)
    rw [bump_attempts, ← hlen]
    exact ⟨Nat.succ_le_succ hle, fun h => hfuel (Nat.lt_of_succ_lt_succ h)⟩

theorem loop_hard_ok (hatt : AttSpec att Inv Good ErrOk Allowed Hard)
    (fuel tries rounds : Nat) (plan : List Fault) (st : σ) (hinv : Inv st) (hall : ∀ x ∈ plan, Allowed x)
    (hh : ∀ x ∈ plan, Hard x) (hok : (loop att pol vis fuel tries rounds plan st).outcome = .ok) :
    (loop att pol vis fuel tries rounds plan st).attempts = plan.length + 1 := by
  fun_induction loop att pol vis fuel tries rounds plan st with
  | case1 | case3 => exact nomatch hok
  | case2 fuel tries rounds plan st a h =>
    cases plan with
    | nil => rfl
    | cons x rest => exact absurd h (hatt.hard hinv hall rfl (hh x List.mem_cons_self))
  | case4 fuel tries rounds plan st a e h x hp ih | case5 fuel tries rounds plan st a e h x hp ih =>
    obtain ⟨_, hi, hlen⟩ := hatt.fail hinv hall h
    rw [bump_attempts, ih hi (allowed_tail hall) (allowed_tail hh) hok, hlen]

/-- **masked**.  `A r` is what the policy needs of round `r` (for `policy`: a re-authentication is still allowed); every fault can
start one more round. -/
theorem loop_masked (m : Nat) (A : Nat → Prop) (hatt : AttSpec att Inv Good ErrOk Allowed Hard)
    (hpol : ∀ e tries rounds e' s, ErrOk e → tries < m → A rounds → pol e tries rounds ≠ .raise e' s)
    (fuel tries rounds : Nat) (plan : List Fault) (st : σ) (hinv : Inv st) (hall : ∀ x ∈ plan, Allowed x)
    (hm : tries + plan.length ≤ m) (hfuel : plan.length < fuel) (hA : ∀ r, r < rounds + plan.length → A r) :
    (loop att pol vis fuel tries rounds plan st).outcome = .ok := by
  fun_induction loop att pol vis fuel tries rounds plan st with
  | case1 => exact absurd hfuel (Nat.not_lt_zero _)
  | case2 => rfl
  | case3 fuel tries rounds plan st a e h e' slept hp =>
    obtain ⟨he, _, hlen⟩ := hatt.fail hinv hall h
    have hpos : 0 < plan.length := hlen ▸ Nat.succ_pos _
    exact absurd hp (hpol e tries rounds e' slept he (Nat.lt_of_lt_of_le (Nat.lt_add_of_pos_right hpos) hm)
      (hA rounds (Nat.lt_add_of_pos_right hpos)))
  | case4 fuel tries rounds plan st a e h extra hp ih =>
    obtain ⟨_, hi, hlen⟩ := hatt.fail hinv hall h
    rw [← hlen] at hm hfuel hA
    exact ih hi (allowed_tail hall) (Nat.le_trans (Nat.le_of_eq (Nat.add_right_comm tries 1 _)) hm) (Nat.lt_of_succ_lt_succ hfuel)
      (fun r hr => hA r (Nat.lt_succ_of_lt hr))
  | case5 fuel tries rounds plan st a e h slept hp ih =>
    obtain ⟨_, hi, hlen⟩ := hatt.fail hinv hall h
    rw [← hlen] at hm hfuel hA
    exact ih hi (allowed_tail hall) (Nat.le_trans (Nat.le_of_eq (Nat.add_comm 1 _)) (Nat.le_trans (Nat.le_add_left _ tries) hm))
      (Nat.lt_of_succ_lt_succ hfuel) (fun r hr => hA r (Nat.lt_of_lt_of_le hr (Nat.le_of_eq (Nat.add_right_comm rounds 1 _))))

/-- **bounded**: at most `(l − rounds + 1)·m` attempts (`m` under a policy that never re-authenticates: `l = rounds`).  `hfail` is
all that is used of the attempts; it holds of any attempt function when the predicates are `True`. -/
theorem loop_bounded (m l : Nat) (hm : 1 ≤ m)
    (hfail : ∀ (plan : List Fault) (st : σ) (e : Err), Inv st → (∀ x ∈ plan, Allowed x) → (att plan.head? st).err = some e →
      ErrOk e ∧ Inv (att plan.head? st).st)
    (hlim : ∀ e rounds x, ErrOk e → pol e m rounds ≠ .retry x)
    (hre : ∀ e tries rounds x, ErrOk e → pol e tries rounds = .reauth x → rounds < l)
    (fuel tries rounds : Nat) (plan : List Fault) (st : σ) (hinv : Inv st) (hall : ∀ x ∈ plan, Allowed x) :
    ∀ k, rounds + k = l → tries ≤ m → tries + (loop att pol vis fuel tries rounds plan st).attempts ≤ (k + 1) * m + 1 := by
  have hmul : ∀ k, m ≤ (k + 1) * m := fun k => Nat.le_mul_of_pos_left m (Nat.succ_pos k)
  fun_induction loop att pol vis fuel tries rounds plan st with
  | case1 => exact fun k _ ht => Nat.le_succ_of_le (Nat.le_trans ht (hmul k))
  | case2 | case3 => exact fun k _ ht => Nat.succ_le_succ (Nat.le_trans ht (hmul k))
  | case4 fuel tries rounds plan st a e h extra hp ih =>
    intro k hk ht
    obtain ⟨he, hi⟩ := hfail plan st e hinv hall h
    have hne : tries ≠ m := fun heq => hlim e rounds extra he (heq ▸ hp)
    exact Nat.le_trans (Nat.le_of_eq (Nat.add_right_comm tries _ 1)) (ih hi (allowed_tail hall) k hk (Nat.lt_of_le_of_ne ht hne))
  | case5 fuel tries rounds plan st a e h slept hp ih =>
    intro k hk ht
    obtain ⟨he, hi⟩ := hfail plan st e hinv hall h
    have hlt := hre e tries rounds slept he hp
    cases k with
    | zero => exact absurd (hk ▸ hlt) (Nat.lt_irrefl _)
    | succ k' =>
      -- a fresh try counter: the rounds that are left pay for `m` attempts each, this round has made at most `m`
      have := Nat.add_le_add ht (ih hi (allowed_tail hall) k' ((Nat.add_right_comm rounds 1 k').trans hk) hm)
      rw [bump_attempts, Nat.succ_mul (k' + 1) m, Nat.add_right_comm _ m 1, Nat.add_comm _ m]
      exact Nat.le_trans (Nat.add_le_add_left (Nat.le_of_eq (Nat.add_comm _ 1)) tries) this

/-- **persistent faults end in an error**: more hard faults than tries left ⇒ the outcome is an exception -/
theorem loop_persistent (m : Nat) (hatt : AttSpec att Inv Good ErrOk Allowed Hard)
    (hlim : ∀ e rounds x, ErrOk e → pol e m rounds ≠ .retry x)
    (hnore : ∀ e tries rounds x, ErrOk e → pol e tries rounds ≠ .reauth x)
    (fuel tries rounds : Nat) (plan : List Fault) (st : σ) (hinv : Inv st) (hall : ∀ x ∈ plan, Allowed x) (hh : ∀ x ∈ plan, Hard x)
    (ht : tries ≤ m) (hm : m < tries + plan.length) (hfuel : m - tries < fuel) :
    ∃ e, (loop att pol vis fuel tries rounds plan st).outcome = .error e := by
  fun_induction loop att pol vis fuel tries rounds plan st with
  | case1 => exact absurd hfuel (Nat.not_lt_zero _)
  | case2 fuel tries rounds plan st a h =>
    cases plan with
    | nil => exact absurd hm (Nat.not_lt_of_le ht)
    | cons x rest => exact absurd h (hatt.hard hinv hall rfl (hh x List.mem_cons_self))
  | case3 fuel tries rounds plan st a e h e' slept hp => exact ⟨e', rfl⟩
  | case4 fuel tries rounds plan st a e h extra hp ih =>
    obtain ⟨he, hi, hlen⟩ := hatt.fail hinv hall h
    have hlt : tries < m := Nat.lt_of_le_of_ne ht fun heq => hlim e rounds extra he (heq ▸ hp)
    rw [← hlen] at hm
    exact ih hi (allowed_tail hall) (allowed_tail hh) hlt (Nat.lt_of_lt_of_le hm (Nat.le_of_eq (Nat.add_right_comm tries _ 1)))
      (Nat.lt_of_lt_of_le (Nat.sub_succ_lt_self m tries hlt) (Nat.le_of_lt_succ hfuel))
  | case5 fuel tries rounds plan st a e h slept hp ih => exact absurd hp (hnore e tries rounds slept (hatt.fail hinv hall h).1)

end

end Replicat.Retry
