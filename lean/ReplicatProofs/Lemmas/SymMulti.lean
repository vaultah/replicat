import ReplicatProofs.Lemmas.SymStore
import ReplicatModel.SymSession
import ReplicatModel.SymMulti
/-! For C04, beyond the one-command reader: sessions of one long-lived client object
(`ReplicatModel/SymSession.lean`) — when the digest comparison dominates the write, or the object is new, its state is never
consulted — and the commands that select among several snapshots (`ReplicatModel/SymMulti.lean`). -/
namespace Replicat.Sym
open Term (pub sec nonce key nil pair mac kdf enc)

theorem verifyChunkC_eq {dom : Bool} {cl : Client} (h : dom = true ∨ cl = Client.fresh) (p : Props) (d obj : Term) :
    verifyChunkC dom cl p d obj = verifyChunk p d obj := by
  unfold verifyChunkC
  rcases h with rfl | rfl
  · rw [Bool.true_or, if_pos rfl]
  · rw [show (Client.fresh.verified.contains d) = false from rfl, Bool.not_false, Bool.or_true, if_pos rfl]

theorem restoreC_eq {dom : Bool} {cl : Client} (h : dom = true ∨ cl = Client.fresh) (p : Props) (s : Store) (t : Term) :
    restoreC dom cl p s t = restore p s t := by
  have hf : fetchChunkC dom cl p s = fetchChunk p s := by
    funext d
    unfold fetchChunkC fetchChunk
    cases lookup s (chunkLoc p d) with
    | none => rfl
    | some obj => exact verifyChunkC_eq h p d obj
  unfold restoreC restore
  rw [hf]
  cases loadAll p t (snapEntries s) <;> rfl

theorem runSession_dom (p : Props) (cmds : List Cmd) (cl : Client) : runSession true p cl cmds = runFresh p cmds := by
  induction cmds generalizing cl with
  | nil => rfl
  | cons c rest ih =>
    cases c with
    | restore s t => rw [runSession, runFresh, restoreC_eq (Or.inl rfl), ih]
    | list s t => rw [runSession, runFresh, ih]

theorem loadSnapshotL_true (skip : Term → Bool) (p : Props) (tag name obj : Term) :
    loadSnapshotL true skip p tag name obj = loadSnapshot p tag name obj := by
  simp [loadSnapshotL]

theorem loadSel_damaged_error (skip : Term → Bool) (p : Props) (filter : Option Term) {stored0 obj : Term}
    {entries : List (Term × Term × Term)}
    (hm : (snapshotTag p (snapshotName stored0), snapshotName stored0, obj) ∈ entries)
    (hs : selectedBy filter (snapshotName stored0) = true) (hne : obj ≠ stored0) :
    ∃ e, loadSel true skip p filter entries = .error e := by
  induction entries with
  | nil => cases hm
  | cons x rest ih =>
    obtain ⟨tag, name, o⟩ := x
    unfold loadSel
    rcases List.mem_cons.mp hm with heq | hrest
    · cases heq
      simp only [hs, Bool.not_true, Bool.false_eq_true, if_false, loadSnapshotL_true]
      rw [loadSnapshot_own_damaged p stored0 obj hne]
      exact ⟨_, rfl⟩
    · obtain ⟨e, he⟩ := ih hrest
      split
      · exact ⟨e, he⟩
      · split
        · rename_i e' _
          exact ⟨e', rfl⟩
        · rw [he]
          exact ⟨e, rfl⟩

theorem loadSel_ok_transfer (skip : Term → Bool) (p : Props) (filter : Option Term) {E E' : List (Term × Term × Term)}
    (bs : List Body) (hsame : sameListing E E') (hh : honestEntries E) (h : loadSel true skip p filter E' = .ok bs) :
    loadSel true skip p filter E = .ok bs := by
  induction E generalizing E' bs with
  | nil =>
    cases E' with
    | nil => exact h
    | cons _ _ => cases hsame
  | cons x rest ih =>
    cases E' with
    | nil => cases hsame
    | cons x' rest' =>
      obtain ⟨tag, name, obj⟩ := x
      obtain ⟨tag', name', obj'⟩ := x'
      obtain ⟨h1, h2, hrest⟩ := hsame
      simp only at h1 h2
      subst h1; subst h2
      have hhon : Term.hash obj = name := hh (tag, name, obj) (by simp)
      have hh' : honestEntries rest := fun e he => hh e (List.mem_cons_of_mem _ he)
      unfold loadSel at h ⊢
      split at h
      · rename_i hsel
        rw [if_pos hsel]
        exact ih bs hrest hh' h
      · rename_i hsel
        rw [if_neg hsel]
        simp only [loadSnapshotL_true] at h ⊢
        split at h
        · cases h
        · rename_i r hr
          rw [loadSnapshot_ok_transfer hr obj hhon]
          split at h
          · cases h
          · rename_i bs' hbs
            rw [ih bs' hrest hh' hbs]
            exact h

theorem sameListing_of_locs {A A' : Store} (h : A.map (·.1) = A'.map (·.1)) : sameListing (snapEntries A) (snapEntries A') := by
  induction A generalizing A' with
  | nil =>
    cases A' with
    | nil => trivial
    | cons _ _ => cases h
  | cons a as ih =>
    cases A' with
    | nil => cases h
    | cons a' as' =>
      obtain ⟨l, o⟩ := a
      obtain ⟨l', o'⟩ := a'
      injection h with h1 h2
      cases h1
      rcases snapEntries_cons l with ⟨_, hl⟩ | ⟨tag, name, _, hl⟩
      · rw [hl, hl]
        exact ih h2
      · rw [hl, hl]
        exact ⟨rfl, rfl, ih h2⟩

theorem restoreFiles_det (f1 f2 : Term → Except Err Term) (h1 : ∀ d m, f1 d = .ok m → digest m = d)
    (h2 : ∀ d m, f2 d = .ok m → digest m = d) (l : List (List Term × FileRec)) (o1 o2 : List (Term × List Part))
    (e1 : restoreFiles f1 l = .ok o1) (e2 : restoreFiles f2 l = .ok o2) : o1 = o2 := by
  induction l generalizing o1 o2 with
  | nil =>
    cases e1
    cases e2
    rfl
  | cons x rest ih =>
    obtain ⟨p1, r1, hp1, hr1, rfl⟩ := restoreFiles_cons_ok e1
    obtain ⟨p2, r2, hp2, hr2, rfl⟩ := restoreFiles_cons_ok e2
    rw [restoreParts_det f1 f2 h1 h2 _ _ p1 p2 hp1 hp2, ih r1 r2 hr1 hr2]

theorem selectedBy_some (t name : Term) : selectedBy (some t) name = decide (name = t) := rfl

theorem readable_loadSel_name (skip : Term → Bool) (p : Props) (target : Term) (entries : List (Term × Term × Term)) :
    (match loadSel true skip p (some target) entries with
      | .error e => (Except.error e : Except Err (List (List Term × Data)))
      | .ok bs => .ok (readable bs)) = loadAll p target entries := by
  induction entries with
  | nil => rfl
  | cons x rest ih =>
    obtain ⟨tag, name, obj⟩ := x
    rw [loadSel, loadAll, ← ih, loadSnapshotL_true]
    by_cases hn : name = target
    · rw [if_neg (by simp [selectedBy, hn]), if_neg (by simp [hn]), hn]
      cases loadSnapshot p tag target obj with
      | error e => rfl
      | ok r =>
        cases loadSel true skip p (some target) rest with
        | error e => rfl
        | ok bs =>
          match r with
          | none => rfl
          | some (table, none) => rfl
          | some (table, some data) => rfl
    · rw [if_pos (by simp [selectedBy, hn]), if_pos hn]

end Replicat.Sym
