import ReplicatProofs.Lemmas.RetryAttempts
import ReplicatProofs.Lemmas.RetryPolicy
/-!
The whole call: the loop, from try 1 in round 0, over attempts that satisfy `AttSpec` for the exceptions of a backend, under the
policy of a configuration that satisfies the soundness conditions.  `Properties/C12.lean` puts in the upload and the download
attempts of the extracted configuration `cfgOf b`.
-/
namespace Replicat.Retry

/-- how `requires_auth` and the response hook are set up: S3 / local have neither, B2 has both -/
abbrev AuthSound (b : Backend) (cfg : Cfg) (ra : Bool) : Prop :=
  (b ≠ .b2 → cfg.hookAuthStatus = none ∧ ra = false) ∧ (b = .b2 → ra = true ∧ cfg.reauthOnAuthRequired = true)

abbrev UpAuthSound (b : Backend) (cfg : Cfg) : Prop := AuthSound b cfg (b == .b2 && cfg.upRequiresAuth)

abbrev DownAuthSound (b : Backend) (cfg : Cfg) : Prop := AuthSound b cfg (b == .b2 && cfg.downRequiresAuth)

def NotGiveup (cfg : Cfg) (code : Nat) : Prop := cfg.giveupStatus ≠ some code

/-- below the limit every transient exception leads to another attempt (in place, or through `requires_auth`) -/
theorem policy_masked {b : Backend} {cfg : Cfg} {dec ra : Bool} (hs : PolSound cfg dec) (ha : AuthSound b cfg ra) (e : Err)
    (tries rounds : Nat) (e' : Err) (s : Bool) (he : ErrClass b cfg (NotGiveup cfg) e) (ht : tries < cfg.budget)
    (hA : reauthAllowed cfg rounds = true) : policy b cfg dec ra e tries rounds ≠ .raise e' s := by
  have hne : tries ≠ cfg.budget := Nat.ne_of_lt ht
  have hcond : b = .b2 → (ra && cfg.reauthOnAuthRequired && reauthAllowed cfg rounds) = true := fun hb => by
    rw [(ha.2 hb).1, (ha.2 hb).2, hA]
    rfl
  rcases he with ⟨rfl, k, rfl⟩ | ⟨hb, rfl | ⟨code, r, hS, rfl⟩⟩
  · rw [policy_local_os hs, if_neg hne]
    nofun
  · rw [policy_http_transport hb hs, if_neg hne]
    nofun
  · by_cases hh : cfg.hookAuthStatus = some code
    · have hb2 : b = .b2 := Decidable.byContradiction fun hn => by rw [(ha.1 hn).1] at hh; cases hh
      rw [hook, if_pos hh, policy_auth, viaAuth_pos (hcond hb2)]
      nofun
    · rw [hook, if_neg hh, policy_http_status hb hs, if_neg (not_or.mpr ⟨hS, hne⟩)]
      rcases onStatus_cases b cfg ra code r rounds with ⟨y, hy⟩ | ⟨hb2, hy⟩
      · rw [hy]
        nofun
      · rw [hy, viaAuth_pos (hcond hb2)]
        nofun

/-- status codes that never reach `requires_auth`: everything for S3 / local; for B2 only the plain-retry status (429) and the
give-up status (403), as long as the hook does not turn them into AuthRequired -/
def NoReauthCode (b : Backend) (cfg : Cfg) (code : Nat) : Prop :=
  b = .b2 → cfg.hookAuthStatus ≠ some code ∧ (cfg.plainRetryStatus = some code ∨ cfg.giveupStatus = some code)

theorem policy_class_no_reauth {b : Backend} {cfg : Cfg} {dec ra : Bool} (hs : PolSound cfg dec) (ha : AuthSound b cfg ra) (e : Err)
    (tries rounds : Nat) (x : Bool) (he : ErrClass b cfg (NoReauthCode b cfg) e) : policy b cfg dec ra e tries rounds ≠ .reauth x := by
  intro hp
  by_cases hb2 : b = .b2
  · subst hb2
    rcases he with ⟨hb, _⟩ | ⟨hb, rfl | ⟨code, r, hS, rfl⟩⟩
    · cases hb
    · rw [policy_http_transport hb hs] at hp
      split at hp <;> cases hp
    · obtain ⟨hh, hc⟩ := hS rfl
      rw [hook, if_neg hh, policy_http_status hb hs] at hp
      split at hp
      · cases hp
      next hg =>
        rw [onStatus, if_pos rfl, if_pos (beq_iff_eq.mpr (hc.resolve_right (not_or.mp hg).1))] at hp
        cases hp
  · have := policy_reauth hp
    rw [(ha.1 hb2).2] at this
    cases this

theorem statusIn_mono (S T : Nat → Prop) (h : ∀ c, S c → T c) (x : Fault) (hx : StatusIn S x) : StatusIn T x :=
  fun code ra e => h code (hx code ra e)

theorem statusIn_noReauth_of_ne_b2 (b : Backend) (hb : b ≠ .b2) (cfg : Cfg) (x : Fault) : StatusIn (NoReauthCode b cfg) x :=
  fun _ _ _ h => absurd h hb

/-- room for as many re-authentication rounds as the plan can trigger -/
def ReauthRoom (cfg : Cfg) (n : Nat) : Prop := ∀ l, cfg.reauthLimit = some l → n ≤ l

theorem reauthRoom_allowed (cfg : Cfg) (n : Nat) (h : ReauthRoom cfg n) (r : Nat) (hr : r < n) : reauthAllowed cfg r = true := by
  unfold reauthAllowed
  cases hl : cfg.reauthLimit with
  | none => rfl
  | some l => exact decide_eq_true (Nat.lt_of_lt_of_le hr (h l hl))

section
variable {σ : Type} {att : Option Fault → σ → Att σ} {vis : σ → Option Bytes} {Inv Good : σ → Prop} {Hard : Fault → Prop}
variable {b : Backend} {cfg : Cfg} {dec ra : Bool} {st : σ}

theorem run_masked (hatt : AttSpec att Inv Good (ErrClass b cfg (NotGiveup cfg)) (StatusIn (NotGiveup cfg)) Hard)
    (hp : PolSound cfg dec) (ha : AuthSound b cfg ra) (hinv : Inv st) (plan : List Fault) (fuel : Nat)
    (htr : ∀ x ∈ plan, StatusIn (NotGiveup cfg) x) (hlen : plan.length < cfg.budget) (hfuel : plan.length < fuel)
    (hroom : ReauthRoom cfg plan.length) :
    (loop att (policy b cfg dec ra) vis fuel 1 0 plan st).outcome = .ok ∧
    Good (loop att (policy b cfg dec ra) vis fuel 1 0 plan st).final ∧
    (loop att (policy b cfg dec ra) vis fuel 1 0 plan st).attempts ≤ plan.length + 1 ∧
    ((∀ x ∈ plan, Hard x) → (loop att (policy b cfg dec ra) vis fuel 1 0 plan st).attempts = plan.length + 1) := by
  have hok := loop_masked (vis := vis) cfg.budget (fun r => reauthAllowed cfg r = true) hatt
    (policy_masked hp ha)
    fuel 1 0 plan st hinv htr (Nat.add_comm 1 _ ▸ hlen) hfuel
    (fun r hr => reauthRoom_allowed cfg plan.length hroom r (by rwa [Nat.zero_add] at hr))
  exact ⟨hok, (loop_final hatt fuel 1 0 plan st hinv htr).1 hok, (loop_plan_consumed hatt fuel 1 0 plan st hinv htr).1,
    fun hh => loop_hard_ok hatt fuel 1 0 plan st hinv htr hh hok⟩

theorem run_bounded (hatt : AttSpec att Inv Good (ErrClass b cfg (NoReauthCode b cfg)) (StatusIn (NoReauthCode b cfg)) Hard)
    (hp : PolSound cfg dec) (ha : AuthSound b cfg ra) (hinv : Inv st) (plan : List Fault) (fuel : Nat)
    (hcl : ∀ x ∈ plan, StatusIn (NoReauthCode b cfg) x) :
    (loop att (policy b cfg dec ra) vis fuel 1 0 plan st).attempts ≤ cfg.budget := by
  have := loop_bounded (vis := vis) cfg.budget 0 hp.2.1
    (fun _ _ _ hi hall h => ⟨(hatt.fail hi hall h).1, (hatt.fail hi hall h).2.1⟩)
    (fun e rounds x _ => policy_no_retry_at_limit b cfg dec ra hp.1 e rounds x)
    (fun e tries rounds x he h => absurd h (policy_class_no_reauth hp ha e tries rounds x he))
    fuel 1 0 plan st hinv hcl 0 rfl hp.2.1
  omega

theorem run_persistent (hatt : AttSpec att Inv Good (ErrClass b cfg (NoReauthCode b cfg)) (StatusIn (NoReauthCode b cfg)) Hard)
    (hp : PolSound cfg dec) (ha : AuthSound b cfg ra) (hinv : Inv st) (plan : List Fault) (fuel : Nat)
    (hcl : ∀ x ∈ plan, StatusIn (NoReauthCode b cfg) x ∧ Hard x) (hlen : cfg.budget ≤ plan.length) (hfuel : cfg.budget ≤ fuel) :
    ∃ e, (loop att (policy b cfg dec ra) vis fuel 1 0 plan st).outcome = .error e := by
  have := hp.2.1
  exact loop_persistent cfg.budget hatt
    (fun e rounds x _ => policy_no_retry_at_limit b cfg dec ra hp.1 e rounds x)
    (policy_class_no_reauth hp ha)
    fuel 1 0 plan st hinv (fun x hx => (hcl x hx).1) (fun x hx => (hcl x hx).2) this (by omega) (by omega)

theorem run_bounded_reauth (att : Option Fault → σ → Att σ) (hm : cfg.maxTries = some cfg.budget) (hb : 1 ≤ cfg.budget) (l : Nat)
    (hl : cfg.reauthLimit = some l) (fuel : Nat) (plan : List Fault) (st : σ) :
    (loop att (policy b cfg dec ra) vis fuel 1 0 plan st).attempts ≤ (l + 1) * cfg.budget := by
  have := loop_bounded (vis := vis) (att := att) (Inv := fun _ => True) (ErrOk := fun _ => True) (Allowed := fun _ => True) cfg.budget l hb
    (fun _ _ _ _ _ _ => ⟨trivial, trivial⟩)
    (fun e rounds x _ => policy_no_retry_at_limit b cfg dec ra hm e rounds x)
    (fun e tries rounds x _ h => by
      have := policy_reauth h
      rw [reauthAllowed, hl, Bool.and_eq_true, decide_eq_true_eq] at this
      exact this.2)
    fuel 1 0 plan st trivial (fun _ _ => trivial) l (Nat.zero_add l) hb
  omega

end

/-- with the stream at 0 and the digest helper rewinding to 0 the call is the loop over the attempts, started in `UInv` -/
theorem runUp_eq {b : Backend} {cfg : Cfg} (hs : UpSound b cfg) (c fuel : Nat) (plan : List Fault) (data : Bytes) (old : Option Bytes) :
    runUp b cfg c fuel plan data 0 data.length old =
      loop (upAttempt b cfg c data.length (upDigest b data)) (upPolicy b cfg) (·.visible) fuel 1 0 plan ⟨⟨data, 0⟩, old, 0⟩ := by
  cases b with
  | «local» => rfl
  | b2 => rfl
  | s3 =>
    show loop _ _ _ fuel 1 0 plan (s3Digest cfg ⟨⟨data, 0⟩, old, 0⟩).2 = _
    rw [s3Digest, hs.2.2.2 rfl]
    rfl

theorem runUp_never_partial {b : Backend} {cfg : Cfg} (hs : UpSound b cfg) (c : Nat) (hc : 0 < c) (data : Bytes) (old : Option Bytes)
    (plan : List Fault) (fuel : Nat) :
    (∀ v ∈ (runUp b cfg c fuel plan data 0 data.length old).history, v = old ∨ v = some data) ∧
    (runUp b cfg c fuel plan data 0 data.length old).final.temps = 0 ∧
    ((runUp b cfg c fuel plan data 0 data.length old).final.visible = old ∨
      (runUp b cfg c fuel plan data 0 data.length old).final.visible = some data) := by
  rw [runUp_eq hs]
  have hatt := upAttempt_spec hs c hc data old (fun _ => True)
  have hall := statusIn_true plan
  refine ⟨loop_history _ hatt (fun _ h => h.2.2) (fun _ h => Or.inr h.2.2) fuel 1 0 plan _ (uinv_start data old) hall, ?_⟩
  obtain ⟨h1, h2⟩ := loop_final (pol := upPolicy b cfg) (vis := (·.visible)) hatt fuel 1 0 plan _ (uinv_start data old) hall
  exact (Decidable.em _).elim (fun hok => ⟨(h1 hok).2.1, Or.inr (h1 hok).2.2⟩) (fun hok => (h2 hok).2)

/-- what the result of a call records when `n` consecutive answers were each followed by a re-authentication and no sleep -/
def Restarted (n fuel : Nat) (r : Res UState) : Prop :=
  r.outcome = (if n < fuel then .ok else .fuel) ∧ r.attempts = min (n + 1) fuel ∧ r.sleeps = 0 ∧ r.reauths = min n fuel

theorem Restarted.bump {n fuel : Nat} {r : Res UState} (h : Restarted n fuel r) (recv : Nat) (v : Option Bytes) :
    Restarted (n + 1) (fuel + 1) (r.bump false.toNat 1 recv v) := by
  obtain ⟨h1, h2, h3, h4⟩ := h
  refine ⟨h1.trans ?_, (congrArg (· + 1) h2).trans (Nat.succ_min_succ _ _).symm, h3, (congrArg (· + 1) h4).trans (Nat.succ_min_succ _ _).symm⟩
  by_cases h : n < fuel
  · rw [if_pos h, if_pos (Nat.succ_lt_succ h)]
  · rw [if_neg h, if_neg (fun h' => h (Nat.lt_of_succ_lt_succ h'))]

/-- any number of consecutive answers with a status that is neither the give-up status nor the plain-retry status is "retried"
through `requires_auth`: one attempt and one re-authentication per answer, no back-off sleep, never an error -/
theorem b2_restart_run (cfg : Cfg) (hs : UpSound .b2 cfg) (hp : PolSound cfg cfg.upDecorated) (ha : UpAuthSound .b2 cfg)
    (h1 : 1 ≠ cfg.budget) (hnl : cfg.reauthLimit = none) (hra : cfg.handlerRaisesAuth = true)
    (code : Nat) (hg : cfg.giveupStatus ≠ some code) (hpl : cfg.plainRetryStatus ≠ some code)
    (c : Nat) (hc : 0 < c) (data : Bytes) (old : Option Bytes) :
    ∀ (n fuel rounds : Nat) (st : UState), UInv data old st →
      Restarted n fuel
        (loop (upAttempt .b2 cfg c data.length none) (upPolicy .b2 cfg) (·.visible) fuel 1 rounds (List.replicate n (.status code false)) st) := by
  have hatt : AttSpec (upAttempt .b2 cfg c data.length none) (UInv data old) (UGood data) _ _ _ :=
    upAttempt_spec hs c hc data old (fun _ => True)
  have hcond : ∀ rounds, (((Backend.b2 == .b2) && cfg.upRequiresAuth) && cfg.reauthOnAuthRequired && reauthAllowed cfg rounds) = true := by
    intro rounds
    rw [(ha.2 rfl).1, (ha.2 rfl).2, reauthAllowed, hnl]
    rfl
  have hpol : ∀ rounds, upPolicy .b2 cfg (hook cfg code false) 1 rounds = .reauth false := by
    intro rounds
    by_cases hh : cfg.hookAuthStatus = some code
    · rw [upPolicy, hook, if_pos hh, policy_auth, viaAuth_pos (hcond rounds)]
    · rw [upPolicy, hook, if_neg hh, policy_http_status (b := .b2) nofun hp,
        if_neg (not_or.mpr ⟨hg, h1⟩), onStatus, if_pos rfl, if_neg (fun h => hpl (beq_iff_eq.mp h)),
        if_pos hra, viaAuth_pos (hcond rounds)]
      rfl
  intro n fuel
  induction fuel generalizing n with
  | zero =>
    intro rounds st _
    rw [loop]
    exact ⟨(if_neg (Nat.not_lt_zero n)).symm, (Nat.min_zero _).symm, rfl, (Nat.min_zero _).symm⟩
  | succ fuel ih =>
    intro rounds st hinv
    cases n with
    | zero =>
      rcases hatt none st hinv nofun with ⟨h, _⟩ | ⟨_, hf, _⟩
      · rw [List.replicate_zero, loop_of_ok (plan := []) h]
        exact ⟨(if_pos (Nat.succ_pos fuel)).symm, (Nat.min_eq_left (Nat.succ_le_succ (Nat.zero_le fuel))).symm, rfl, (Nat.zero_min _).symm⟩
      · exact absurd rfl hf
    | succ n =>
      have herr : (upAttempt .b2 cfg c data.length none (some (.status code false)) st).err = some (hook cfg code false) := by
        obtain ⟨v, rfl, _⟩ := uinv_eq hinv
        rfl
      have hinv' := (hatt.fail (plan := .status code false :: List.replicate n (.status code false)) hinv
        (statusIn_true _) herr).2.1
      rw [List.replicate_succ, loop_of_reauth (plan := _ :: _) herr (hpol rounds)]
      exact (ih n (rounds + 1) _ hinv').bump _ _

end Replicat.Retry
