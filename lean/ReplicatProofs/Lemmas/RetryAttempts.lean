import ReplicatProofs.Lemmas.RetryLoop
/-!
What one attempt does (per adapter and direction) under a configuration that rewinds to 0, catches everything, unlinks the temp
file and truncates the sink: each attempt function satisfies the contract `AttSpec` of the loop.
-/
namespace Replicat.Retry

/-- what the upload attempts need of a configuration; decidable, `C12.cfg_sound` evaluates it (and `DownSound`) for `cfgOf` -/
abbrev UpSound (b : Backend) (cfg : Cfg) : Prop :=
  cfg.upRewind = some 0 ∧ cfg.upCatchAll = true ∧ (b = .local → cfg.upUnlink = true) ∧ (b = .s3 → cfg.digestRewind = some 0)

abbrev DownSound (cfg : Cfg) : Prop :=
  cfg.downRewind = some 0 ∧ cfg.downCatchAll = true ∧ cfg.downTruncate = true

section
variable {σ : Type} {Inv Good : σ → Prop} {Allowed Hard : Fault → Prop}

theorem AttSpec.mono_err {att : Option Fault → σ → Att σ} {E E' : Err → Prop} (h : AttSpec att Inv Good E Allowed Hard)
    (hE : ∀ e, E e → E' e) : AttSpec att Inv Good E' Allowed Hard := by
  intro f st hinv hall
  rcases h f st hinv hall with hok | ⟨e, hf, he, hE0, hi⟩
  · exact Or.inl hok
  · exact Or.inr ⟨e, hf, he, hE e hE0, hi⟩

/-- `Local.upload_stream` / `Local.download_stream`: the fault `f` is injected at the place `f.base` and surfaces with the class of
`f`; whatever the class, the exception is an OSError -/
theorem attSpec_errno {attAt : Nat → Option Fault → σ → Att σ} {HardAt : Fault → Prop}
    (h : ∀ k, AttSpec (attAt k) Inv Good (· = .os k) (fun _ => True) HardAt) :
    AttSpec (fun f => attAt (faultClass f) (faultBase f)) Inv Good (fun e => ∃ k, e = .os k) Allowed (fun x => HardAt x.base) := by
  intro f st hinv _
  rcases h (faultClass f) (faultBase f) st hinv (fun _ _ => trivial) with ⟨he, hg, hh⟩ | ⟨e, hf, he, hE, hi⟩
  · exact Or.inl ⟨he, hg, fun x hx => hh x.base (by rw [hx]; rfl)⟩
  · refine Or.inr ⟨e, fun h0 => hf (by rw [h0]; rfl), he, ⟨_, hE⟩, hi⟩

end

/-- what every failed upload attempt restores: stream at 0, no temp file, the object is the old one or the complete payload -/
def UInv (data : Bytes) (old : Option Bytes) (st : UState) : Prop :=
  st.src = ⟨data, 0⟩ ∧ st.temps = 0 ∧ (st.visible = old ∨ st.visible = some data)

/-- what a successful upload attempt establishes -/
def UGood (data : Bytes) (st : UState) : Prop :=
  st.src = ⟨data, data.length⟩ ∧ st.temps = 0 ∧ st.visible = some data

theorem uinv_start (data : Bytes) (old : Option Bytes) : UInv data old ⟨⟨data, 0⟩, old, 0⟩ := ⟨rfl, rfl, Or.inl rfl⟩

theorem uinv_eq {data : Bytes} {old : Option Bytes} {st : UState} (h : UInv data old st) :
    ∃ v, st = ⟨⟨data, 0⟩, v, 0⟩ ∧ (v = old ∨ v = some data) := by
  obtain ⟨⟨sd, sp⟩, v, t⟩ := st
  obtain ⟨h1, h2, h3⟩ := h
  cases h1
  cases h2
  exact ⟨v, rfl, h3⟩

theorem exceptUp_inv {cfg : Cfg} (hrw : cfg.upRewind = some 0) (hca : cfg.upCatchAll = true) {data : Bytes} {old v : Option Bytes}
    {s : Src} (hs : s.data = data) (hv : v = old ∨ v = some data) : UInv data old (exceptUp cfg ⟨s, v, 0⟩) := by
  rw [exceptUp, if_pos hca, hrw]
  exact ⟨by rw [← hs]; rfl, rfl, hv⟩

theorem copyUp_spec (c : Nat) (hc : 0 < c) (rf wf : Option Nat) (data : Bytes) : ∃ (e : CopyEnd) (s : Src) (t : Bytes),
    copyLoop (· ++ ·) c rf wf (data.length + 1) 0 ⟨data, 0⟩ ([] : Bytes) = (e, s, t) ∧ s.data = data ∧ e ≠ .fuel ∧
    (e = .done → t = data ∧ s.pos = data.length) ∧ (rf = none → wf = none → e = .done) := by
  obtain ⟨e, s, t, heq, hd, hnf, hdone, hnone⟩ := copyLoop_spec (· ++ ·) (· ++ ·) List.append_assoc
    c hc rf wf ([] : Bytes) (data.length + 1) 0 ⟨data, 0⟩ [] (Nat.lt_succ_self data.length)
  refine ⟨e, s, t, heq, hd, hnf, fun he => ?_, hnone⟩
  obtain ⟨e1, e2⟩ := hdone he
  exact ⟨e1, by rw [e2]; exact Nat.zero_add _⟩

/-- places where a fault makes a local upload attempt fail whatever the payload -/
def localUpHardAt : Fault → Prop
  | .pre | .mktemp | .rename => True
  | _ => False

/-- faults that make a local upload attempt fail wherever they are placed (with whatever errno they surface) -/
def localUpHard (x : Fault) : Prop := localUpHardAt x.base

theorem localUpAt_spec (cfg : Cfg) (hs : UpSound .local cfg) (c : Nat) (hc : 0 < c) (data : Bytes) (old : Option Bytes) (k : Nat) :
    AttSpec (localUpAt cfg c k) (UInv data old) (UGood data) (· = .os k) (fun _ => True) localUpHardAt := by
  obtain ⟨hrw, hca, hul, _⟩ := hs
  have hul := hul rfl
  intro f st hinv _
  obtain ⟨v, rfl, hv⟩ := uinv_eq hinv
  -- every failure after the temp file exists goes through the except-branch, which unlinks the file and rewinds
  have hfail : ∀ (s : Src) (n : Nat), s.data = data → f ≠ none → ∃ e, f ≠ none ∧
      (⟨some (Err.os k), exceptUp cfg ⟨s, v, 0⟩, n⟩ : Att UState).err = some e ∧ e = .os k ∧ UInv data old (exceptUp cfg ⟨s, v, 0⟩) :=
    fun s n hsd hf => ⟨_, hf, rfl, rfl, exceptUp_inv hrw hca hsd hv⟩
  unfold localUpAt
  rw [hca, hul]
  by_cases h1 : f = some .mktemp
  · rw [if_pos h1]
    exact Or.inr ⟨.os k, by rw [h1]; nofun, rfl, rfl, hinv⟩
  · rw [if_neg h1]
    by_cases h2 : f = some .pre
    · rw [if_pos h2]
      exact Or.inr (hfail _ 0 rfl (by rw [h2]; nofun))
    · rw [if_neg h2]
      obtain ⟨e, s, t, heq, hd, hnf, hdone, hnone⟩ := copyUp_spec c hc (faultSrc f) (faultMid f) data
      rw [heq]
      cases e with
      | done =>
        obtain ⟨rfl, hp⟩ := hdone rfl
        dsimp only
        by_cases h3 : f = some .rename
        · rw [if_pos h3]
          exact Or.inr (hfail s _ hd (by rw [h3]; nofun))
        · rw [if_neg h3]
          refine Or.inl ⟨rfl, ⟨?_, rfl, rfl⟩, fun x hx hh => ?_⟩
          · obtain ⟨sd, sp⟩ := s
            exact congr (congrArg Src.mk hd) hp
          · subst hx
            cases x with
            | pre => exact h2 rfl
            | mktemp => exact h1 rfl
            | rename => exact h3 rfl
            | _ => exact hh
      | fault =>
        refine Or.inr (hfail s _ hd fun hf => ?_)
        subst hf
        exact nomatch hnone rfl rfl
      | fuel => exact absurd rfl hnf

/-- the exceptions an HTTP attempt raises for the faults of a plan whose status codes satisfy `S` -/
def HttpErr (cfg : Cfg) (S : Nat → Prop) (e : Err) : Prop :=
  e = .transport ∨ ∃ code ra, S code ∧ e = hook cfg code ra

def StatusIn (S : Nat → Prop) (x : Fault) : Prop := ∀ code ra, x = .status code ra → S code

theorem statusIn_true (plan : List Fault) : ∀ x ∈ plan, StatusIn (fun _ => True) x := fun _ _ _ _ _ => trivial

/-- faults that make an HTTP upload attempt fail wherever they are placed -/
def httpUpHard : Fault → Prop
  | .pre | .mid _ | .status _ _ | .lost => True
  | _ => False

theorem httpUp_ignored (cfg : Cfg) (c d : Nat) (dg : Option Bytes) (x : Fault) (st : UState) (hx : ¬ httpUpHard x) :
    httpUp cfg c d dg (some x) st = httpUp cfg c d dg none st := by
  cases x <;> first | exact absurd trivial hx | rfl

theorem httpUp_spec (cfg : Cfg) (b : Backend) (hs : UpSound b cfg) (c : Nat) (hc : 0 < c) (data : Bytes) (old : Option Bytes)
    (digest : Option Bytes) (hdok : digestMatches digest data = true) (S : Nat → Prop) :
    AttSpec (httpUp cfg c data.length digest) (UInv data old) (UGood data) (HttpErr cfg S) (StatusIn S) httpUpHard := by
  obtain ⟨hrw, hca, _, _⟩ := hs
  intro f st hinv hall
  obtain ⟨v, rfl, hv⟩ := uinv_eq hinv
  have hfull : readChunks c (data.length + 1) ⟨data, 0⟩ = (data, ⟨data, data.length⟩) := by
    rw [readChunks_all c hc _ _ (Nat.lt_succ_self data.length)]
    show (data, Src.mk data (0 + data.length)) = _
    rw [Nat.zero_add]
  have hnone : httpUp cfg c data.length digest none ⟨⟨data, 0⟩, v, 0⟩ = ⟨none, ⟨⟨data, data.length⟩, some data, 0⟩, data.length⟩ := by
    simp only [httpUp, hfull, hdok, and_self, if_true, reduceCtorEq, if_false]
  cases f with
  | none =>
    rw [hnone]
    exact Or.inl ⟨rfl, ⟨rfl, rfl, rfl⟩, nofun⟩
  | some x =>
    by_cases hx : httpUpHard x
    · refine Or.inr ?_
      cases x with
      | pre => exact ⟨.transport, nofun, rfl, Or.inl rfl, exceptUp_inv hrw hca rfl hv⟩
      | mid j => exact ⟨.transport, nofun, rfl, Or.inl rfl, exceptUp_inv hrw hca (readChunks_data c j _) hv⟩
      | status code ra =>
        refine ⟨hook cfg code ra, nofun, rfl, Or.inr ⟨code, ra, hall _ rfl code ra rfl, rfl⟩, ?_⟩
        simp only [httpUp, hfull]
        exact exceptUp_inv hrw hca rfl hv
      | lost =>
        have : httpUp cfg c data.length digest (some .lost) ⟨⟨data, 0⟩, v, 0⟩ =
            ⟨some .transport, exceptUp cfg ⟨⟨data, data.length⟩, some data, 0⟩, data.length⟩ := by
          simp only [httpUp, hfull, hdok, and_self, if_true]
        rw [this]
        exact ⟨.transport, nofun, rfl, Or.inl rfl, exceptUp_inv hrw hca rfl (Or.inr rfl)⟩
      | _ => exact hx.elim
    · rw [httpUp_ignored cfg c _ _ x _ hx, hnone]
      exact Or.inl ⟨rfl, ⟨rfl, rfl, rfl⟩, fun y hy => by cases hy; exact hx⟩

/-- what every failed download attempt restores -/
def DInv (k : Sink) : Prop := k.pos = 0

/-- what a successful download attempt establishes: the sink holds exactly the object -/
def DGood (obj : Bytes) (k : Sink) : Prop := k.buf = obj ∧ k.pos = obj.length

theorem dinv_start (sink0 : Bytes) (file : Bool) : DInv ⟨sink0, 0, file⟩ := rfl

theorem exceptDown_inv (cfg : Cfg) (hs : DownSound cfg) (k : Sink) : DInv (exceptDown cfg k) := by
  obtain ⟨hrw, hca, _⟩ := hs
  rw [exceptDown, if_pos hca, hrw]
  rfl

theorem copyDown_spec (c : Nat) (hc : 0 < c) (rf wf : Option Nat) (obj : Bytes) (k : Sink) (hk : k.pos = 0) (hl : k.buf.length ≤ obj.length) :
    ∃ (e : CopyEnd) (s : Src) (k' : Sink), copyLoop Sink.write c rf wf (obj.length + 1) 0 ⟨obj, 0⟩ k = (e, s, k') ∧ e ≠ .fuel ∧
      (e = .done → DGood obj k') ∧ (rf = none → wf = none → e = .done) := by
  obtain ⟨e, s, t, heq, _, hnf, hdone, hnone⟩ := copyLoop_spec Sink.write Sink.write Sink.write_write c hc rf wf k (obj.length + 1) 0
    ⟨obj, 0⟩ [] (Nat.lt_succ_self obj.length)
  rw [Sink.write_nil k (by rw [hk]; exact Nat.zero_le _)] at heq
  refine ⟨e, s, _, heq, hnf, fun he => ?_, hnone⟩
  rw [(hdone he).1]
  exact Sink.write_all k obj hk hl

def localDownHardAt : Fault → Prop
  | .pre | .trunc => True
  | _ => False

def localDownHard (x : Fault) : Prop := localDownHardAt x.base

theorem localDownAt_spec (cfg : Cfg) (hs : DownSound cfg) (c : Nat) (hc : 0 < c) (obj : Bytes) (k : Nat) :
    AttSpec (localDownAt cfg c obj k) DInv (DGood obj) (· = .os k) (fun _ => True) localDownHardAt := by
  have htr := hs.2.2
  intro f st hinv _
  unfold localDownAt
  by_cases h1 : f = some .pre
  · rw [if_pos h1]
    exact Or.inr ⟨.os k, by rw [h1]; nofun, rfl, rfl, hinv⟩
  · rw [if_neg h1]
    by_cases h2 : f = some .trunc ∧ cfg.downTruncate = true
    · rw [if_pos h2]
      exact Or.inr ⟨.os k, by rw [h2.1]; nofun, rfl, rfl, exceptDown_inv cfg hs st⟩
    · rw [if_neg h2, htr, if_pos rfl]
      dsimp only
      obtain ⟨e, s, k', heq, hnf, hdone, hnone⟩ := copyDown_spec c hc (faultMid f) (faultSink f) obj (st.truncate obj.length) hinv
        (truncate_length_le st obj.length)
      rw [heq]
      cases e with
      | done =>
        refine Or.inl ⟨rfl, hdone rfl, fun x hx hh => ?_⟩
        subst hx
        cases x with
        | pre => exact h1 rfl
        | trunc => exact h2 ⟨rfl, htr⟩
        | _ => exact hh
      | fault =>
        refine Or.inr ⟨.os k, fun hf => ?_, rfl, rfl, exceptDown_inv cfg hs k'⟩
        subst hf
        exact nomatch hnone rfl rfl
      | fuel => exact absurd rfl hnf

def httpDownHard : Fault → Prop
  | .pre | .status _ _ | .cut _ => True
  | _ => False

theorem httpDown_ignored (cfg : Cfg) (c : Nat) (obj : Bytes) (x : Fault) (st : Sink) (hx : ¬ httpDownHard x) :
    httpDown cfg c obj (some x) st = httpDown cfg c obj none st := by
  cases x <;> first | rfl | exact absurd trivial hx

theorem httpDown_spec (cfg : Cfg) (hs : DownSound cfg) (c : Nat) (hc : 0 < c) (obj : Bytes) (S : Nat → Prop) :
    AttSpec (httpDown cfg c obj) DInv (DGood obj) (HttpErr cfg S) (StatusIn S) httpDownHard := by
  intro f st hinv hall
  have hgood : (httpDown cfg c obj none st).err = none ∧ DGood obj (httpDown cfg c obj none st).st := by
    refine ⟨rfl, ?_⟩
    show DGood obj ((chunkList c (obj.length + 1) obj).foldl Sink.write (if cfg.downTruncate = true then st.truncate obj.length else st))
    rw [hs.2.2, if_pos rfl, foldl_write _ _ (by rw [truncate_pos, hinv]; exact Nat.zero_le _),
      chunkList_flatten c hc _ _ (Nat.lt_succ_self obj.length)]
    exact Sink.write_all _ obj hinv (truncate_length_le st obj.length)
  cases f with
  | none => exact Or.inl ⟨hgood.1, hgood.2, nofun⟩
  | some x =>
    by_cases hx : httpDownHard x
    · refine Or.inr ?_
      cases x with
      | pre => exact ⟨.transport, nofun, rfl, Or.inl rfl, hinv⟩
      | status code ra => exact ⟨hook cfg code ra, nofun, rfl, Or.inr ⟨code, ra, hall _ rfl code ra rfl, rfl⟩, hinv⟩
      | cut n => exact ⟨.transport, nofun, rfl, Or.inl rfl, exceptDown_inv cfg hs _⟩
      | _ => exact hx.elim
    · rw [httpDown_ignored cfg c obj x st hx]
      exact Or.inl ⟨hgood.1, hgood.2, fun y hy => by cases hy; exact hx⟩

/-- the exceptions attempts raise: OSError for the local adapter, transport errors and statuses (through B2's hook) otherwise -/
def ErrClass (b : Backend) (cfg : Cfg) (S : Nat → Prop) (e : Err) : Prop :=
  (b = .local ∧ ∃ k, e = .os k) ∨ (b ≠ .local ∧ HttpErr cfg S e)

def UpHard (b : Backend) (x : Fault) : Prop :=
  match b with
  | .local => localUpHard x
  | _ => httpUpHard x

/-- the digest the S3 upload signs -/
def upDigest (b : Backend) (data : Bytes) : Option Bytes := match b with | .s3 => some data | _ => none

theorem upAttempt_spec {b : Backend} {cfg : Cfg} (hs : UpSound b cfg) (c : Nat) (hc : 0 < c) (data : Bytes) (old : Option Bytes)
    (S : Nat → Prop) :
    AttSpec (upAttempt b cfg c data.length (upDigest b data)) (UInv data old) (UGood data) (ErrClass b cfg S) (StatusIn S) (UpHard b) := by
  cases b with
  | «local» => exact (attSpec_errno (localUpAt_spec cfg hs c hc data old)).mono_err fun e h => Or.inl ⟨rfl, h⟩
  | s3 => exact (httpUp_spec cfg .s3 hs c hc data old (some data) (decide_eq_true rfl) S).mono_err fun e h => Or.inr ⟨nofun, h⟩
  | b2 => exact (httpUp_spec cfg .b2 hs c hc data old none rfl S).mono_err fun e h => Or.inr ⟨nofun, h⟩

def DownHard (b : Backend) (x : Fault) : Prop :=
  match b with
  | .local => localDownHard x
  | _ => httpDownHard x

theorem downAttempt_spec (b : Backend) {cfg : Cfg} (hs : DownSound cfg) (c : Nat) (hc : 0 < c) (obj : Bytes) (S : Nat → Prop) :
    AttSpec (downAttempt b cfg c obj) DInv (DGood obj) (ErrClass b cfg S) (StatusIn S) (DownHard b) := by
  cases b with
  | «local» => exact (attSpec_errno (localDownAt_spec cfg hs c hc obj)).mono_err fun e h => Or.inl ⟨rfl, h⟩
  | s3 | b2 => exact (httpDown_spec cfg hs c hc obj S).mono_err fun e h => Or.inr ⟨nofun, h⟩

end Replicat.Retry
