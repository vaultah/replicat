import ReplicatProofs.Lemmas.Store
import ReplicatModel.B2Location
/-! Helper lemmas for C13, the B2 repository location (`B2Location.lean`): bucket look-up and slot fillers. -/
namespace Replicat.Store
open Replicat

theorem Bucket.isNamedBy_both (ident : List Char) (b : Bucket) :
    b.isNamedBy ["bucketId", "bucketName"] ident = true ↔ (b.id = ident ∨ b.name = ident) := by
  simp [Bucket.isNamedBy, Bucket.field]

/-- the location names our bucket (by id or by name) and no other bucket of the account -/
structure LocOk (l : B2Loc) : Prop where
  names : l.ident = l.own.id ∨ l.ident = l.own.name
  listed : l.own ∈ l.buckets
  unambiguous : ∀ b ∈ l.buckets, b ≠ l.own → b.id ≠ l.ident ∧ b.name ≠ l.ident

/-- with the match rule "id or name" in both places, a good location resolves to our bucket -/
theorem B2Loc.resolve_of_ok (l : B2Loc) (h : LocOk l)
    (hl : Gen.b2ListMatchFields = ["bucketId", "bucketName"]) (ha : Gen.b2AllowedMatchFields = ["bucketId", "bucketName"]) :
    l.resolve = some l.own := by
  have hown : l.own.isNamedBy ["bucketId", "bucketName"] l.ident = true :=
    (Bucket.isNamedBy_both _ _).mpr (h.names.elim (fun e => Or.inl e.symm) (fun e => Or.inr e.symm))
  unfold B2Loc.resolve
  by_cases hr : l.restricted = true
  · simp only [hr, if_true, ha, hown]
  · simp only [hr, Bool.false_eq_true, if_false, hl]
    cases hf : l.buckets.find? (Bucket.isNamedBy ["bucketId", "bucketName"] l.ident) with
    | none => exact absurd hown (List.find?_eq_none.mp hf _ h.listed)
    | some b =>
      refine congrArg some (Classical.byContradiction fun hne => ?_)
      obtain ⟨h1, h2⟩ := h.unambiguous b (List.mem_of_find?_eq_some hf) hne
      exact ((Bucket.isNamedBy_both _ _).mp (List.find?_some hf)).elim h1 h2

/-- a located step whose look-up yields our bucket and whose slots are filled with the record's name / id is the plain step -/
theorem B2.stepAtWith_resolved (l : B2Loc) (hres : l.resolve = some l.own) (ps : Nat) (s : B2) (op : Op) :
    B2.stepAtWith "resolved.name" "resolved.id" l ps s op = B2.step ps s op := by
  unfold B2.stepAtWith
  simp only [hres]
  cases hb : op.byNameUrl <;> simp [bucketRef]

end Replicat.Store
