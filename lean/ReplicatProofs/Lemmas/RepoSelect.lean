import ReplicatProofs.Lemmas.RepoBasic
/-! Selection lemmas for restore and the listings (C15; the membership lemmas are also used by C06):
`selectFiles` = "first occurrence of a path in the newest-first concatenation"; on a list sorted strictly descending by
timestamp the first body containing a path is the one with the greatest timestamp (arg-max). -/
namespace Replicat.Repo
open List

/-- one iteration of `restore`'s selection loop -/
def selStep (fre : Nat → Bool) (acc : List FileRec) (f : FileRec) : List FileRec :=
  if acc.any (fun g => g.path == f.path) then acc else if fre f.path then acc ++ [f] else acc

theorem selectFiles_eq (fre : Nat → Bool) (bodies : List Body) :
    selectFiles fre bodies = (bodies.flatMap (·.files)).foldl (selStep fre) [] := rfl

theorem mem_selStep (fre : Nat → Bool) (acc : List FileRec) (x f : FileRec) :
    f ∈ selStep fre acc x ↔ f ∈ acc ∨ (f = x ∧ fre x.path = true ∧ ∀ g ∈ acc, g.path ≠ x.path) := by
  have hany : acc.any (fun g => g.path == x.path) = true ↔ ¬ ∀ g ∈ acc, g.path ≠ x.path := by
    rw [any_eq_true, Classical.not_forall]
    exact exists_congr fun g => by rw [beq_iff_eq, Classical.not_imp, Classical.not_not]
  unfold selStep
  split
  · rename_i h
    exact (or_iff_left (fun hr => hany.mp h hr.2.2)).symm
  · rename_i h
    have hfree := Classical.not_not.mp (mt hany.mpr h)
    split
    · rename_i hf
      rw [mem_append, mem_singleton]
      exact or_congr_right (iff_self_and.mpr fun _ => ⟨hf, hfree⟩)
    · rename_i hf
      exact (or_iff_left (fun hr => hf hr.2.1)).symm

theorem free_selStep (fre : Nat → Bool) (acc : List FileRec) (x : FileRec) (p : Nat) :
    (∀ g ∈ selStep fre acc x, g.path ≠ p) ↔ (∀ g ∈ acc, g.path ≠ p) ∧ (fre x.path = true → x.path ≠ p) := by
  constructor
  · intro h
    have hacc : ∀ g ∈ acc, g.path ≠ p := fun g hg => h g ((mem_selStep fre acc x g).mpr (Or.inl hg))
    refine ⟨hacc, fun hf hxp => ?_⟩
    by_cases hfree : ∀ g ∈ acc, g.path ≠ x.path
    · exact h x ((mem_selStep fre acc x x).mpr (Or.inr ⟨rfl, hf, hfree⟩)) hxp
    · exact hfree (fun g hg => hxp ▸ hacc g hg)
  · rintro ⟨hacc, hx⟩ g hg
    rcases (mem_selStep fre acc x g).mp hg with hg | ⟨rfl, hf, _⟩
    · exact hacc g hg
    · exact hx hf

theorem mem_foldl_selStep (fre : Nat → Bool) (xs : List FileRec) (acc : List FileRec) (f : FileRec) :
    f ∈ xs.foldl (selStep fre) acc ↔
      f ∈ acc ∨ (fre f.path = true ∧ (∀ g ∈ acc, g.path ≠ f.path) ∧ xs.find? (fun g => g.path == f.path) = some f) := by
  induction xs generalizing acc with
  | nil => exact (or_iff_left (fun h => nomatch h.2.2)).symm
  | cons x xs ih =>
    rw [foldl_cons, ih, mem_selStep, free_selStep, find?_cons]
    by_cases hp : x.path = f.path
    · -- `x` is the first record with `f`'s path: it is selected, or the path is taken, and nothing later counts
      rw [beq_iff_eq.mpr hp]
      constructor
      · rintro ((h | ⟨rfl, hf, hfree⟩) | ⟨hf, ⟨_, hx⟩, _⟩)
        · exact Or.inl h
        · exact Or.inr ⟨hf, hfree, rfl⟩
        · exact absurd hp (hx (hp ▸ hf))
      · rintro (h | ⟨hf, hfree, hx⟩)
        · exact Or.inl (Or.inl h)
        · cases hx
          exact Or.inl (Or.inr ⟨rfl, hf, hfree⟩)
    · rw [beq_eq_false_iff_ne.mpr hp]
      constructor
      · rintro ((h | ⟨rfl, _⟩) | ⟨hf, ⟨hfree, _⟩, hfind⟩)
        · exact Or.inl h
        · exact absurd rfl hp
        · exact Or.inr ⟨hf, hfree, hfind⟩
      · rintro (h | ⟨hf, hfree, hfind⟩)
        · exact Or.inl (Or.inl h)
        · exact Or.inr ⟨hf, ⟨hfree, fun _ => hp⟩, hfind⟩

/-- `restore`'s selection = for every path accepted by the file filter, its FIRST occurrence in the concatenated file lists -/
theorem mem_selectFiles (fre : Nat → Bool) (bodies : List Body) (f : FileRec) :
    f ∈ selectFiles fre bodies ↔
      fre f.path = true ∧ bodies.findSome? (fun b => b.files.find? (fun g => g.path == f.path)) = some f := by
  rw [selectFiles_eq, mem_foldl_selStep, find?_flatMap]
  simp

theorem foldl_selStep_of_nodup (fre : Nat → Bool) (l acc : List FileRec)
    (hdis : ∀ g ∈ acc, ∀ f ∈ l, g.path ≠ f.path) (hnd : (l.map (·.path)).Nodup) :
    l.foldl (selStep fre) acc = acc ++ l.filter (fun f => fre f.path) := by
  induction l generalizing acc with
  | nil => exact (append_nil acc).symm
  | cons a l ih =>
    have hnd' := nodup_cons.mp hnd
    have hany : acc.any (fun g => g.path == a.path) = false :=
      any_eq_false.mpr (fun g hg h => hdis g hg a mem_cons_self (beq_iff_eq.mp h))
    have hdis' : ∀ g ∈ acc, ∀ f ∈ l, g.path ≠ f.path := fun g hg f hf => hdis g hg f (mem_cons_of_mem _ hf)
    rw [foldl_cons, selStep, hany, if_neg Bool.false_ne_true, filter_cons]
    by_cases hfa : fre a.path = true
    · rw [if_pos hfa, if_pos hfa, ih (acc ++ [a]) ?_ hnd'.2, append_assoc, singleton_append]
      intro g hg f hf
      rcases mem_append.mp hg with hg | hg
      · exact hdis' g hg f hf
      · rw [mem_singleton.mp hg]
        exact fun heq => hnd'.1 (mem_map.mpr ⟨f, hf, heq.symm⟩)
    · rw [if_neg hfa, if_neg hfa]
      exact ih acc hdis' hnd'.2

theorem selectFiles_single (fre : Nat → Bool) (b : Body) (hnd : (b.files.map (·.path)).Nodup) :
    selectFiles fre [b] = b.files.filter (fun f => fre f.path) := by
  rw [selectFiles_eq, flatMap_cons, flatMap_nil, append_nil, foldl_selStep_of_nodup fre b.files [] (fun _ h => nomatch h) hnd,
    nil_append]

theorem selectFiles_nodup_paths (fre : Nat → Bool) (bodies : List Body) :
    ((selectFiles fre bodies).map (·.path)).Nodup := by
  rw [selectFiles_eq]
  suffices h : ∀ (xs acc : List FileRec), (acc.map (·.path)).Nodup → ((xs.foldl (selStep fre) acc).map (·.path)).Nodup from
    h _ [] nodup_nil
  intro xs
  induction xs with
  | nil => exact fun acc h => h
  | cons x xs ih =>
    intro acc h
    rw [foldl_cons]
    apply ih
    unfold selStep
    split
    · exact h
    · rename_i hany
      split
      · -- `x` is appended only when no record of `acc` has its path
        rw [map_append, nodup_append]
        refine ⟨h, nodup_cons.mpr ⟨not_mem_nil, nodup_nil⟩, ?_⟩
        intro a ha b hb hab
        obtain ⟨g, hg, hgp⟩ := mem_map.mp ha
        rw [mem_singleton.mp hb] at hab
        exact hany (any_eq_true.mpr ⟨g, hg, beq_iff_eq.mpr (hgp.trans hab)⟩)
      · exact h

/-- on a list sorted strictly descending by a key, the first element where `φ` is defined is the one with the greatest key -/
theorem findSome?_sorted {α β : Type} (key : α → Nat) (φ : α → Option β) (l : List α)
    (hs : l.Pairwise (fun a b => key b < key a)) (y : β) :
    l.findSome? φ = some y ↔ ∃ b ∈ l, φ b = some y ∧ ∀ b' ∈ l, (φ b').isSome → key b' ≤ key b := by
  rw [findSome?_eq_some_iff]
  constructor
  · rintro ⟨l₁, b, l₂, rfl, hb, hnone⟩
    refine ⟨b, mem_append_right _ mem_cons_self, hb, fun b' hb' hsome => ?_⟩
    rcases mem_append.mp hb' with h1 | h2
    · rw [hnone b' h1] at hsome
      cases hsome
    · rcases mem_cons.mp h2 with rfl | h2
      · exact Nat.le_refl _
      · exact Nat.le_of_lt (rel_of_pairwise_cons (pairwise_append.mp hs).2.1 h2)
  · rintro ⟨b, hb, hby, hmax⟩
    obtain ⟨l₁, l₂, rfl⟩ := append_of_mem hb
    refine ⟨l₁, b, l₂, rfl, hby, fun x hx => ?_⟩
    -- an element before `b` has a greater key, so `φ` is not defined there
    have hlt := (pairwise_append.mp hs).2.2 x hx b mem_cons_self
    cases hx' : φ x with
    | none => rfl
    | some z =>
      have hle := hmax x (mem_append_left _ hx) (hx' ▸ rfl)
      omega

/-- `tsGE` and `rowGE` are orders of this form -/
theorem pairwise_mergeSort_key {α : Type} (key : α → Nat) (l : List α) :
    (mergeSort l (fun a b => decide (key b ≤ key a))).Pairwise (fun a b => key b ≤ key a) := by
  refine (pairwise_mergeSort ?_ ?_ l).imp of_decide_eq_true
  · intro a b c hab hbc
    exact decide_eq_true (Nat.le_trans (of_decide_eq_true hbc) (of_decide_eq_true hab))
  · intro a b
    rw [Bool.or_eq_true, decide_eq_true_eq, decide_eq_true_eq]
    exact Nat.le_total _ _

theorem row_toLoaded (enc : Bool) (u : User) (f : Fam) (sid : Nat) (b : Body) :
    (⟨(toLoaded enc u f sid b).sid, (toLoaded enc u f sid b).data.map (·.ts), (toLoaded enc u f sid b).data.map (·.files.length)⟩ : SnapRow)
      = if (!enc || b.owner == u.key) = true then ⟨sid, some b.ts, some b.files.length⟩ else ⟨sid, none, none⟩ := by
  unfold toLoaded
  split <;> rfl

/-- newest first; strictly when the timestamps are pairwise different -/
theorem readableNewestFirst_sorted (ls : List Loaded) (hts : ((ls.filterMap (·.data)).map (·.ts)).Nodup) :
    (readableNewestFirst ls).Pairwise (fun a b => b.ts < a.ts) := by
  unfold readableNewestFirst
  have h1 : (mergeSort (ls.filterMap (·.data)) tsGE).Pairwise (fun a b => b.ts ≤ a.ts) := pairwise_mergeSort_key Body.ts _
  have h2 : ((mergeSort (ls.filterMap (·.data)) tsGE).map (·.ts)).Nodup :=
    ((mergeSort_perm _ tsGE).map _).nodup_iff.mpr hts
  rw [nodup_iff_pairwise_ne, pairwise_map] at h2
  refine (h1.and h2).imp ?_
  intro a b ⟨hge, hne⟩
  omega

theorem mem_readableNewestFirst (ls : List Loaded) (b : Body) :
    b ∈ readableNewestFirst ls ↔ ∃ l ∈ ls, l.data = some b := by
  unfold readableNewestFirst
  rw [mem_mergeSort, mem_filterMap]

/-- a body is readable by `u` under the snapshot filter `sre`: a listed, matching, visible snapshot object whose private part
decrypts with `u`'s key -/
def Readable (enc : Bool) (u : User) (sre : Nat → Bool) (s : Store) (b : Body) : Prop :=
  ∃ f sid, get s (.snap f sid) = some (.snap f sid b) ∧ sre sid = true ∧ visible enc u f = true ∧ (!enc || b.owner == u.key) = true

theorem mem_readable {enc : Bool} {u : User} {sre : Nat → Bool} {s : Store} (h : WF s) (b : Body) :
    b ∈ readableNewestFirst (loadedPure enc u sre s) ↔ Readable enc u sre s b := by
  rw [mem_readableNewestFirst]
  constructor
  · rintro ⟨l, hl, hd⟩
    obtain ⟨b', hg, hre, hvis, hl'⟩ := (mem_loadedPure h).mp hl
    rw [hl', toLoaded_data] at hd
    split at hd
    · rename_i hc
      cases hd
      exact ⟨l.fam, l.sid, hg, hre, hvis, hc⟩
    · cases hd
  · rintro ⟨f, sid, hg, hre, hvis, hc⟩
    exact ⟨toLoaded enc u f sid b, toLoaded_mem hg hre hvis, if_pos hc⟩

theorem restore_ok {enc : Bool} {u : User} {sre fre : Nat → Bool} {s : Store} (h : WF s) {sel : List FileRec}
    (hr : restore enc u sre fre s = .ok sel) :
    sel = selectFiles fre (readableNewestFirst (loadedPure enc u sre s)) ∧ sel.all (fun f => f.needs.all (chunkOk u s)) = true := by
  unfold restore at hr
  rw [loadSnapshots_wf enc u sre s h] at hr
  dsimp only at hr
  split at hr
  · cases hr
    exact ⟨rfl, ‹_›⟩
  · cases hr

theorem mem_selected {enc : Bool} {u : User} {sre fre : Nat → Bool} {s : Store} (h : WF s) {f : FileRec}
    (hf : f ∈ selectFiles fre (readableNewestFirst (loadedPure enc u sre s))) :
    fre f.path = true ∧ ∃ b, Readable enc u sre s b ∧ f ∈ b.files := by
  obtain ⟨hfre, hfs⟩ := (mem_selectFiles fre _ f).mp hf
  obtain ⟨b, hb, hfind⟩ := exists_of_findSome?_eq_some hfs
  exact ⟨hfre, b, (mem_readable h b).mp hb, mem_of_find?_eq_some hfind⟩

theorem mem_listFiles {enc : Bool} {u : User} {sre fre : Nat → Bool} {s : Store} (h : WF s) {rows : List (Nat × Nat × Nat)}
    (hr : listFiles enc u sre fre s = .ok rows) (r : Nat × Nat × Nat) :
    r ∈ rows ↔ ∃ b, Readable enc u sre s b ∧ ∃ f ∈ b.files, fre f.path = true ∧ r = (b.ts, f.path, f.ver) := by
  unfold listFiles at hr
  rw [loadSnapshots_wf enc u sre s h] at hr
  cases hr
  rw [mem_flatMap]
  constructor
  · rintro ⟨b, hb, hr⟩
    obtain ⟨f, hf, rfl⟩ := mem_map.mp hr
    obtain ⟨hf1, hf2⟩ := mem_filter.mp hf
    exact ⟨b, (mem_readable h b).mp hb, f, hf1, hf2, rfl⟩
  · rintro ⟨b, hb, f, hf1, hf2, rfl⟩
    exact ⟨b, (mem_readable h b).mpr hb, mem_map.mpr ⟨f, mem_filter.mpr ⟨hf1, hf2⟩, rfl⟩⟩

/-- in a body whose paths are pairwise different, the first record with `f`'s path is `f` itself -/
theorem find?_path_of_mem {files : List FileRec} (hn : (files.map (·.path)).Nodup) {f : FileRec} (hf : f ∈ files) :
    files.find? (fun g => g.path == f.path) = some f := by
  obtain ⟨l₁, l₂, rfl⟩ := append_of_mem hf
  rw [map_append, map_cons, nodup_append] at hn
  rw [find?_eq_some_iff_append]
  refine ⟨beq_self_eq_true _, l₁, l₂, rfl, fun a ha => ?_⟩
  rw [Bool.not_eq_true', beq_eq_false_iff_ne]
  exact hn.2.2 a.path (mem_map_of_mem ha) f.path mem_cons_self

theorem find?_path_isSome_iff (files : List FileRec) (p : Nat) :
    (files.find? (fun g => g.path == p)).isSome ↔ ∃ g ∈ files, g.path = p := by
  simp

end Replicat.Repo
