import ReplicatProofs.Lemmas.Sched
/-!
Helper lemmas for C09, system S1″ (slot requests under transfer latency, virtual time).
-/
namespace Replicat.Sched

/-- slots and jobs are conserved, whatever the bound of the request and however much time passes -/
structure LatInv (n jobs : Nat) (σ : Lat) : Prop where
  slots : σ.free + σ.held = n
  jobs : σ.queued + σ.waiting.length + σ.held + σ.done + σ.timedOut = jobs

theorem lat_init_inv (n jobs : Nat) : LatInv n jobs (Lat.init n jobs) :=
  ⟨slotCount_eq n, rfl⟩

theorem lat_step_inv (tmo : Option Nat) (n jobs : Nat) (σ : Lat) (e : LatEv) (σ' : Lat)
    (h : LatInv n jobs σ) (hs : Lat.step tmo σ e = some σ') : LatInv n jobs σ' := by
  obtain ⟨h1, h2⟩ := h
  cases e with
  | request =>
    obtain ⟨hg, rfl⟩ := of_guarded hs
    refine ⟨h1, ?_⟩
    dsimp only
    rw [List.length_append, List.length_singleton, sub_one_add_succ hg]
    exact h2
  | grant =>
    simp only [Lat.step] at hs
    split at hs
    · rename_i t rest hw
      obtain ⟨hg, rfl⟩ := of_guarded hs
      rw [hw, List.length_cons] at h2
      constructor
      · dsimp only
        rw [sub_one_add_succ hg]
        exact h1
      · simp +arith only at h2 ⊢
        exact h2
    · cases hs
  | finish =>
    obtain ⟨hg, rfl⟩ := of_guarded hs
    constructor
    · dsimp only
      rw [succ_add_sub_one hg]
      exact h1
    · dsimp only
      rw [Nat.add_assoc (σ.queued + σ.waiting.length), sub_one_add_succ hg, ← Nat.add_assoc]
      exact h2
  | delay d =>
    cases hs
    exact ⟨h1, h2⟩
  | expire =>
    simp only [Lat.step] at hs
    split at hs
    · rename_i T t rest _ hw
      obtain ⟨hg, rfl⟩ := of_guarded hs
      rw [hw, List.length_cons] at h2
      refine ⟨h1, ?_⟩
      simp +arith only at h2 ⊢
      exact h2
    · cases hs

theorem lat_step_no_timeout (σ : Lat) (e : LatEv) (σ' : Lat) (hs : Lat.step none σ e = some σ') : σ'.timedOut = σ.timedOut := by
  cases e with
  | request =>
    obtain ⟨_, rfl⟩ := of_guarded hs
    rfl
  | grant =>
    simp only [Lat.step] at hs
    split at hs
    · obtain ⟨_, rfl⟩ := of_guarded hs
      rfl
    · cases hs
  | finish =>
    obtain ⟨_, rfl⟩ := of_guarded hs
    rfl
  | delay d =>
    cases hs
    rfl
  | expire => cases hs

theorem lat_progress (tmo : Option Nat) (n : Nat) (hn : 0 < n) (σ : Lat) (h : σ.free + σ.held = n) (hq : σ.quiet = false) :
    ∃ e ∈ Lat.moves, (Lat.step tmo σ e).isSome = true := by
  by_cases hqd : 0 < σ.queued
  · exact ⟨.request, by decide, guarded_isSome hqd⟩
  by_cases hh : 0 < σ.held
  · exact ⟨.finish, by decide, guarded_isSome hh⟩
  have h0 := Nat.eq_zero_of_not_pos hqd
  have h3 := Nat.eq_zero_of_not_pos hh
  cases hw : σ.waiting with
  | nil =>
    rw [Lat.quiet, hw, h0, h3] at hq
    cases hq
  | cons t rest =>
    have hf : 0 < σ.free := by
      rw [h3, Nat.add_zero] at h
      exact h ▸ hn
    refine ⟨.grant, by decide, ?_⟩
    rw [Lat.step, hw]
    exact guarded_isSome hf

end Replicat.Sched
