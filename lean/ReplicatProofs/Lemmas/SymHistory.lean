import ReplicatProofs.Lemmas.SymView
/-! The history invariant behind C05: every emitted (name, content) pair is `Public` and has a keyed name, the config entry is
the caller's settings term, and every AEAD encryption used a nonce drawn from the fresh supply.  The snapshot case is proved
for a snapshot against an arbitrary backend (`inv_snapshotEv`); the snapshot of `step` is its honest schedule. -/
namespace Replicat.Sym
open Term (pub sec nonce key nil pair mac kdf enc)

/-- well-formed inputs: algorithm settings are public constants, a password is a secret -/
def InitArgs.wf (a : InitArgs) : Prop :=
  Public a.cfg = true ∧ Public a.kdfcfg = true ∧ Public a.shcfg = true ∧ Public a.pw = false

def Op.wf : Op → Prop
  | .addKey _ _ kdfcfg shcfg pw => Public kdfcfg = true ∧ Public shcfg = true ∧ Public pw = false
  | _ => True

def KeysOK (p : Props) : Prop :=
  p.encrypted = true ∧ Public p.userKey = false ∧ Public p.sh.sharedKey = false ∧ Public p.sh.macKey = false

def UserOK (u : User) : Prop :=
  Public u.kdfcfg = true ∧ Public u.pw = false ∧ Public u.salt = true ∧ Public u.sh.cfg = true ∧
  Public u.sh.sharedKey = false ∧ Public u.sh.macKey = false

def EntryOK (cfg : Term) (e : Term × Term) : Prop :=
  Public e.1 = true ∧ Public e.2 = true ∧ nameKeyed e.1 = true ∧ (e.1 = configLoc → e.2 = cfg)

structure Inv (cfg : Term) (s : St) : Prop where
  enc : s.encrypted = true
  users : ∀ u ∈ s.users, UserOK u
  log : ∀ e ∈ s.log, EntryOK cfg e
  usesLt : ∀ e ∈ s.uses, ∃ m, m < s.next ∧ e.2 = nonce m
  usesNodup : (s.uses.map (·.2)).Nodup

theorem keysOK_of_user {u : User} (h : UserOK u) : KeysOK (u.props true) := by
  obtain ⟨_, hpw, _, _, hsk, hmk⟩ := h
  refine ⟨rfl, ?_, hsk, hmk⟩
  simp [User.props, userKeyOf, Public, hpw]

theorem public_subKey {p : Props} (h : KeysOK p) (c : Term) : Public (subKey p c) = false := by
  simp [subKey, Public, h.2.2.1]

theorem entry_chunk (cfg : Term) {p : Props} (h : KeysOK p) (k : Nat) (c : Term) :
    EntryOK cfg (chunkLoc p (digest c), chunkObject p (nonce k) c) := by
  obtain ⟨he, _, _, hmk⟩ := h
  rw [chunkLoc_encrypted he]
  refine ⟨?_, ?_, ?_, ?_⟩
  · simp only [Public, prefixChunk, hmk, Bool.not_false, Bool.true_or, Bool.and_self]
  · simp only [chunkObject, he, if_true, Public, public_subKey ⟨he, ‹_›, ‹_›, hmk⟩, Bool.not_false, Bool.true_or, Bool.and_self]
  · rfl
  · intro hc
    cases hc

theorem entry_snap (cfg : Term) {p : Props} (h : KeysOK p) (a b : Nat) (t d : Term) :
    EntryOK cfg (snapLoc p (snapshotName (snapshotStored p (nonce a) (nonce b) t d)), snapshotStored p (nonce a) (nonce b) t d) := by
  have hk := h
  obtain ⟨he, huk, _, hmk⟩ := h
  have hst : Public (snapshotStored p (nonce a) (nonce b) t d) = true := by
    simp only [snapshotStored, he, if_true, Public, public_subKey hk, huk, Bool.not_false, Bool.true_or, Bool.and_self]
  unfold snapLoc
  rw [snapshotTag_encrypted he]
  refine ⟨?_, hst, ?_, ?_⟩
  · simp only [snapshotName, Public, prefixSnap, hmk, hst, Bool.not_false, Bool.true_or, Bool.and_self]
  · rfl
  · intro hc
    cases hc
theorem entry_key (cfg : Term) (i : Nat) (kdfcfg pw : Term) (sh : Shared) (k n : Nat)
    (h1 : Public kdfcfg = true) (h2 : Public pw = false) :
    EntryOK cfg (keyLoc i, keyFile kdfcfg (nonce k) pw sh (nonce n)) := by
  refine ⟨by simp [keyLoc, Public, prefixKey], ?_, by simp [keyLoc, nameKeyed], ?_⟩
  · simp [keyFile, userKeyOf, Public, h1, h2]
  · intro hc
    simp [keyLoc, configLoc] at hc

theorem uses_append {uses : List (Term × Term)} {next : Nat} (k : Term) {n next' : Nat} (hn : next ≤ n) (hn' : n < next')
    (hlt : ∀ e ∈ uses, ∃ m, m < next ∧ e.2 = nonce m) (hnd : (uses.map (·.2)).Nodup) :
    (∀ e ∈ uses ++ [(k, nonce n)], ∃ m, m < next' ∧ e.2 = nonce m) ∧ ((uses ++ [(k, nonce n)]).map (·.2)).Nodup := by
  constructor
  · intro e he
    rcases List.mem_append.mp he with he | he
    · obtain ⟨m, hm, hem⟩ := hlt e he
      exact ⟨m, Nat.lt_trans (Nat.lt_of_lt_of_le hm hn) hn', hem⟩
    · rw [List.mem_singleton.mp he]
      exact ⟨n, hn', rfl⟩
  · rw [List.map_append, List.nodup_append]
    refine ⟨hnd, List.pairwise_singleton _ _, ?_⟩
    intro x hx y hy
    obtain ⟨e, he, rfl⟩ := List.mem_map.mp hx
    obtain ⟨m, hm, hem⟩ := hlt e he
    rw [List.mem_singleton.mp hy, hem]
    intro heq
    injection heq with heq
    exact absurd (heq ▸ hm) (Nat.not_lt.mpr hn)

theorem inv_keyAdded (cfg : Term) {s : St} (h : Inv cfg s) {kdfcfg pw : Term} {sh : Shared} {k : Nat} (hk : s.next ≤ k)
    (hkdf : Public kdfcfg = true) (hpw : Public pw = false)
    (hsh : Public sh.cfg = true ∧ Public sh.sharedKey = false ∧ Public sh.macKey = false) :
    Inv cfg (keyAdded s kdfcfg pw sh k) := by
  obtain ⟨u1, u2⟩ := uses_append (userKeyOf pw (nonce k)) (Nat.le_succ_of_le hk) (Nat.lt_succ_self (k + 1)) h.usesLt h.usesNodup
  exact ⟨h.enc, mem_append_singleton h.users ⟨hkdf, hpw, rfl, hsh⟩,
    mem_append_singleton h.log (entry_key cfg _ kdfcfg pw _ _ _ hkdf hpw), u1, u2⟩

theorem inv_putChunkAns (cfg : Term) {p : Props} (hp : KeysOK p) (s : St) (c : Term) (ans : Option Bool) (h : Inv cfg s) :
    Inv cfg (putChunkAnsWith true p s c ans) := by
  obtain ⟨u1, u2⟩ := uses_append (subKey p (if Gen.chunkWriteKeyFromDigest then digest c else nil)) (Nat.le_refl _)
    (Nat.lt_succ_self _) h.usesLt h.usesNodup
  have either : ∀ (b : Bool) (s1 s2 : St), Inv cfg s1 → Inv cfg s2 → Inv cfg (if b then s1 else s2) :=
    fun b s1 s2 h1 h2 => by cases b <;> assumption
  unfold putChunkAnsWith queuedWith
  rw [hp.1]
  -- nothing is uploaded, or the ciphertext is
  exact either _ _ _ ⟨h.enc, h.users, h.log, u1, u2⟩
    ⟨h.enc, h.users, mem_append_singleton h.log (entry_chunk cfg hp s.next c), u1, u2⟩

theorem inv_evs (cfg : Term) {p : Props} (hp : KeysOK p) (evs : List Ev) (s : St) (h : Inv cfg s) :
    Inv cfg (evs.foldl (evStepWith true p) s) := by
  refine foldl_inv (fun s e _ hs => ?_) h
  cases e with
  | chunk c ans => exact inv_putChunkAns cfg hp s c ans hs
  | vanish locs => exact ⟨hs.enc, hs.users, hs.log, hs.usesLt, hs.usesNodup⟩

theorem inv_finishSnapshot (cfg : Term) {p : Props} (hk : KeysOK p) (s1 : St) (chunks : List Term) (data : Data) (h : Inv cfg s1) :
    Inv cfg (finishSnapshot p true s1 chunks data) := by
  obtain ⟨u1, u2⟩ := uses_append p.userKey (Nat.le_refl _) (Nat.lt_succ_self _) h.usesLt h.usesNodup
  obtain ⟨v1, v2⟩ := uses_append (subKey p (Term.hash (enc p.userKey (nonce s1.next) (encData data)))) (Nat.le_refl _)
    (Nat.lt_succ_self _) u1 u2
  rw [List.append_assoc] at v1 v2
  exact ⟨h.enc, h.users, mem_append_singleton h.log (entry_snap cfg hk _ _ _ _), v1, v2⟩

theorem inv_snapshotEv (cfg : Term) (s : St) (user : Nat) (evs : List Ev) (data : Data) (h : Inv cfg s) :
    Inv cfg (snapshotEvWith true s user evs data) := by
  unfold snapshotEvWith
  split
  · exact h
  · rename_i u hu
    have hk := keysOK_of_user (h.users u (List.mem_of_getElem? hu))
    rw [h.enc]
    exact inv_finishSnapshot cfg hk _ _ _ (inv_evs cfg hk evs s h)

theorem inv_step (cfg : Term) (s : St) (op : Op) (hw : op.wf) (h : Inv cfg s) : Inv cfg (step s op) := by
  cases op with
  | addKey base shared kdfcfg shcfg pw =>
    obtain ⟨w1, w2, w3⟩ := hw
    rcases step_addKey s base shared kdfcfg shcfg pw with hs | ⟨_, ⟨b, hb, hs⟩ | hs⟩
    · rw [hs]
      exact h
    · rw [hs]
      exact inv_keyAdded cfg h (Nat.le_refl _) w1 w3 (h.users b hb).2.2.2
    · rw [hs]
      exact inv_keyAdded cfg h (Nat.le_add_right _ 4) w1 w3 ⟨w2, rfl, rfl⟩
  | snapshot user chunks data =>
    rw [← snapshotEv_honest]
    exact inv_snapshotEv cfg s user _ data h
  | remove locs => exact ⟨h.enc, h.users, h.log, h.usesLt, h.usesNodup⟩

theorem inv_init (a : InitArgs) (hw : a.wf) (he : a.encrypted = true) : Inv a.cfg (initSt a) := by
  obtain ⟨w1, w2, w3, w4⟩ := hw
  unfold initSt
  simp only [he, if_true]
  refine ⟨rfl, ?_, ?_, ?_, List.pairwise_singleton _ _⟩
  · exact mem_append_singleton (l := []) (fun _ hu => absurd hu List.not_mem_nil) ⟨w2, w4, rfl, w3, rfl, rfl⟩
  · exact mem_append_singleton (l := [_]) (fun e he => by rw [List.mem_singleton.mp he]; exact entry_key a.cfg 0 a.kdfcfg a.pw _ 4 5 w2 w4)
      ⟨rfl, w1, rfl, fun _ => rfl⟩
  · exact mem_append_singleton (l := []) (fun _ hu => absurd hu List.not_mem_nil) ⟨5, Nat.lt_succ_self 5, rfl⟩

theorem inv_run (a : InitArgs) (hw : a.wf) (he : a.encrypted = true) (ops : List Op) (hops : ∀ op ∈ ops, op.wf) :
    Inv a.cfg (run a ops) :=
  foldl_inv (fun s op hop hs => inv_step a.cfg s op (hops op hop) hs) (inv_init a hw he)

end Replicat.Sym
