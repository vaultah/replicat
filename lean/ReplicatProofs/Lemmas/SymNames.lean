import ReplicatProofs.Lemmas.SymAfterRun
/-! Names: after every history two emissions under one name differ at most in an AEAD nonce; in a removal-free history every
emitted backend object is still stored under its name, so they carry the same bytes. -/
namespace Replicat.Sym
open Term (pub sec nonce key nil pair mac kdf enc)

theorem sameUpToNonce_refl (x : Term) : sameUpToNonce x x = true := by
  unfold sameUpToNonce
  rw [decide_eq_true rfl, Bool.true_or]

theorem sameUpToNonce_spec {x y : Term} (h : sameUpToNonce x y = true) :
    x = y ∨ ∃ k n n' m, x = enc k n m ∧ y = enc k n' m := by
  unfold sameUpToNonce at h
  simp only [Bool.or_eq_true, decide_eq_true_eq] at h
  rcases h with h | h
  · exact Or.inl h
  · right
    split at h
    · rename_i k n m k' n' m'
      simp only [Bool.and_eq_true, decide_eq_true_eq] at h
      obtain ⟨h1, h2⟩ := h
      subst h1 h2
      exact ⟨k, n, n', m, rfl, rfl⟩
    · cases h

theorem log_names_unique {cfg : Term} {s : St} (h : HInv cfg s) (e1 e2 : Term × Term) (h1 : e1 ∈ s.log) (h2 : e2 ∈ s.log)
    (hn : e1.1 = e2.1) : sameUpToNonce e1.2 e2.2 = true := by
  have f2 := h.hl.forms e2 h2
  cases h.hl.forms e1 h1 with
  | config =>
    cases f2 with
    | config => exact sameUpToNonce_refl _
    | key i t hi => cases hn
    | chunk u hu n c => cases hn
    | snap u hu n1 n2 tb d => cases hn
  | key i t hi =>
    rw [h.hl.keyUniq _ h1 _ h2 i rfl hn.symm]
    exact sameUpToNonce_refl _
  | chunk u hu n c =>
    obtain ⟨u', hu', n', c', he⟩ := form_chunkLoc f2 (show e2.1 = pair prefixChunk (pair _ _) from hn.symm)
    subst he
    obtain ⟨hd, hmac⟩ := chunkLoc_inj (p := u.props s.encrypted) (q := u'.props s.encrypted) rfl hn
    rw [digest_inj hd]
    cases hen : s.encrypted with
    | false => exact sameUpToNonce_refl _
    | true =>
      have hsh := h.hu.fam u hu u' hu' (hmac hen)
      simp [chunkObject, sameUpToNonce, subKey, hsh]
  | snap u hu n1 n2 tb d =>
    obtain ⟨_, _, _, hname, _⟩ := form_snapLoc f2 (show e2.1 = pair prefixSnap (pair _ _) from hn.symm)
    rw [Term.hash.inj hname]
    exact sameUpToNonce_refl _

def NR (store log : Store) : Prop := ∀ e ∈ log, (∃ i, e.1 = keyLoc i) ∨ e ∈ store

def Op.isRemove : Op → Bool
  | .remove _ => true
  | _ => false

theorem nr_key {store log : Store} (h : NR store log) (i : Nat) (t : Term) : NR store (log ++ [(keyLoc i, t)]) :=
  mem_append_singleton h (Or.inl ⟨i, rfl⟩)

theorem nr_putChunk (p : Props) (s : St) (c : Term) (h : NR s.store s.log) : NR (putChunk p s c).store (putChunk p s c).log := by
  rcases putChunk_store p s c with ⟨hs, hl, _⟩ | ⟨_, hs, hl⟩
  · rw [hs, hl]
    exact h
  · rw [hs, hl]
    exact mem_append_singleton (fun e he => (h e he).imp id (List.mem_append_left _))
      (Or.inr (List.mem_append_right _ List.mem_cons_self))

/-- a snapshot object replaces what its location held: an older emission under that name is the same object -/
theorem nr_snap {en users cfg} {store log : Store} (hl : LInv en users cfg log) (h : NR store log) (p : Props) (st : Term) :
    NR (store.filter (fun e => e.1 ≠ snapLoc p (snapshotName st)) ++ [(snapLoc p (snapshotName st), st)])
       (log ++ [(snapLoc p (snapshotName st), st)]) := by
  refine mem_append_singleton (fun e he => ?_) (Or.inr (List.mem_append_right _ List.mem_cons_self))
  by_cases hloc : e.1 = snapLoc p (snapshotName st)
  · obtain ⟨_, _, _, hname, _⟩ := form_snapLoc (t := snapshotTag p (snapshotName st)) (n := snapshotName st) (hl.forms e he) hloc
    have he' : e = (snapLoc p (snapshotName st), st) := Prod.ext hloc (Term.hash.inj hname).symm
    exact Or.inr (List.mem_append_right _ (he' ▸ List.mem_cons_self))
  · exact (h e he).imp id fun hm => List.mem_append_left _ (List.mem_filter.mpr ⟨hm, decide_eq_true hloc⟩)

theorem nr_step (cfg : Term) (s : St) (op : Op) (hi : HInv cfg s) (h : NR s.store s.log) (hop : op.isRemove = false) :
    NR (step s op).store (step s op).log := by
  cases op with
  | addKey base shared kdfcfg shcfg pw =>
    rcases step_addKey s base shared kdfcfg shcfg pw with hs | ⟨_, ⟨_, _, hs⟩ | hs⟩ <;> rw [hs]
    · exact h
    · exact nr_key h _ _
    · exact nr_key h _ _
  | snapshot user chunks data =>
    rw [step_snapshot_eq]
    cases hu : s.users[user]? with
    | none => exact h
    | some u =>
      simp only
      rw [finishSnapshot_store user, finishSnapshot_log user]
      exact nr_snap (hinv_putChunks cfg u chunks s (List.mem_of_getElem? hu) hi).hl
        (foldl_inv (P := fun s' : St => NR s'.store s'.log) (fun s' c _ hs' => nr_putChunk _ s' c hs') h) _ _
  | remove locs => cases hop

theorem nr_init (a : InitArgs) : NR (initSt a).store (initSt a).log := by
  unfold initSt
  cases a.encrypted with
  | true => exact mem_append_singleton (l := [_]) (fun e he => Or.inl ⟨0, by rw [List.mem_singleton.mp he]⟩) (Or.inr List.mem_cons_self)
  | false => exact fun e he => Or.inr he

theorem nr_run (a : InitArgs) (ops : List Op) (hops : ∀ op ∈ ops, op.isRemove = false) :
    NR (run a ops).store (run a ops).log :=
  (foldl_inv (P := fun s : St => HInv a.cfg s ∧ NR s.store s.log)
    (fun s op hop hs => ⟨hinv_step a.cfg s op hs.1, nr_step a.cfg s op hs.1 hs.2 (hops op hop)⟩) ⟨hinv_init a, nr_init a⟩).2

end Replicat.Sym
