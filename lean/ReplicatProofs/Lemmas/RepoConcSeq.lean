import ReplicatProofs.Lemmas.RepoConcSched
import ReplicatProofs.Lemmas.RepoStep
/-! The object map at the end of a complete concurrent execution of snapshot commands is determined by the start state and the
SET of commands (`IsFinal`): chunk payloads are functions of (family, content), a snapshot object is a function of its command.
The sequential run of the same commands in any order has the same characterisation.  Used by C02 (`concurrent_equals_sequential`)
and C07 (`Exact` at the end of a racy execution). -/
namespace Replicat.Repo
open List

theorem nodup_of_nodup_map {α β : Type} (f : α → β) {l : List α} (h : (l.map f).Nodup) : l.Nodup :=
  Pairwise.of_map f (fun _ _ hne e => hne (congrArg f e)) h

theorem perm_of_get_eq {a b : Store} (ha : WF a) (hb : WF b) (h : ∀ n, get a n = get b n) : a.Perm b := by
  rw [perm_ext_iff_of_nodup (nodup_of_nodup_map _ ha.1) (nodup_of_nodup_map _ hb.1)]
  rintro ⟨n, o⟩
  rw [mem_iff_get ha.1, mem_iff_get hb.1, h]

theorem run_wf (enc : Bool) (ops : List Op) (s : Store) (h : WF s) : WF (run enc s ops) := by
  unfold run
  induction ops generalizing s with
  | nil => exact h
  | cons op ops ih => exact ih _ (Replicat.P18.step_wf enc s op h)

/-- the name of a snapshot object is the digest of its stored bytes: two commands that produce the same name produce the same object -/
def NamesOk (cmds : List SnapCmd) : Prop := ∀ a ∈ cmds, ∀ b ∈ cmds, a.name = b.name → a.obj = b.obj

instance decNamesOk (cmds : List SnapCmd) : Decidable (NamesOk cmds) := by
  unfold NamesOk
  infer_instance

/-- `s'` is "`s` plus everything the commands `cmds` store" -/
structure IsFinal (s : Store) (cmds : List SnapCmd) (s' : Store) : Prop where
  chunk_old : ∀ f c o, get s (.chunk f c) = some o → get s' (.chunk f c) = some o
  chunk_new : ∀ f c, get s (.chunk f c) = none → (∃ cmd ∈ cmds, cmd.u.fam = f ∧ c ∈ cmd.stream) → get s' (.chunk f c) = some (.chunk f c)
  chunk_none : ∀ f c, get s (.chunk f c) = none → (¬ ∃ cmd ∈ cmds, cmd.u.fam = f ∧ c ∈ cmd.stream) → get s' (.chunk f c) = none
  snap_new : ∀ cmd ∈ cmds, get s' cmd.name = some cmd.obj
  snap_old : ∀ f sid, (∀ cmd ∈ cmds, cmd.name ≠ .snap f sid) → get s' (.snap f sid) = get s (.snap f sid)
  config : get s' .config = get s .config
  other : ∀ k, get s' (.other k) = get s (.other k)

/-- the characterisation determines the object map -/
theorem IsFinal.unique {s : Store} {cmds : List SnapCmd} {a b : Store} (ha : IsFinal s cmds a) (hb : IsFinal s cmds b) (n : Name) :
    get a n = get b n := by
  cases n with
  | config => rw [ha.config, hb.config]
  | other k => rw [ha.other, hb.other]
  | chunk f c =>
    cases hs : get s (.chunk f c) with
    | some o => rw [ha.chunk_old f c o hs, hb.chunk_old f c o hs]
    | none =>
      by_cases hex : ∃ cmd ∈ cmds, cmd.u.fam = f ∧ c ∈ cmd.stream
      · rw [ha.chunk_new f c hs hex, hb.chunk_new f c hs hex]
      · rw [ha.chunk_none f c hs hex, hb.chunk_none f c hs hex]
  | snap f sid =>
    by_cases hex : ∃ cmd ∈ cmds, cmd.name = .snap f sid
    · obtain ⟨cmd, hm, hn⟩ := hex
      rw [← hn, ha.snap_new cmd hm, hb.snap_new cmd hm]
    · have : ∀ cmd ∈ cmds, cmd.name ≠ .snap f sid := fun cmd hm hn => hex ⟨cmd, hm, hn⟩
      rw [ha.snap_old f sid this, hb.snap_old f sid this]

/-- only membership matters: the order (and multiplicity) of the commands is irrelevant -/
theorem IsFinal.of_mem_iff {s s' : Store} {cmds cmds' : List SnapCmd} (h : IsFinal s cmds s') (hm : ∀ x, x ∈ cmds' ↔ x ∈ cmds) :
    IsFinal s cmds' s' where
  chunk_old := h.chunk_old
  chunk_new := fun f c hs ⟨cmd, hc, hx⟩ => h.chunk_new f c hs ⟨cmd, (hm cmd).mp hc, hx⟩
  chunk_none := fun f c hs hne => h.chunk_none f c hs (fun ⟨cmd, hc, hx⟩ => hne ⟨cmd, (hm cmd).mpr hc, hx⟩)
  snap_new := fun cmd hc => h.snap_new cmd ((hm cmd).mp hc)
  snap_old := fun f sid hne => h.snap_old f sid (fun cmd hc => hne cmd ((hm cmd).mpr hc))
  config := h.config
  other := h.other

structure ProgOk (cmd : SnapCmd) (p : Prog) : Prop where
  todo_sub : ∀ c ∈ p.todo, c ∈ cmd.stream
  pending_sub : ∀ c ∈ p.pending, c ∈ cmd.stream
  done_empty : p.done = true → p.todo = [] ∧ p.pending = []

structure ProgInv (cmds : List SnapCmd) (st : CState) : Prop where
  len : st.progs.length = cmds.length
  ok : ∀ (i : Nat) cmd p, cmds[i]? = some cmd → st.progs[i]? = some p → ProgOk cmd p

theorem mem_window {cmd : SnapCmd} {p : Prog} {c : Content} (h : c ∈ window cmd p) : c ∈ p.todo :=
  mem_of_mem_take h

theorem progInv_init (s : Store) (cmds : List SnapCmd) : ProgInv cmds (CState.init s cmds) where
  len := length_map _
  ok := by
    intro i cmd p hc hp
    rw [init_lookup hc hp]
    exact ⟨fun _ h => h, fun _ h => (nomatch h), fun h => (nomatch h)⟩

theorem progInv_step {cmds : List SnapCmd} {st st' : CState} {e : Ev} (hinv : ProgInv cmds st) (h : CStep cmds st e st') :
    ProgInv cmds st' := by
  refine ⟨h.length_progs.trans hinv.len, ?_⟩
  cases h with
  | «exists» hc hp hw hr =>
    rename_i i c r cmd p
    have hok := hinv.ok i cmd p hc hp
    refine forall_set hc hinv.ok ⟨fun c' hm => hok.todo_sub c' (mem_of_mem_erase hm), ?_, ?_⟩ (fun _ _ _ _ h => h)
    · intro c' hm
      cases r with
      | true => exact hok.pending_sub c' hm
      | false =>
        rcases mem_append.mp hm with hm | hm
        · exact hok.pending_sub c' hm
        · rw [mem_singleton.mp hm]
          exact hok.todo_sub c (mem_window hw)
    · intro hd
      have hm := mem_window hw
      rw [(hok.done_empty hd).1] at hm
      cases hm
  | upload hc hp hm =>
    rename_i i c cmd p
    have hok := hinv.ok i cmd p hc hp
    refine forall_set hc hinv.ok ⟨hok.todo_sub, fun c' hm' => hok.pending_sub c' (mem_of_mem_erase hm'), ?_⟩ (fun _ _ _ _ h => h)
    intro hd
    rw [(hok.done_empty hd).2] at hm
    cases hm
  | commit hc hp ht hpe hd =>
    exact forall_set hc hinv.ok ⟨fun _ h => (nomatch h), fun _ h => (nomatch h), fun _ => ⟨rfl, rfl⟩⟩ (fun _ _ _ _ h => h)
  | read => exact hinv.ok

theorem progInv_run {cmds : List SnapCmd} {tr : List Ev} {st st' : CState} (hinv : ProgInv cmds st)
    (h : crun cmds st tr = some st') : ProgInv cmds st' :=
  crun_invariant (ProgInv cmds) (fun _ _ _ hi hs => progInv_step hi hs) tr st st' hinv h

/-- how the store of a concurrent execution relates to the start store `s0` -/
structure StoreInv (s0 : Store) (cmds : List SnapCmd) (st : CState) : Prop where
  chunk_old : ∀ f c o, get s0 (.chunk f c) = some o → get st.store (.chunk f c) = some o
  chunk_src : ∀ f c, get s0 (.chunk f c) = none → get st.store (.chunk f c) ≠ none → ∃ cmd ∈ cmds, cmd.u.fam = f ∧ c ∈ cmd.stream
  snap_done : ∀ (i : Nat) cmd p, cmds[i]? = some cmd → st.progs[i]? = some p → p.done = true →
    ∃ cmd' ∈ cmds, cmd'.name = cmd.name ∧ get st.store cmd.name = some cmd'.obj
  snap_old : ∀ f sid, (∀ cmd ∈ cmds, cmd.name ≠ .snap f sid) → get st.store (.snap f sid) = get s0 (.snap f sid)
  config : get st.store .config = get s0 .config
  other : ∀ k, get st.store (.other k) = get s0 (.other k)

theorem storeInv_init (s : Store) (cmds : List SnapCmd) : StoreInv s cmds (CState.init s cmds) where
  chunk_old := fun _ _ _ h => h
  chunk_src := fun _ _ h hne => absurd h hne
  snap_done := by
    intro i cmd p hc hp hd
    rw [init_lookup hc hp] at hd
    cases hd
  snap_old := fun _ _ _ => rfl
  config := rfl
  other := fun _ => rfl

theorem storeInv_step {s0 : Store} (hwf : WF s0) {cmds : List SnapCmd} {st st' : CState} {e : Ev}
    (hp0 : ProgInv cmds st) (hinv : StoreInv s0 cmds st) (h : CStep cmds st e st') : StoreInv s0 cmds st' where
  chunk_old := by
    intro f c o ho
    have ho' := hwf.get_chunk ho
    subst ho'
    exact chunkLe_step h f c (hinv.chunk_old f c _ ho)
  chunk_src := by
    intro f c h0 hne
    rcases cstep_get_cases h (.chunk f c) with hg | ⟨cmd, c', hn, _, i, p, hc, hp, hm⟩ | ⟨cmd, _, hn, _⟩
    · rw [hg] at hne
      exact hinv.chunk_src f c h0 hne
    · cases hn
      exact ⟨cmd, mem_of_getElem? hc, rfl, (hp0.ok i cmd p hc hp).pending_sub c hm⟩
    · exact absurd hn.symm (name_ne_chunk cmd f c)
  snap_done := by
    -- the object under the name of a finished command is only rewritten by a command of the same name
    have hframe : ∀ x : SnapCmd, (∃ cmd' ∈ cmds, cmd'.name = x.name ∧ get st.store x.name = some cmd'.obj) →
        ∃ cmd' ∈ cmds, cmd'.name = x.name ∧ get st'.store x.name = some cmd'.obj := by
      rintro x ⟨cmd', hm', hn, hg⟩
      rcases cstep_get_cases h x.name with h0 | ⟨cmd2, c, hn2, _⟩ | ⟨cmd2, hm2, hn2, hg2⟩
      · exact ⟨cmd', hm', hn, h0.trans hg⟩
      · exact absurd hn2 (name_ne_chunk x _ c)
      · exact ⟨cmd2, hm2, hn2.symm, hg2⟩
    have hall := hinv.snap_done
    cases h with
    | «exists» hc hp hw hr =>
      rename_i i c r cmd p
      exact forall_set hc hall (hall i cmd p hc hp) (fun _ _ _ _ h => h)
    | upload hc hp hm =>
      rename_i i c cmd p
      exact forall_set hc hall (fun hd => hframe cmd (hall i cmd p hc hp hd)) (fun _ x _ _ hold hd => hframe x (hold hd))
    | commit hc hp ht hpe hd =>
      rename_i i cmd p
      exact forall_set hc hall (fun _ => ⟨cmd, mem_of_getElem? hc, rfl, get_put_same _ _ _⟩) (fun _ x _ _ hold hd => hframe x (hold hd))
    | read => exact hall
  snap_old := fun f sid hne => (h.get_foreign (fun _ _ => Name.noConfusion) hne).trans (hinv.snap_old f sid hne)
  config := (h.get_foreign (fun _ _ => Name.noConfusion) (fun _ _ => Name.noConfusion)).trans hinv.config
  other := fun k => (h.get_foreign (fun _ _ => Name.noConfusion) (fun _ _ => Name.noConfusion)).trans (hinv.other k)

theorem storeInv_run {s0 : Store} (hwf : WF s0) {cmds : List SnapCmd} {tr : List Ev} {st st' : CState}
    (hp0 : ProgInv cmds st) (hinv : StoreInv s0 cmds st) (h : crun cmds st tr = some st') : StoreInv s0 cmds st' :=
  (crun_invariant (fun x => ProgInv cmds x ∧ StoreInv s0 cmds x)
    (fun _ _ _ hi hs => ⟨progInv_step hi.1 hs, storeInv_step hwf hi.1 hi.2 hs⟩) tr st st' ⟨hp0, hinv⟩ h).2

theorem complete_done {st : CState} (h : st.complete = true) {i : Nat} {p : Prog} (hp : st.progs[i]? = some p) : p.done = true := by
  unfold CState.complete at h
  rw [all_eq_true] at h
  exact h p (mem_of_getElem? hp)

theorem complete_empty {cmds : List SnapCmd} {st : CState} (hpi : ProgInv cmds st) (hdone : st.complete = true) {i : Nat}
    {cmd : SnapCmd} (hc : cmds[i]? = some cmd) : ∃ p, st.progs[i]? = some p ∧ p.done = true ∧ p.todo = [] ∧ p.pending = [] := by
  have hi : i < st.progs.length := hpi.len ▸ (List.getElem?_eq_some_iff.mp hc).1
  have hp : st.progs[i]? = some st.progs[i] := getElem?_eq_getElem hi
  have hd := complete_done hdone hp
  exact ⟨_, hp, hd, (hpi.ok i cmd _ hc hp).done_empty hd⟩

/-- **the end of a complete concurrent execution is characterised by the start store and the set of commands** -/
theorem isFinal_conc {s : Store} {cmds : List SnapCmd} {tr : List Ev} {st' : CState} (hwf : WF s) (hn : NamesOk cmds)
    (hrun : crun cmds (CState.init s cmds) tr = some st') (hdone : st'.complete = true) : IsFinal s cmds st'.store := by
  have hci := covInv_run (covInv_init cmds hwf) hrun
  have hpi := progInv_run (progInv_init s cmds) hrun
  have hsi := storeInv_run hwf (progInv_init s cmds) (storeInv_init s cmds) hrun
  refine ⟨hsi.chunk_old, ?_, ?_, ?_, hsi.snap_old, hsi.config, hsi.other⟩
  · rintro f c h0 ⟨cmd, hm, rfl, hc⟩
    obtain ⟨i, hi⟩ := getElem?_of_mem hm
    obtain ⟨p, hp, _, ht, hpe⟩ := complete_empty hpi hdone hi
    exact (hci.2 i cmd p hi hp).stored ht hpe hc
  · intro f c h0 hne
    apply Classical.byContradiction
    intro hg
    exact hne (hsi.chunk_src f c h0 hg)
  · intro cmd hm
    obtain ⟨i, hi⟩ := getElem?_of_mem hm
    obtain ⟨p, hp, hd, _⟩ := complete_empty hpi hdone hi
    obtain ⟨cmd', hm', hnm, hg⟩ := hsi.snap_done i cmd p hi hp hd
    rw [hg, hn cmd' hm' cmd hm hnm]

def SnapCmd.one (c : SnapCmd) : SnapCmd := { c with workers := 1 }

theorem IsFinal.of_one {s s' : Store} {cmds : List SnapCmd} (h : IsFinal s (cmds.map SnapCmd.one) s') : IsFinal s cmds s' where
  chunk_old := h.chunk_old
  chunk_new := fun f c hs ⟨cmd, hc, hx⟩ => h.chunk_new f c hs ⟨cmd.one, mem_map_of_mem hc, hx⟩
  chunk_none := by
    intro f c hs hne
    apply h.chunk_none f c hs
    rintro ⟨cmd', hm, hx⟩
    obtain ⟨cmd, hc, rfl⟩ := mem_map.mp hm
    exact hne ⟨cmd, hc, hx⟩
  snap_new := fun cmd hc => h.snap_new cmd.one (mem_map_of_mem hc)
  snap_old := by
    intro f sid hne
    apply h.snap_old f sid
    intro cmd' hm
    obtain ⟨cmd, hc, rfl⟩ := mem_map.mp hm
    exact hne cmd hc
  config := h.config
  other := h.other

/-- `run` is one of the complete concurrent executions (`seqTraceAll_complete`), so `isFinal_conc` applies.  The sequential trace
needs a worker per command; what is stored does not depend on the size of the pools, so the commands are run with one worker each. -/
theorem isFinal_run (enc : Bool) (cmds : List SnapCmd) (s : Store) (hwf : WF s) (hn : NamesOk cmds) :
    IsFinal s cmds (run enc s (cmds.map SnapCmd.op)) := by
  obtain ⟨st, hrun, hdone, hst⟩ := seqTraceAll_complete enc s (cmds.map SnapCmd.one) (by
    intro cmd hm
    obtain ⟨c, _, rfl⟩ := mem_map.mp hm
    exact Nat.le_refl 1)
  have hn1 : NamesOk (cmds.map SnapCmd.one) := by
    intro a ha b hb hab
    obtain ⟨a', ha', rfl⟩ := mem_map.mp ha
    obtain ⟨b', hb', rfl⟩ := mem_map.mp hb
    exact hn a' ha' b' hb' hab
  have hf := (isFinal_conc hwf hn1 hrun hdone).of_one
  rw [hst, map_map] at hf
  exact hf

end Replicat.Repo
