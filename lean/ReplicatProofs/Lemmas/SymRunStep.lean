import ReplicatProofs.Lemmas.SymRun
/-! Every command preserves the history invariant `HInv`, every command of a well-formed history the invariant `TI` of the
snapshots taken (see `SymRun.lean`); so both hold after `run`. -/
namespace Replicat.Sym
open Term (pub sec nonce key nil pair mac kdf enc)

theorem putChunks_next (p : Props) (cs : List Term) (s : St) : s.next ≤ (cs.foldl (putChunk p) s).next :=
  foldl_inv (P := fun s' : St => s.next ≤ s'.next) (fun s' c _ h => Nat.le_trans h (putChunk_next p s' c)) (Nat.le_refl _)

theorem putChunk_keep (p : Props) (s : St) (c loc : Term) (h : lookup s.store loc ≠ none) :
    lookup (putChunk p s c).store loc ≠ none := by
  rcases putChunk_store p s c with ⟨hs, _, _⟩ | ⟨_, hs, _⟩
  · rw [hs]; exact h
  · rw [hs]; exact lookup_append_ne_none h

theorem putChunk_present (p : Props) (s : St) (c : Term) :
    lookup (putChunk p s c).store (chunkLoc p (digest c)) ≠ none := by
  rcases putChunk_store p s c with ⟨hs, _, hp⟩ | ⟨_, hs, _⟩
  · rw [hs]; exact hp
  · rw [hs]; exact lookup_append_self _ _ _

theorem putChunks_present (p : Props) (cs : List Term) (s : St) :
    ∀ c ∈ cs, lookup (cs.foldl (putChunk p) s).store (chunkLoc p (digest c)) ≠ none := by
  induction cs generalizing s with
  | nil => intro c hc; cases hc
  | cons c0 cs ih =>
    intro c hc
    rw [List.foldl_cons]
    rcases List.mem_cons.mp hc with rfl | hc
    · exact foldl_inv (P := fun s' : St => lookup s'.store _ ≠ none) (fun s' c' _ h => putChunk_keep p s' c' _ h)
        (putChunk_present p s c)
    · exact ih _ c hc

theorem hinv_putChunk (cfg : Term) (s : St) (u : User) (hu : u ∈ s.users) (c : Term)
    (h : HInv cfg s) : HInv cfg (putChunk (u.props s.encrypted) s c) := by
  obtain ⟨hU, hE, hN, hS⟩ := putChunk_spec (u.props s.encrypted) s c
  refine ⟨by rw [hE, hU]; exact h.hu.mono hN, ?_, ?_⟩
  · rw [hE, hU]
    rcases hS with ⟨_, hl, _⟩ | ⟨_, _, hl⟩
    · rw [hl]; exact h.hl
    · rw [hl]; exact h.hl.append (.chunk u hu _ c) (fun i => pair_ne_of_prefix _ _ (by decide))
  · rcases hS with ⟨hs, hl, _⟩ | ⟨hnone, hs, hl⟩
    · rw [hs, hl]; exact h.hs
    · rw [hs, hl]; exact sinv_append h.hs _ _ hnone

theorem hinv_putChunks (cfg : Term) (u : User) (cs : List Term) (s : St) (hu : u ∈ s.users) (h : HInv cfg s) :
    HInv cfg (cs.foldl (putChunk (u.props s.encrypted)) s) :=
  (foldl_inv (P := fun s' : St => HInv cfg s' ∧ s'.users = s.users ∧ s'.encrypted = s.encrypted)
    (fun s' c _ hs' => by
      obtain ⟨hi, hU, hE⟩ := hs'
      refine ⟨?_, (putChunk_users _ s' c).trans hU, (putChunk_encrypted _ s' c).trans hE⟩
      rw [← hE]
      exact hinv_putChunk cfg s' u (hU ▸ hu) c hi) ⟨h, rfl, rfl⟩).1

theorem ti_putChunk (p : Props) (s : St) (ts : List Taken) (c : Term) (h : TI s ts) : TI (putChunk p s c) ts := by
  unfold TI
  rw [putChunk_encrypted, putChunk_users]
  rcases putChunk_store p s c with ⟨hs, _, _⟩ | ⟨_, hs, _⟩
  · rw [hs]; exact h
  · rw [hs]; exact tinv_append_chunk h _ _ _

theorem hinv_keyAdded (cfg : Term) {s : St} (h : HInv cfg s) (he : s.encrypted = true) (kdfcfg pw : Term) {sh : Shared} {k : Nat}
    (hk : s.next ≤ k) (hsh : (∃ b ∈ s.users, sh = b.sh) ∨ (∃ m, s.next ≤ m ∧ m < k + 2 ∧ sh.macKey = key m)) :
    HInv cfg (keyAdded s kdfcfg pw sh k) :=
  ⟨uinv_addUser he h.hu ⟨kdfcfg, pw, nonce k, sh⟩ hsh ⟨k, hk, Nat.lt_add_of_pos_right (by decide), rfl⟩,
   linv_addKey h.hl _ _, sinv_log_append h.hs _⟩

theorem hinv_step (cfg : Term) (s : St) (op : Op) (h : HInv cfg s) : HInv cfg (step s op) := by
  cases op with
  | addKey base shared kdfcfg shcfg pw =>
    rcases step_addKey s base shared kdfcfg shcfg pw with hs | ⟨he, ⟨b, hb, hs⟩ | hs⟩
    · rw [hs]
      exact h
    · rw [hs]
      exact hinv_keyAdded cfg h he _ _ (Nat.le_refl _) (Or.inl ⟨b, hb, rfl⟩)
    · rw [hs]
      exact hinv_keyAdded cfg h he _ _ (Nat.le_add_right _ 4)
        (Or.inr ⟨s.next + 2, Nat.le_add_right _ 2, Nat.add_lt_add_left (by decide : 2 < 4 + 2) s.next, rfl⟩)
  | snapshot user chunks data =>
    rw [step_snapshot_eq]
    cases hu : s.users[user]? with
    | none => exact h
    | some u =>
      have hum : u ∈ s.users := List.mem_of_getElem? hu
      obtain ⟨iu, il, is⟩ := hinv_putChunks cfg u chunks s hum h
      have hU := putChunks_users (u.props s.encrypted) chunks s
      have hE := putChunks_encrypted (u.props s.encrypted) chunks s
      simp only
      refine ⟨?_, ?_, ?_⟩
      · rw [finishSnapshot_users, finishSnapshot_encrypted]
        exact iu.mono (finishSnapshot_next ..)
      · rw [finishSnapshot_users, finishSnapshot_encrypted, finishSnapshot_log user, hE]
        rw [hE] at il
        exact il.append (.snap u (hU ▸ hum) _ _ _ _) (fun i => pair_ne_of_prefix _ _ (by decide))
      · rw [finishSnapshot_store user, finishSnapshot_log user]
        exact sinv_append (sinv_filter is _) _ _ (lookup_filter_ne_self _ _)
  | remove locs => exact ⟨h.hu, h.hl, sinv_filter h.hs _⟩

theorem ti_step (s : St) (ts : List Taken) (op : Op) (h : TI s ts) (hok : opOk s ts op = true) :
    TI (step s op) (ts ++ takenBy s op) := by
  cases op with
  | addKey base shared kdfcfg shcfg pw =>
    simp only [takenBy, List.append_nil]
    rcases step_addKey s base shared kdfcfg shcfg pw with hs | ⟨_, ⟨_, _, hs⟩ | hs⟩ <;> rw [hs]
    · exact h
    · exact tinv_addUser h _
    · exact tinv_addUser h _
  | snapshot user chunks data =>
    rw [step_snapshot_eq]
    cases hu : s.users[user]? with
    | none =>
      simp only [takenBy, hu, List.append_nil]
      exact h
    | some u =>
      have h1 : TI (chunks.foldl (putChunk (u.props s.encrypted)) s) ts := foldl_inv (fun s' c _ hs' => ti_putChunk _ s' ts c hs') h
      unfold TI at h1 ⊢
      rw [takenBy_snapshot hu]
      simp only
      rw [finishSnapshot_users, finishSnapshot_encrypted, finishSnapshot_store user]
      rw [putChunks_users, putChunks_encrypted] at h1 ⊢
      refine tinv_snapWrite h1 (finishing user _ _ chunks data) ⟨⟨u, hu, rfl⟩, hok⟩ _ ?_
      intro d hd
      obtain ⟨c, hc, rfl⟩ := List.mem_map.mp (((mem_dedup (chunks.map digest) [] d).mp hd).resolve_left List.not_mem_nil)
      exact putChunks_present (u.props s.encrypted) chunks s c hc
  | remove locs =>
    simp only [takenBy, List.append_nil]
    exact tinv_remove h locs hok

theorem hinv_init (a : InitArgs) : HInv a.cfg (initSt a) := by
  have hcfg : ∀ i, (configLoc, a.cfg).1 ≠ keyLoc i := fun i h => by cases h
  have hl0 : ∀ en users, LInv en users a.cfg [] :=
    fun en users => ⟨fun _ he => absurd he List.not_mem_nil, fun _ he => absurd he List.not_mem_nil⟩
  unfold initSt
  cases a.encrypted with
  | true =>
    simp only [if_true]
    exact ⟨UInv.singleton _ (fun _ => ⟨2, (by decide : 2 < 6), rfl⟩) (fun _ => ⟨4, (by decide : 4 < 6), rfl⟩),
      (linv_addKey (hl0 true []) _ _).append .config hcfg,
      ⟨fun e he => List.mem_cons_of_mem _ he, List.pairwise_singleton _ _⟩⟩
  | false =>
    simp only [Bool.false_eq_true, if_false]
    exact ⟨UInv.singleton _ (fun h => by cases h) (fun h => by cases h),
      (hl0 false _).append .config hcfg,
      ⟨fun _ he => he, List.pairwise_singleton _ _⟩⟩

theorem runT_fst (a : InitArgs) (ops : List Op) : (runT a ops).1 = run a ops := by
  unfold runT run
  generalize initSt a = s, ([] : List Taken) = ts
  induction ops generalizing s ts with
  | nil => rfl
  | cons op ops ih => exact ih _ _

theorem hinv_run (a : InitArgs) (ops : List Op) : HInv a.cfg (run a ops) :=
  foldl_inv (fun s op _ hs => hinv_step a.cfg s op hs) (hinv_init a)

theorem ti_from (ops : List Op) (s : St) (ts : List Taken) (h : TI s ts) (hw : wfFrom s ts ops = true) :
    TI (ops.foldl stepT (s, ts)).1 (ops.foldl stepT (s, ts)).2 := by
  induction ops generalizing s ts with
  | nil => exact h
  | cons op ops ih =>
    simp only [wfFrom, Bool.and_eq_true] at hw
    exact ih _ _ (ti_step s ts op h hw.1) hw.2

theorem ti_run (a : InitArgs) (ops : List Op) (hwf : wfHist a ops = true) : TI (run a ops) (taken a ops) := by
  rw [← runT_fst]
  refine ti_from ops (initSt a) [] ?_ hwf
  refine ⟨?_, ?_⟩ <;> intro t ht <;> cases ht

end Replicat.Sym
