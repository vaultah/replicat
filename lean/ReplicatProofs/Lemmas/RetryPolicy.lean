import ReplicatModel.Retry
/-!
What `policy` answers, per class of exception, written with three functions defined here (`guarded`: the decorator's catch /
give-up / limit tests; `onStatus`: B2's back-off handler; `viaAuth`: `requires_auth`); `policy_auth` / `policy_os` /
`policy_transport` / `policy_status` prove that the model's `policy` equals these forms.
-/
namespace Replicat.Retry

/-- the decorator is there, catches the adapter's error class, has a positive `max_tries`, and its `giveup=` predicate singles out
no class of OSError (an I/O error is transient whatever its errno: ENOENT, EACCES, ENOSPC, … are retried like EIO) -/
abbrev PolSound (cfg : Cfg) (dec : Bool) : Prop :=
  cfg.maxTries = some cfg.budget ∧ 1 ≤ cfg.budget ∧ dec = true ∧ cfg.catches = true ∧ cfg.giveupOs = []

/-- what `requires_auth` does with an `AuthRequired` -/
def viaAuth (cfg : Cfg) (ra : Bool) (rounds : Nat) (slept : Bool) : Decision :=
  if ra && cfg.reauthOnAuthRequired && reauthAllowed cfg rounds then .reauth slept else .raise .auth slept

/-- `backoff.on_exception`; `d` is what the handlers decide -/
def guarded (caught stop : Bool) (e : Err) (d : Decision) : Decision :=
  if !caught then .raise e false else if stop then .raise e false else d

/-- the back-off handlers for a status: B2's `_wait_and_trigger_reauth` sleeps for `Retry-After`, returns for the plain-retry
status and raises `AuthRequired` for every other one; S3 has none -/
def onStatus (b : Backend) (cfg : Cfg) (ra : Bool) (code : Nat) (r : Bool) (rounds : Nat) : Decision :=
  if b = .b2 then
    if cfg.plainRetryStatus == some code then .retry (r && cfg.handlerSleepsRetryAfter)
    else if cfg.handlerRaisesAuth then viaAuth cfg ra rounds (r && cfg.handlerSleepsRetryAfter)
    else .retry (r && cfg.handlerSleepsRetryAfter)
  else .retry false

theorem policy_auth (b : Backend) (cfg : Cfg) (dec ra : Bool) (tries rounds : Nat) :
    policy b cfg dec ra .auth tries rounds = viaAuth cfg ra rounds false := rfl

theorem policy_os (b : Backend) (cfg : Cfg) (dec ra : Bool) (k tries rounds : Nat) :
    policy b cfg dec ra (.os k) tries rounds =
      guarded (dec && cfg.catches && b == .local) (cfg.giveupOs.contains k || limitHit cfg.maxTries tries) (.os k) (.retry false) := by
  cases b <;> rfl

theorem policy_transport (b : Backend) (cfg : Cfg) (dec ra : Bool) (tries rounds : Nat) :
    policy b cfg dec ra .transport tries rounds =
      guarded (dec && cfg.catches && b != .local) (false || limitHit cfg.maxTries tries) .transport (.retry false) := by
  cases b <;> rfl

theorem policy_status (b : Backend) (cfg : Cfg) (dec ra : Bool) (code : Nat) (r : Bool) (tries rounds : Nat) :
    policy b cfg dec ra (.status code r) tries rounds =
      guarded (dec && cfg.catches && b != .local) (cfg.giveupStatus == some code || limitHit cfg.maxTries tries) (.status code r)
        (onStatus b cfg ra code r rounds) := by
  cases b <;> rfl

theorem viaAuth_pos {cfg : Cfg} {ra : Bool} {rounds : Nat} (h : (ra && cfg.reauthOnAuthRequired && reauthAllowed cfg rounds) = true)
    (s : Bool) : viaAuth cfg ra rounds s = .reauth s :=
  if_pos h

theorem viaAuth_reauth {cfg : Cfg} {ra : Bool} {rounds : Nat} {s x : Bool} (h : viaAuth cfg ra rounds s = .reauth x) :
    (ra && cfg.reauthOnAuthRequired && reauthAllowed cfg rounds) = true := by
  unfold viaAuth at h
  split at h
  · assumption
  · cases h

theorem viaAuth_ne_retry (cfg : Cfg) (ra : Bool) (rounds : Nat) (s x : Bool) : viaAuth cfg ra rounds s ≠ .retry x := by
  unfold viaAuth
  split <;> nofun

theorem retry_ne_raise (x : Bool) (e : Err) (s : Bool) : Decision.retry x ≠ .raise e s := nofun

theorem reauth_ne_raise (x : Bool) (e : Err) (s : Bool) : Decision.reauth x ≠ .raise e s := nofun

theorem guarded_not_raise {caught stop : Bool} {e : Err} {d d' : Decision} (h : guarded caught stop e d = d')
    (hd : ∀ e' s, d' ≠ .raise e' s) : caught = true ∧ stop = false ∧ d = d' := by
  cases caught
  · exact absurd h.symm (hd _ _)
  · cases stop
    · exact ⟨rfl, rfl, h⟩
    · exact absurd h.symm (hd _ _)

theorem onStatus_cases (b : Backend) (cfg : Cfg) (ra : Bool) (code : Nat) (r : Bool) (rounds : Nat) :
    (∃ x, onStatus b cfg ra code r rounds = .retry x) ∨
    (b = .b2 ∧ onStatus b cfg ra code r rounds = viaAuth cfg ra rounds (r && cfg.handlerSleepsRetryAfter)) := by
  unfold onStatus
  by_cases hb : b = .b2
  · rw [if_pos hb]
    by_cases hp : (cfg.plainRetryStatus == some code) = true
    · rw [if_pos hp]
      exact Or.inl ⟨_, rfl⟩
    · rw [if_neg hp]
      by_cases hr : cfg.handlerRaisesAuth = true
      · rw [if_pos hr]
        exact Or.inr ⟨hb, rfl⟩
      · rw [if_neg hr]
        exact Or.inl ⟨_, rfl⟩
  · rw [if_neg hb]
    exact Or.inl ⟨_, rfl⟩

theorem limitHit_budget (cfg : Cfg) (h : cfg.maxTries = some cfg.budget) (tries : Nat) :
    limitHit cfg.maxTries tries = (tries == cfg.budget) := by
  rw [h]; rfl

/-- at try number `max_tries` nothing is retried in place (it is raised — or handed to `requires_auth`) -/
theorem policy_no_retry_at_limit (b : Backend) (cfg : Cfg) (dec ra : Bool) (h : cfg.maxTries = some cfg.budget) (e : Err) (rounds : Nat) (x : Bool) :
    policy b cfg dec ra e cfg.budget rounds ≠ .retry x := by
  have hl : limitHit cfg.maxTries cfg.budget = true := by rw [limitHit_budget cfg h]; exact beq_self_eq_true _
  intro hp
  cases e with
  | auth => exact viaAuth_ne_retry _ _ _ _ _ hp
  | os k =>
    rw [policy_os, hl, Bool.or_true] at hp
    exact nomatch (guarded_not_raise hp (retry_ne_raise x)).2.1
  | transport =>
    rw [policy_transport, hl, Bool.or_true] at hp
    exact nomatch (guarded_not_raise hp (retry_ne_raise x)).2.1
  | status code r =>
    rw [policy_status, hl, Bool.or_true] at hp
    exact nomatch (guarded_not_raise hp (retry_ne_raise x)).2.1

theorem policy_reauth {b : Backend} {cfg : Cfg} {dec ra : Bool} {e : Err} {tries rounds : Nat} {x : Bool}
    (h : policy b cfg dec ra e tries rounds = .reauth x) : (ra && cfg.reauthOnAuthRequired && reauthAllowed cfg rounds) = true := by
  cases e with
  | auth => exact viaAuth_reauth h
  | os k =>
    rw [policy_os] at h
    exact nomatch (guarded_not_raise h (reauth_ne_raise x)).2.2
  | transport =>
    rw [policy_transport] at h
    exact nomatch (guarded_not_raise h (reauth_ne_raise x)).2.2
  | status code r =>
    rw [policy_status] at h
    rcases onStatus_cases b cfg ra code r rounds with ⟨y, hy⟩ | ⟨_, hy⟩
    · exact nomatch hy.symm.trans (guarded_not_raise h (reauth_ne_raise x)).2.2
    · exact viaAuth_reauth (hy.symm.trans (guarded_not_raise h (reauth_ne_raise x)).2.2)

theorem guarded_sound {cfg : Cfg} {dec : Bool} (hs : PolSound cfg dec) (giveup : Bool) (tries : Nat) (e : Err) (d : Decision) :
    guarded (dec && cfg.catches && true) (giveup || limitHit cfg.maxTries tries) e d =
      if giveup = true ∨ tries = cfg.budget then .raise e false else d := by
  obtain ⟨hm, _, hd, hc, _⟩ := hs
  rw [hd, hc, limitHit_budget cfg hm]
  cases giveup
  · by_cases h : tries = cfg.budget
    · rw [if_pos (Or.inr h), h, Bool.false_or, beq_self_eq_true]
      rfl
    · rw [if_neg (fun h' => h (h'.resolve_left nofun)), Bool.false_or, beq_false_of_ne h]
      rfl
  · rw [if_pos (Or.inl rfl)]
    rfl

theorem policy_local_os {cfg : Cfg} {dec ra : Bool} (hs : PolSound cfg dec) (k tries rounds : Nat) :
    policy .local cfg dec ra (.os k) tries rounds = if tries = cfg.budget then .raise (.os k) false else .retry false := by
  rw [policy_os, hs.2.2.2.2]
  exact (guarded_sound hs false tries _ _).trans (ite_cond_congr (propext ⟨fun h => h.resolve_left nofun, Or.inr⟩))

/-- a `giveup=` predicate that singles out a class of OSError ends the call at once, whatever the try counter says -/
theorem policy_local_os_giveup (cfg : Cfg) (dec ra : Bool) (hd : dec = true) (hc : cfg.catches = true) (k tries rounds : Nat)
    (hk : k ∈ cfg.giveupOs) : policy .local cfg dec ra (.os k) tries rounds = .raise (.os k) false := by
  rw [policy_os, hd, hc, List.contains_iff_mem.mpr hk]
  rfl

theorem policy_http_transport {b : Backend} (hb : b ≠ .local) {cfg : Cfg} {dec ra : Bool} (hs : PolSound cfg dec) (tries rounds : Nat) :
    policy b cfg dec ra .transport tries rounds = if tries = cfg.budget then .raise .transport false else .retry false := by
  rw [policy_transport, bne_iff_ne.mpr hb]
  exact (guarded_sound hs false tries _ _).trans (ite_cond_congr (propext ⟨fun h => h.resolve_left nofun, Or.inr⟩))

theorem policy_http_status {b : Backend} (hb : b ≠ .local) {cfg : Cfg} {dec ra : Bool} (hs : PolSound cfg dec) (code : Nat) (r : Bool)
    (tries rounds : Nat) :
    policy b cfg dec ra (.status code r) tries rounds =
      if cfg.giveupStatus = some code ∨ tries = cfg.budget then .raise (.status code r) false else onStatus b cfg ra code r rounds := by
  rw [policy_status, bne_iff_ne.mpr hb]
  exact (guarded_sound hs _ tries _ _).trans (ite_cond_congr (propext (or_congr_left beq_iff_eq)))

end Replicat.Retry
