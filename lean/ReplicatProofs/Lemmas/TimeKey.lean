import ReplicatModel.TimeKey
import ReplicatModel.Repo
/-!
Sort keys and time zones (C15): zone-free keys order like the UTC value under every zone; the two zone-dependent kinds do not
(witnesses), although `localEpoch` does under every FIXED offset — which is why only zones with daylight-saving transitions
expose it.
-/
namespace Replicat.TimeKey
open Replicat Replicat.Repo

theorem sortKey_of_zoneFree {k : KeyKind} (h : k.zoneFree = true) (loc : Zone) (t : Int) : sortKey k loc t = t := by
  cases k <;> simp [KeyKind.zoneFree] at h <;> rfl

theorem sortKey_unrecognised (loc : Zone) (t : Int) : sortKey .unrecognised loc t = t := rfl

/-- zone-free keys are strictly increasing in the UTC value, whatever the zone -/
theorem sortKey_strictMono {k : KeyKind} (h : k.zoneFree = true) (loc : Zone) {t₁ t₂ : Int} (hlt : t₁ < t₂) :
    sortKey k loc t₁ < sortKey k loc t₂ := by
  rw [sortKey_of_zoneFree h, sortKey_of_zoneFree h]
  exact hlt

/-- the comparison `restore` / `list_files` sort with, when the key has kind `k` and the process lives in zone `loc` -/
def bodyGE (k : KeyKind) (loc : Zone) (a b : Body) : Bool := decide (sortKey k loc b.ts ≤ sortKey k loc a.ts)

/-- the comparison `list_snapshots` sorts with (rows without details carry no timestamp and sort last) -/
def rowKeyGE (k : KeyKind) (loc : Zone) (a b : SnapRow) : Bool :=
  decide (sortKey k loc ((b.ts.getD 0 : Nat) : Int) ≤ sortKey k loc ((a.ts.getD 0 : Nat) : Int))

theorem bodyGE_eq_tsGE {k : KeyKind} (h : k.zoneFree = true) (loc : Zone) : bodyGE k loc = tsGE := by
  funext a b
  simp [bodyGE, tsGE, sortKey_of_zoneFree h]

theorem rowKeyGE_eq_rowGE {k : KeyKind} (h : k.zoneFree = true) (loc : Zone) : rowKeyGE k loc = rowGE := by
  funext a b
  simp [rowKeyGE, rowGE, sortKey_of_zoneFree h]

/-- under a FIXED offset the re-read-as-local key is the UTC value shifted by a constant: no misordering without DST -/
theorem pyMktime_fixed_offset (c t : Int) : pyMktime (fun u => u + c) t = t - c := by
  have h1 : t - (t + c - t) + c = t := by omega
  simp [pyMktime, h1]
  omega

/-- a zone that springs forward by one hour at epoch second 100000 (wall clock 100000 … 103599 does not exist) -/
def springZone : Zone := stepZone 100000 0 3600
/-- a zone that falls back by one hour at epoch second 100000 (wall clock 100000 … 103599 exists twice) -/
def fallZone : Zone := stepZone 100000 3600 0
/-- US Eastern around 2024-03-10 07:00:00Z (epoch 1710054000): UTC−5 before, UTC−4 after -/
def easternMarch2024 : Zone := stepZone 1710054000 (-18000) (-14400)

/-- `naive.timestamp()` as a key misorders: the older value lies in the skipped hour, the newer one less than an hour later -/
theorem localEpoch_misorders : (101800 : Int) < 104200 ∧ sortKey .localEpoch springZone 104200 < sortKey .localEpoch springZone 101800 := by
  decide

/-- the demonstration's numbers: 2024-03-10 02:45:00 and 03:10:00 (UTC values) under US Eastern are taken for 07:45Z and 07:10Z -/
theorem localEpoch_misorders_eastern :
    sortKey .localEpoch easternMarch2024 1710038700 = 1710056700 ∧ sortKey .localEpoch easternMarch2024 1710040200 = 1710054600 := by
  decide

/-- the local wall clock as a key (or as the recorded value) misorders across the fall-back instant -/
theorem localWall_misorders : (99000 : Int) < 100500 ∧ sortKey .localWall fallZone 100500 < sortKey .localWall fallZone 99000 := by
  decide

end Replicat.TimeKey
