import ReplicatModel.Sched
/-!
Helper lemmas for C09: what holds of `run` for any step function (invariants, a potential, a dead state), pointwise updates, and
the slot-queue system (S1).
-/
namespace Replicat.Sched
open List

theorem run_cons {σ ε : Type} (step : σ → ε → Option σ) (s : σ) (e : ε) (es : List ε) :
    run step s (e :: es) = (step s e).bind (fun s1 => run step s1 es) := by
  rw [run]
  cases step s e with
  | none => rfl
  | some _ => rfl

theorem run_inv {σ ε : Type} (step : σ → ε → Option σ) (Inv : σ → Prop)
    (hstep : ∀ s e s', Inv s → step s e = some s' → Inv s') :
    ∀ (evs : List ε) (s s' : σ), Inv s → run step s evs = some s' → Inv s' := by
  intro evs
  induction evs with
  | nil =>
    intro s s' h hr
    cases hr
    exact h
  | cons e es ih =>
    intro s s' h hr
    rw [run_cons] at hr
    obtain ⟨s1, hs, hr⟩ := Option.bind_eq_some_iff.mp hr
    exact ih s1 s' (hstep s e s1 h hs) hr

theorem run_append {σ ε : Type} (step : σ → ε → Option σ) (a b : List ε) (s : σ) :
    run step s (a ++ b) = (run step s a).bind (fun s1 => run step s1 b) := by
  induction a generalizing s with
  | nil => rfl
  | cons e es ih =>
    rw [cons_append, run_cons, run_cons]
    cases step s e with
    | none => rfl
    | some s1 => exact ih s1

theorem accepts_ok_iff_run {σ ε : Type} (step : σ → ε → Option σ) (evs : List ε) (s s' : σ) (i : Nat) :
    accepts step s evs i = .ok s' ↔ run step s evs = some s' := by
  induction evs generalizing s i with
  | nil => simp only [accepts, run, Except.ok.injEq, Option.some.injEq]
  | cons e es ih =>
    rw [accepts, run_cons]
    cases step s e with
    | none => simp only [Option.bind_none, reduceCtorEq]
    | some s1 => exact ih s1 (i + 1)

theorem run_length_add_measure_le {σ ε : Type} (step : σ → ε → Option σ) (μ : σ → Nat) (P : ε → Prop)
    (hstep : ∀ s e s', P e → step s e = some s' → μ s' < μ s) :
    ∀ (evs : List ε) (s s' : σ), run step s evs = some s' → (∀ e ∈ evs, P e) → evs.length + μ s' ≤ μ s := by
  intro evs
  induction evs with
  | nil =>
    intro s s' hr _
    cases hr
    exact Nat.le_of_eq (Nat.zero_add _)
  | cons e es ih =>
    intro s s' hr hP
    rw [run_cons] at hr
    obtain ⟨s1, hs, hr⟩ := Option.bind_eq_some_iff.mp hr
    have h1 := hstep s e s1 (hP e mem_cons_self) hs
    have h2 := ih s1 s' hr (fun x hx => hP x (mem_cons_of_mem e hx))
    rw [length_cons]
    omega

theorem run_of_all_none {σ ε : Type} (step : σ → ε → Option σ) (s : σ) (hnone : ∀ e, step s e = none)
    (evs : List ε) (s' : σ) (h : run step s evs = some s') : s' = s ∧ evs = [] := by
  cases evs with
  | nil =>
    cases h
    exact ⟨rfl, rfl⟩
  | cons e es =>
    rw [run_cons, hnone e] at h
    cases h

theorem sub_one_add_succ {a : Nat} (h : 0 < a) (b : Nat) : a - 1 + (b + 1) = a + b := by
  rw [← Nat.add_assoc, Nat.add_right_comm, Nat.sub_add_cancel h]

theorem succ_add_sub_one {b : Nat} (h : 0 < b) (a : Nat) : a + 1 + (b - 1) = a + b := by
  rw [Nat.add_assoc, Nat.add_comm 1, Nat.sub_add_cancel h]

theorem of_guarded {α : Type} {c : Prop} [Decidable c] {x y : α} (h : (if c then some x else none) = some y) : c ∧ x = y := by
  by_cases hc : c
  · rw [if_pos hc] at h
    exact ⟨hc, Option.some.inj h⟩
  · rw [if_neg hc] at h
    cases h

theorem guarded_isSome {α : Type} {c : Prop} [Decidable c] {x : α} (h : c) : (if c then some x else none).isSome = true := by
  rw [if_pos h]
  rfl

@[simp] theorem setAt_same {α : Type} (f : Nat → α) (k : Nat) (v : α) : setAt f k v k = v :=
  if_pos rfl

theorem setAt_other {α : Type} {f : Nat → α} {k x : Nat} {v : α} (h : x ≠ k) : setAt f k v x = f x :=
  if_neg h

theorem setAt_forall {α : Type} {f : Nat → α} {k : Nat} {v : α} {P : Nat → α → Prop}
    (hk : P k v) (ho : ∀ x, x ≠ k → P x (f x)) (x : Nat) : P x (setAt f k v x) := by
  by_cases hx : x = k
  · rw [hx, setAt_same]
    exact hk
  · rw [setAt_other hx]
    exact ho x hx

theorem setAt_forall₂ {α β : Type} {f : Nat → α} {g : Nat → β} {k : Nat} {v : α} {v' : β} {P : Nat → α → β → Prop}
    (hk : P k v v') (ho : ∀ x, x ≠ k → P x (f x) (g x)) (x : Nat) : P x (setAt f k v x) (setAt g k v' x) := by
  by_cases hx : x = k
  · rw [hx, setAt_same, setAt_same]
    exact hk
  · rw [setAt_other hx, setAt_other hx]
    exact ho x hx

theorem setAt_eq_iff_of_ne {α : Type} {f : Nat → α} {k : Nat} {v a : α} (h1 : f k ≠ a) (h2 : v ≠ a) (x : Nat) :
    setAt f k v x = a ↔ f x = a :=
  setAt_forall (P := fun x y => y = a ↔ f x = a) ⟨fun h => absurd h h2, fun h => absurd h h1⟩ (fun _ _ => Iff.rfl) x

theorem setAt_eq_self {α : Type} (f : Nat → α) (k : Nat) : setAt f k (f k) = f :=
  funext fun x => setAt_forall (P := fun x v => v = f x) rfl (fun _ _ => rfl) x

/-- `fin`: the slot is released in a `finally` -/
def SlotsInv (fin : Bool) (n : Nat) (σ : Slots) : Prop :=
  (σ.free ++ σ.held ++ σ.leaked) ~ List.range' Gen.slotBase n ∧ (fin = true → σ.leaked = [])

theorem erase_append_cons_perm {s : Nat} {a : List Nat} (b : List Nat) (h : s ∈ a) : a.erase s ++ s :: b ~ a ++ b :=
  perm_middle.trans ((perm_cons_erase h).symm.append_right b)

theorem slots_step_inv (fin : Bool) (n : Nat) (σ : Slots) (e : SlotEv) (σ' : Slots)
    (h : SlotsInv fin n σ) (hs : Slots.step fin σ e = some σ') : SlotsInv fin n σ' := by
  obtain ⟨hp, hl⟩ := h
  cases e with
  | acquire s =>
    obtain ⟨hm, rfl⟩ := of_guarded hs
    exact ⟨((erase_append_cons_perm σ.held hm).append_right _).trans hp, hl⟩
  | start s =>
    obtain ⟨_, rfl⟩ := of_guarded hs
    exact ⟨hp, hl⟩
  | finish s ok =>
    obtain ⟨_, rfl⟩ := of_guarded hs
    exact ⟨hp, hl⟩
  | release s =>
    simp only [Slots.step] at hs
    split at hs
    · rename_i hm
      split at hs
      · rename_i ok _
        split at hs
        · cases hs
          refine ⟨Perm.trans (Perm.append_right _ ?_) hp, hl⟩
          exact perm_middle.symm.trans ((perm_cons_erase hm).symm.append_left σ.free)
        · rename_i hno
          cases hs
          refine ⟨Perm.trans ?_ hp, fun hf => ?_⟩
          · rw [append_assoc, append_assoc]
            exact (erase_append_cons_perm σ.leaked hm).append_left σ.free
          · rw [hf, Bool.or_true] at hno
            exact absurd rfl hno
      · cases hs
    · cases hs

/-- bridge to the generated constructor loop: `concurrent` slots are created -/
theorem slotCount_eq (n : Nat) : Gen.slotCount n = n := by
  unfold Gen.slotCount
  omega

theorem slots_init_inv (fin : Bool) (n : Nat) : SlotsInv fin n (Slots.init n) := by
  refine ⟨?_, fun _ => rfl⟩
  simp only [Slots.init, slotCount_eq, append_nil]
  exact Perm.refl _

end Replicat.Sched
