import ReplicatModel.Chunker
import ReplicatProofs.Lemmas.Common
/-! Lemmas for the chunker model: one cut (`window`, `scanFrom`, `mainCut`, `nextCut`) and the adapter loop (`drain`, `feed`). -/
namespace Replicat

/-! ### bridge lemmas: the generated (translated) guards have the shape the proofs rely on (`scanInit_eq` only as a
compile-time check: no proof cites it).
If an edit to src/adapters.cpp changes one of them, these stop compiling (a broken proof obligation). -/
theorem Gen.scanStart_eq : Gen.scanStart = 4 := rfl
theorem Gen.scanStride_eq : Gen.scanStride = 4 := rfl
theorem Gen.scanInit_eq : (Gen.scanInitIndex, Gen.scanInitValue) = (0, 0) := rfl
theorem Gen.windowBack_eq : Gen.windowBack = 4 := rfl
theorem Gen.windowLen_eq : Gen.windowLen = 8 := rfl
theorem Gen.scanContinue_iff (i mn mx : Nat) : Gen.scanContinue i mn mx = true ↔ i < mx :=
  decide_eq_true_iff
theorem Gen.isTail_iff (f : Bool) (s mn mx : Nat) : Gen.isTail f s mn mx = true ↔ (f = true ∧ s < 2 * mx) := by
  simp only [Gen.isTail, Bool.and_eq_true, decide_eq_true_eq]
theorem Gen.tailCut_eq (s mn mx : Nat) :
    Gen.tailCut s mn mx = if s ≤ mx then s else if s < mx + mn then s / 2 else mx := by
  simp only [Gen.tailCut, decide_eq_true_eq]
theorem Gen.waits_iff (f : Bool) (s mn mx : Nat) : Gen.waits f s mn mx = true ↔ (f = false ∧ s < ceil4 mx) := by
  simp only [Gen.waits, ceil4, Bool.and_eq_true, Bool.not_eq_true', decide_eq_true_eq]
theorem Gen.waitRet_eq (s mn mx : Nat) : Gen.waitRet s mn mx = 0 := rfl
theorem Gen.needForce_iff (mi mn mx : Nat) : Gen.needForce mi mn mx = true ↔ mi < mn :=
  decide_eq_true_iff
theorem Gen.forced_eq (mn mx : Nat) : Gen.forced mn mx = ceil4 mn := rfl
theorem Gen.align_eq : Gen.align = 4 := rfl

theorem le_ceil4 (n : Nat) : n ≤ ceil4 n := by
  unfold ceil4
  omega

theorem valid_ceil_le {p : CParams} (hv : p.valid) : ceil4 p.max ≤ 2 * p.max := by
  -- the aligned length in `[min, max]` is at least 4 because `min ≥ 1`; so `max ≥ 4`, and rounding up adds at most 3
  have h4 : 4 ≤ p.max :=
    Nat.le_trans (Nat.le_mul_of_pos_left 4 (Nat.div_pos (Nat.add_le_add_right hv.1 3) (by decide))) hv.2.2
  rw [Nat.two_mul]
  exact Nat.le_trans (Nat.div_mul_le_self (p.max + 3) 4) (Nat.add_le_add_left (Nat.le_trans (by decide) h4) _)

theorem length_drop_lt {s : Bytes} {c : Nat} (hs : 0 < s.length) (h0 : c ≠ 0) : (s.drop c).length < s.length := by
  rw [List.length_drop]
  exact Nat.sub_lt hs (Nat.pos_of_ne_zero h0)

theorem mem_cands {p : CParams} {i : Nat} : i ∈ cands p ↔ 4 ≤ i ∧ i < p.max ∧ 4 ∣ i := by
  unfold cands
  rw [takeWhile_eq_filter_of_prefixClosed]
  · simp only [List.mem_filter, List.mem_map, List.mem_range, Gen.scanContinue_iff, Gen.scanStart_eq, Gen.scanStride_eq]
    constructor
    · rintro ⟨⟨j, _, rfl⟩, h⟩
      exact ⟨Nat.le_add_right 4 _, h, Nat.dvd_add (Nat.dvd_refl 4) (Nat.dvd_mul_left 4 j)⟩
    · rintro ⟨h4, hlt, ⟨k, rfl⟩⟩
      cases k with
      | zero => exact absurd h4 (by decide)
      | succ k =>
        have hk : k < p.max + 1 :=
          Nat.lt_succ_of_lt (Nat.lt_of_le_of_lt (Nat.le_trans (Nat.le_succ k) (Nat.le_mul_of_pos_left _ (by decide))) hlt)
        exact ⟨⟨k, hk, by rw [Nat.mul_comm 4, Nat.succ_mul, Nat.add_comm]⟩, hlt⟩
  · rw [List.pairwise_map]
    refine List.pairwise_lt_range.imp fun hab hb => ?_
    rw [Gen.scanContinue_iff] at *
    exact Nat.lt_trans (Nat.add_lt_add_left (Nat.mul_lt_mul_of_pos_right hab (by decide)) 4) hb

theorem sub_four_add_eight {i : Nat} (h4 : 4 ≤ i) : i - 4 + 8 = i + 4 := by
  omega

theorem window_eq (buf : Bytes) (i : Nat) :
    window buf i = if 4 ≤ i ∧ i + 4 ≤ buf.length then some ((buf.drop (i - 4)).take 8) else none := by
  have hc : (4 ≤ i ∧ i - 4 + 8 ≤ buf.length) ↔ (4 ≤ i ∧ i + 4 ≤ buf.length) :=
    and_congr_right fun h4 => by rw [sub_four_add_eight h4]
  simp only [window, Gen.windowBack_eq, Gen.windowLen_eq, hc]

theorem window_isSome_iff (buf : Bytes) (i : Nat) : (window buf i).isSome ↔ 4 ≤ i ∧ i + 4 ≤ buf.length := by
  rw [window_eq, Option.isSome_ite]

theorem window_length {buf : Bytes} {i : Nat} {w : Bytes} (hw : window buf i = some w) : w.length = 8 := by
  rw [window_eq] at hw
  split at hw
  · rename_i hc
    cases hw
    exact List.length_take_of_le (List.length_drop ▸ Nat.le_sub_of_add_le' (sub_four_add_eight hc.1 ▸ hc.2))
  · cases hw

theorem window_take {buf : Bytes} {i n : Nat} (hi : i + 4 ≤ n) : window (buf.take n) i = window buf i := by
  simp only [window_eq, List.length_take, Nat.le_min, and_iff_right hi, List.drop_take, List.take_take]
  split
  · rename_i h4
    rw [Nat.min_eq_left (Nat.le_sub_of_add_le' (sub_four_add_eight h4.1 ▸ hi))]
  · rfl

theorem scanFrom_cons (h : Hash) (buf : Bytes) (i : Nat) (is : List Nat) (acc : Nat × Nat) :
    scanFrom h buf (i :: is) acc = (scanStep h buf acc i).bind (scanFrom h buf is) := by
  rw [scanFrom]
  cases scanStep h buf acc i <;> rfl

theorem scanStep_eq (h : Hash) (buf : Bytes) (acc : Nat × Nat) (i : Nat) :
    scanStep h buf acc i = (window buf i).map fun w => if Gen.better (h w) acc.2 then (i, h w) else acc := by
  unfold scanStep
  cases window buf i with
  | none => rfl
  | some w => exact (apply_ite some _ _ _).symm

theorem scanStep_isSome (h : Hash) (buf : Bytes) (acc : Nat × Nat) (i : Nat) :
    (scanStep h buf acc i).isSome = (window buf i).isSome := by
  rw [scanStep_eq, Option.isSome_map]

theorem scanStep_fst {h : Hash} {buf : Bytes} {acc acc' : Nat × Nat} {i : Nat}
    (hs : scanStep h buf acc i = some acc') : acc'.1 = acc.1 ∨ acc'.1 = i := by
  rw [scanStep_eq, Option.map_eq_some_iff] at hs
  obtain ⟨w, _, rfl⟩ := hs
  split
  · exact Or.inr rfl
  · exact Or.inl rfl

theorem scanStep_congr {h h' : Hash} {buf buf' : Bytes} {i : Nat} (hw : window buf' i = window buf i)
    (hh : ∀ w, window buf i = some w → h' w = h w) (acc : Nat × Nat) :
    scanStep h' buf' acc i = scanStep h buf acc i := by
  rw [scanStep_eq, scanStep_eq, hw]
  exact Option.map_congr fun w hwi => by rw [hh w hwi]

theorem scanFrom_congr {h h' : Hash} {buf buf' : Bytes} (is : List Nat)
    (hw : ∀ i ∈ is, window buf' i = window buf i) (hh : ∀ i ∈ is, ∀ w, window buf i = some w → h' w = h w)
    (acc : Nat × Nat) : scanFrom h' buf' is acc = scanFrom h buf is acc := by
  induction is generalizing acc with
  | nil => rfl
  | cons i is ih =>
    rw [List.forall_mem_cons] at hw hh
    rw [scanFrom_cons, scanFrom_cons, scanStep_congr hw.1 hh.1]
    exact Option.bind_congr fun acc' _ => ih hw.2 hh.2 acc'

theorem scanFrom_isSome_iff {h : Hash} {buf : Bytes} {is : List Nat} {acc : Nat × Nat} :
    (scanFrom h buf is acc).isSome ↔ ∀ i ∈ is, 4 ≤ i ∧ i + 4 ≤ buf.length := by
  induction is generalizing acc with
  | nil => exact iff_of_true rfl nofun
  | cons i is ih =>
    rw [List.forall_mem_cons, ← window_isSome_iff, ← scanStep_isSome h buf acc i, scanFrom_cons]
    cases scanStep h buf acc i with
    | none => exact iff_of_false Bool.false_ne_true fun hc => Bool.false_ne_true hc.1
    | some acc' => exact ih.trans (and_iff_right rfl).symm

theorem scanFrom_mem (h : Hash) (buf : Bytes) (is : List Nat) (acc r : Nat × Nat)
    (hr : scanFrom h buf is acc = some r) : r.1 = acc.1 ∨ r.1 ∈ is := by
  induction is generalizing acc with
  | nil =>
    cases hr
    exact Or.inl rfl
  | cons i is ih =>
    rw [scanFrom_cons, Option.bind_eq_some_iff] at hr
    obtain ⟨acc', hs, hr⟩ := hr
    rw [List.mem_cons]
    rcases ih acc' hr with h1 | h1
    · rcases scanStep_fst hs with h2 | h2
      · exact Or.inl (h1.trans h2)
      · exact Or.inr (Or.inl (h1.trans h2))
    · exact Or.inr (Or.inr h1)

/-- if the scan succeeds, every candidate window was inside the buffer -/
theorem scanFrom_some_inb (h : Hash) (buf : Bytes) (is : List Nat) (acc r : Nat × Nat)
    (hr : scanFrom h buf is acc = some r) : ∀ i ∈ is, 4 ≤ i ∧ i + 4 ≤ buf.length :=
  scanFrom_isSome_iff.mp (Option.isSome_of_eq_some hr)

theorem cands_inb {p : CParams} {i n : Nat} (hi : i ∈ cands p) (hn : ceil4 p.max ≤ n) : 4 ≤ i ∧ i + 4 ≤ n := by
  obtain ⟨h4, hlt, k, rfl⟩ := mem_cands.mp hi
  -- `4 * k < max` puts the next multiple of four, `4 * k + 4`, at or below `max` rounded up
  have hk : k + 1 ≤ (p.max + 3) / 4 := by
    rw [Nat.le_div_iff_mul_le (by decide), Nat.succ_mul, Nat.mul_comm]
    exact Nat.add_le_add_right (Nat.succ_le_of_lt hlt) 3
  exact ⟨h4, Nat.le_trans (Nat.le_of_eq (Nat.mul_comm 4 (k + 1))) (Nat.le_trans (Nat.mul_le_mul_right 4 hk) hn)⟩

theorem mainCut_bounds (p : CParams) (hv : p.valid) (h : Hash) (buf : Bytes) (c : Nat)
    (hc : mainCut p h buf = some c) : p.min ≤ c ∧ c ≤ p.max ∧ 4 ∣ c := by
  unfold mainCut at hc
  rw [Option.map_eq_some_iff] at hc
  obtain ⟨r, hr, rfl⟩ := hc
  obtain ⟨h1, h2, h3⟩ := hv
  split
  · rw [Gen.forced_eq]
    exact ⟨le_ceil4 p.min, h3, Nat.dvd_mul_left 4 _⟩
  · rename_i hf
    rw [Gen.needForce_iff] at hf
    rcases scanFrom_mem h buf _ _ _ hr with hm | hm
    · -- the initial index 0 is below `min ≥ 1`, so it would have been forced up
      exact absurd (hm ▸ h1 : r.1 < p.min) hf
    · obtain ⟨_, hlt, hd⟩ := mem_cands.mp hm
      exact ⟨Nat.le_of_not_lt hf, Nat.le_of_lt hlt, hd⟩

theorem mainCut_isSome_of_len {p : CParams} (h : Hash) {buf : Bytes}
    (hlen : ceil4 p.max ≤ buf.length) : (mainCut p h buf).isSome := by
  unfold mainCut
  rw [Option.isSome_map]
  exact scanFrom_isSome_iff.mpr fun i hi => cands_inb hi hlen

theorem mainCut_valid {p : CParams} (hv : p.valid) (h : Hash) {s : Bytes} (hl : ceil4 p.max ≤ s.length) :
    ∃ c, mainCut p h s = some c ∧ 1 ≤ c ∧ p.min ≤ c ∧ c ≤ p.max ∧ 4 ∣ c := by
  obtain ⟨c, hc⟩ := Option.isSome_iff_exists.mp (mainCut_isSome_of_len h hl)
  have hb := mainCut_bounds p hv h s c hc
  exact ⟨c, hc, Nat.le_trans hv.1 hb.1, hb⟩

/-- locality: the main-rule decision only reads the first `ceil4 max` bytes -/
theorem mainCut_take {p : CParams} (h : Hash) (buf : Bytes) {n : Nat} (hlen : ceil4 p.max ≤ n) :
    mainCut p h (buf.take n) = mainCut p h buf := by
  unfold mainCut
  rw [scanFrom_congr (cands p) (fun i hi => window_take (cands_inb hi hlen).2) (fun _ _ _ _ => rfl)]

theorem mainCut_append {p : CParams} (h : Hash) {buf : Bytes} (ext : Bytes) (hl : ceil4 p.max ≤ buf.length) :
    mainCut p h (buf ++ ext) = mainCut p h buf := by
  rw [← mainCut_take h (buf ++ ext) hl, List.take_left]

theorem mainCut_congr (p : CParams) {h h' : Hash} (hh : ∀ w : Bytes, w.length = 8 → h w = h' w) (buf : Bytes) :
    mainCut p h buf = mainCut p h' buf := by
  unfold mainCut
  rw [scanFrom_congr (cands p) (fun _ _ => rfl) (fun _ _ w hw => hh w (window_length hw))]

theorem nextCut_final (p : CParams) (h : Hash) (buf : Bytes) :
    nextCut p h buf true =
      if buf.length < 2 * p.max then some (Gen.tailCut buf.length p.min p.max) else mainCut p h buf := by
  simp only [nextCut, Gen.isTail_iff, Gen.waits_iff, true_and, Bool.true_eq_false, false_and, if_false]

theorem nextCut_nonfinal (p : CParams) (h : Hash) (buf : Bytes) :
    nextCut p h buf false = if buf.length < ceil4 p.max then some 0 else mainCut p h buf := by
  simp only [nextCut, Gen.isTail_iff, Gen.waits_iff, Gen.waitRet_eq, true_and, Bool.false_eq_true, false_and, if_false]

theorem nextCut_main {p : CParams} (hv : p.valid) {h : Hash} {buf : Bytes} {final : Bool} {pos : Nat}
    (hpos : nextCut p h buf final = some pos) (hne : pos ≠ 0) (hz : final = true → 2 * p.max ≤ buf.length) :
    mainCut p h buf = some pos ∧ ceil4 p.max ≤ buf.length := by
  cases final
  · rw [nextCut_nonfinal] at hpos
    split at hpos
    · exact absurd (Option.some.inj hpos).symm hne
    · rename_i hge
      exact ⟨hpos, Nat.le_of_not_lt hge⟩
  · have hl := hz rfl
    rw [nextCut_final, if_neg (Nat.not_lt.mpr hl)] at hpos
    exact ⟨hpos, Nat.le_trans (valid_ceil_le hv) hl⟩

theorem mainCut_of_max_eq_zero {p : CParams} (hmm : p.min ≤ p.max) (h0 : p.max = 0) (h : Hash) (buf : Bytes) :
    mainCut p h buf = some 0 := by
  have hc : cands p = [] := List.eq_nil_iff_forall_not_mem.mpr fun i hi =>
    absurd (h0 ▸ (mem_cands.mp hi).2.1) (Nat.not_lt_zero i)
  have hf : Gen.needForce Gen.scanInitIndex p.min p.max = false := by
    rw [Bool.eq_false_iff, Ne, Gen.needForce_iff]
    exact Nat.not_lt.mpr (Nat.le_trans hmm (Nat.le_of_eq h0))
  rw [mainCut, hc, scanFrom, Option.map_some, hf]
  rfl

theorem nextCut_nil {p : CParams} (hmm : p.min ≤ p.max) (h : Hash) (final : Bool) :
    nextCut p h [] final = some 0 := by
  cases final
  · rw [nextCut_nonfinal]
    split
    · rfl
    · rename_i hge
      exact mainCut_of_max_eq_zero hmm (Nat.eq_zero_of_le_zero (Nat.le_trans (le_ceil4 _) (Nat.le_of_not_lt hge))) h []
  · rw [nextCut_final]
    split
    · rw [Gen.tailCut_eq, List.length_nil, if_pos (Nat.zero_le _)]
    · rename_i hge
      exact mainCut_of_max_eq_zero hmm
        (Nat.eq_zero_of_le_zero (Nat.le_trans (Nat.le_mul_of_pos_left _ (by decide)) (Nat.le_of_not_lt hge))) h []

theorem nextCut_final_pos {p : CParams} (hv : p.valid) {h : Hash} {buf : Bytes} {c : Nat}
    (hne : buf ≠ []) (hc : nextCut p h buf true = some c) : 0 < c := by
  rw [nextCut_final] at hc
  split at hc
  · cases hc
    have hmax : 1 ≤ p.max := Nat.le_trans hv.1 hv.2.1
    rw [Gen.tailCut_eq]
    split
    · exact List.length_pos_iff.mpr hne
    · rename_i hgt
      split
      · exact Nat.div_pos (Nat.lt_of_le_of_lt hmax (Nat.lt_of_not_le hgt)) (by decide)
      · exact hmax
  · exact Nat.lt_of_lt_of_le hv.1 (mainCut_bounds p hv h buf c hc).1

theorem nextCut_final_zero {p : CParams} (hv : p.valid) {h : Hash} {buf : Bytes} (h0 : nextCut p h buf true = some 0) :
    buf = [] :=
  Decidable.by_contra fun hne => Nat.lt_irrefl 0 (nextCut_final_pos hv hne h0)

/-- no out-of-bounds read: every main-rule invocation sees ≥ ceil4 max bytes
(non-final: the wait guard; final: 2·max ≥ ceil4 max as soon as max ≥ 2) -/
theorem nextCut_isSome {p : CParams} (h : Hash) (buf : Bytes) (final : Bool)
    (hsafe : ceil4 p.max ≤ 2 * p.max) : (nextCut p h buf final).isSome := by
  cases final
  · rw [nextCut_nonfinal]
    split
    · rfl
    · rename_i hge
      exact mainCut_isSome_of_len h (Nat.le_of_not_lt hge)
  · rw [nextCut_final]
    split
    · rfl
    · rename_i hge
      exact mainCut_isSome_of_len h (Nat.le_trans hsafe (Nat.le_of_not_lt hge))

theorem nextCut_congr (p : CParams) {h h' : Hash} (hh : ∀ w : Bytes, w.length = 8 → h w = h' w) (buf : Bytes) (f : Bool) :
    nextCut p h buf f = nextCut p h' buf f := by
  unfold nextCut
  rw [mainCut_congr p hh]

@[elab_as_elim]
theorem drain_induct {p : CParams} {h : Hash} {final : Bool} {motive : Nat → Bytes → List Bytes → Bytes → Prop}
    (stop : ∀ fuel buf, (0 < fuel → nextCut p h buf final = some 0) → motive fuel buf [] buf)
    (cut : ∀ fuel buf pos cs rest, nextCut p h buf final = some pos → pos ≠ 0 → motive fuel (buf.drop pos) cs rest →
      motive (fuel + 1) buf (buf.take pos :: cs) rest)
    (fuel : Nat) (buf : Bytes) (cs : List Bytes) (rest : Bytes) (hd : drain p h final fuel buf = some (cs, rest)) :
    motive fuel buf cs rest := by
  induction fuel generalizing buf cs rest with
  | zero =>
    cases hd
    exact stop 0 buf fun h0 => absurd h0 (Nat.lt_irrefl 0)
  | succ n ih =>
    unfold drain at hd
    split at hd
    · cases hd
    · rename_i pos hpos
      split at hd
      · rename_i h0
        cases hd
        exact stop (n + 1) buf fun _ => h0 ▸ hpos
      · rename_i hne
        split at hd
        · cases hd
        · rename_i cs' rest' hrec
          cases hd
          exact cut n buf pos cs' rest hpos hne (ih _ _ _ hrec)

theorem drain_lossless (p : CParams) (h : Hash) (final : Bool) (fuel : Nat) (buf : Bytes)
    (cs : List Bytes) (rest : Bytes) (hd : drain p h final fuel buf = some (cs, rest)) :
    cs.flatten ++ rest = buf := by
  refine drain_induct ?_ ?_ fuel buf cs rest hd
  · intro _ buf _
    rfl
  · intro _ buf pos cs rest _ _ ih
    rw [List.flatten_cons, List.append_assoc, ih, List.take_append_drop]

theorem drain_ne_nil {p : CParams} {h : Hash} {final : Bool} (hnil : ∀ c, nextCut p h [] final = some c → c = 0)
    {fuel : Nat} {buf : Bytes} {cs : List Bytes} {rest : Bytes} (hd : drain p h final fuel buf = some (cs, rest)) :
    ∀ c ∈ cs, c ≠ [] := by
  refine drain_induct ?_ ?_ fuel buf cs rest hd
  · intro _ _ _ c hc
    cases hc
  · intro _ buf pos cs rest hpos hne ih
    rw [List.forall_mem_cons]
    refine ⟨fun hnil' => ?_, ih⟩
    rcases List.take_eq_nil_iff.mp hnil' with h0 | h0
    · exact hne h0
    · exact hne (hnil pos (h0 ▸ hpos))

theorem drain_nonempty (p : CParams) (h : Hash) (final : Bool) (fuel : Nat) (buf : Bytes)
    (cs : List Bytes) (rest : Bytes) (hd : drain p h final fuel buf = some (cs, rest))
    (hcut : ∀ b c, nextCut p h b final = some c → c ≤ b.length) :
    ∀ c ∈ cs, c ≠ [] :=
  drain_ne_nil (fun c hc => Nat.le_zero.mp (hcut [] c hc)) hd

theorem drain_nonempty' {p : CParams} (hmm : p.min ≤ p.max) {h : Hash} {final : Bool} {fuel : Nat} {buf : Bytes}
    {cs : List Bytes} {rest : Bytes} (hd : drain p h final fuel buf = some (cs, rest)) :
    ∀ c ∈ cs, c ≠ [] :=
  drain_ne_nil (fun _ hc => (Option.some.inj ((nextCut_nil hmm h final).symm.trans hc)).symm) hd

/-- termination is by cut = 0, never by fuel -/
theorem drain_stops {p : CParams} (hmm : p.min ≤ p.max) {h : Hash} {final : Bool} {fuel : Nat} {buf : Bytes}
    {cs : List Bytes} {rest : Bytes} (hf : buf.length < fuel)
    (hd : drain p h final fuel buf = some (cs, rest)) : nextCut p h rest final = some 0 := by
  revert hf
  refine drain_induct ?_ ?_ fuel buf cs rest hd
  · intro _ _ h0 hf
    exact h0 (Nat.zero_lt_of_lt hf)
  · intro fuel buf pos cs rest hpos hne ih hf
    have hb : buf ≠ [] := fun hb => hne (Option.some.inj ((hb ▸ hpos).symm.trans (nextCut_nil hmm h final)))
    exact ih (Nat.lt_of_lt_of_le (length_drop_lt (List.length_pos_iff.mpr hb) hne) (Nat.le_of_lt_succ hf))

theorem drain_isSome {p : CParams} (h : Hash) (final : Bool) (fuel : Nat) (buf : Bytes)
    (hsafe : ceil4 p.max ≤ 2 * p.max) : (drain p h final fuel buf).isSome := by
  induction fuel generalizing buf with
  | zero => rfl
  | succ n ih =>
    obtain ⟨c, hc⟩ := Option.isSome_iff_exists.mp (nextCut_isSome h buf final hsafe)
    obtain ⟨r, hr⟩ := Option.isSome_iff_exists.mp (ih (buf.drop c))
    rw [drain, hc]
    dsimp only
    rw [hr]
    split <;> rfl

theorem drain_congr (p : CParams) {h h' : Hash} (hh : ∀ w : Bytes, w.length = 8 → h w = h' w) (f : Bool) (fuel : Nat)
    (buf : Bytes) : drain p h f fuel buf = drain p h' f fuel buf := by
  induction fuel generalizing buf with
  | zero => rfl
  | succ n ih => simp only [drain, nextCut_congr p hh, ih]

@[elab_as_elim]
theorem feed_induct {p : CParams} {h : Hash} {motive : Bytes → List Bytes → List Bytes → Prop}
    (nil : ∀ buf, motive buf [] [])
    (last : ∀ buf pc cs rest, drain p h true (drainFuel (buf ++ pc)) (buf ++ pc) = some (cs, rest) → motive buf [pc] cs)
    (more : ∀ buf pc q ps cs rest cs', drain p h false (drainFuel (buf ++ pc)) (buf ++ pc) = some (cs, rest) →
      motive rest (q :: ps) cs' → motive buf (pc :: q :: ps) (cs ++ cs'))
    (buf : Bytes) (ps : List Bytes) (cs : List Bytes) (hf : feed p h buf ps = some cs) : motive buf ps cs := by
  induction ps generalizing buf cs with
  | nil =>
    cases hf
    exact nil buf
  | cons pc ps ih =>
    cases ps with
    | nil =>
      rw [feed, Option.map_eq_some_iff] at hf
      obtain ⟨⟨cs', rest⟩, hd, rfl⟩ := hf
      exact last buf pc cs' rest hd
    | cons q qs =>
      rw [feed] at hf
      split at hf
      · cases hf
      · rename_i cs1 rest hd
        split at hf
        · cases hf
        · rename_i cs2 hrec
          cases hf
          exact more buf pc q qs cs1 rest cs2 hd (ih rest cs2 hrec)

theorem feed_isSome {p : CParams} (h : Hash) (buf : Bytes) (ps : List Bytes)
    (hsafe : ceil4 p.max ≤ 2 * p.max) : (feed p h buf ps).isSome := by
  induction ps generalizing buf with
  | nil => rfl
  | cons pc ps ih =>
    cases ps with
    | nil =>
      rw [feed, Option.isSome_map]
      exact drain_isSome h true _ _ hsafe
    | cons q qs =>
      obtain ⟨⟨cs, rest⟩, hr⟩ := Option.isSome_iff_exists.mp (drain_isSome h false (drainFuel (buf ++ pc)) (buf ++ pc) hsafe)
      obtain ⟨r2, hr2⟩ := Option.isSome_iff_exists.mp (ih rest)
      rw [feed, hr]
      dsimp only
      rw [hr2]
      rfl

theorem feed_congr (p : CParams) {h h' : Hash} (hh : ∀ w : Bytes, w.length = 8 → h w = h' w) (ps : List Bytes) (buf : Bytes) :
    feed p h buf ps = feed p h' buf ps := by
  induction ps generalizing buf with
  | nil => rfl
  | cons pc ps ih =>
    cases ps with
    | nil => simp only [feed, drain_congr p hh]
    | cons q qs => simp only [feed, drain_congr p hh, ih]

end Replicat
