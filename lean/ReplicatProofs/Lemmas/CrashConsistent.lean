import ReplicatProofs.Lemmas.RepoStep
/-! The invariant of C03 (`Crash.Consistent`) and the facts about traces it is proved from: the accepted traces of a staged plan;
what a trace of deletions, or of puts that agree on every name, leaves under each name; the upload loop of `snapshot`. -/
namespace Replicat.Crash
open Replicat.Repo Replicat.P18 List

/-- every VISIBLE (= listed) snapshot is complete: each chunk of its table is present with the right content -/
def SnapComplete (s : Store) : Prop :=
  ∀ f sid b, get s (.snap f sid) = some (.snap f sid b) → ∀ c ∈ b.chunks, get s (.chunk f c) = some (.chunk f c)

/-- the files of a snapshot reference chunks of its own table only (true of every snapshot replicat writes: C01 `refs_tile`) -/
def BodiesClosed (s : Store) : Prop :=
  ∀ f sid b, get s (.snap f sid) = some (.snap f sid b) → ∀ fr ∈ b.files, ∀ c ∈ fr.needs, c ∈ b.chunks

def Consistent (s : Store) : Prop := WF s ∧ SnapComplete s ∧ BodiesClosed s

/-- an unencrypted repository has one key family (`enc = false` ⇒ every chunk / snapshot name belongs to the caller's family) -/
def FamOK (enc : Bool) (fam : Fam) (s : Store) : Prop :=
  enc = false → ∀ e ∈ s, match e.1 with
    | .chunk f _ => f = fam
    | .snap f _ => f = fam
    | _ => True

def userOf : Op → User
  | .snapshot u .. => u
  | .delete u _ => u
  | .clean u => u

/-- side conditions on a command: a snapshot's files need only chunks of its stream; single family when unencrypted -/
def OpOK (enc : Bool) (s : Store) (op : Op) : Prop :=
  FamOK enc (userOf op).fam s ∧
  match op with
  | .snapshot _ stream files _ _ => ∀ fr ∈ files, ∀ c ∈ fr.needs, c ∈ stream
  | _ => True

/-- the chunk objects of family `f` are exactly the chunks referenced by its listed snapshots -/
def Exact (f : Fam) (s : Store) : Prop :=
  ∀ c, (get s (.chunk f c)).isSome = true ↔ ∃ sid b, get s (.snap f sid) = some (.snap f sid b) ∧ c ∈ b.chunks

/-- the part of `FamOK` the commands rely on -/
def SnapFam (enc : Bool) (fam : Fam) (s : Store) : Prop :=
  enc = false → ∀ f sid o, get s (.snap f sid) = some o → f = fam

theorem FamOK.snapFam {enc : Bool} {fam : Fam} {s : Store} (hf : FamOK enc fam s) : SnapFam enc fam s := by
  intro he f sid o hg
  simpa using hf he _ (mem_of_get hg)

theorem SnapFam.of_visible {enc : Bool} {u : User} {s : Store} (hf : SnapFam enc u.fam s) {f : Fam} {sid : Nat} {o : Obj}
    (hg : get s (.snap f sid) = some o) (hv : visible enc u f = true) : f = u.fam := by
  cases enc with
  | true => simpa [visible] using hv
  | false => exact hf rfl f sid o hg

theorem normalizePlan_cons (st : List Mut) (rest : Plan) :
    normalizePlan (st :: rest) = if st.isEmpty then normalizePlan rest else st :: rest := by
  rw [normalizePlan]

theorem normalizePlan_idem (p : Plan) : normalizePlan (normalizePlan p) = normalizePlan p := by
  induction p with
  | nil => rfl
  | cons st rest ih =>
    rw [normalizePlan_cons]
    by_cases h : st.isEmpty = true
    · simp only [h, if_true]; exact ih
    · simp only [h, Bool.false_eq_true, if_false]
      rw [normalizePlan_cons]
      simp [h]

theorem acceptsPrefix_normalize (p : Plan) (tr : List Mut) : acceptsPrefix (normalizePlan p) tr = acceptsPrefix p tr := by
  cases tr with
  | nil => simp [acceptsPrefix]
  | cons m ms => simp only [acceptsPrefix, normalizePlan_idem]

theorem acceptsPrefix_nil_plan (tr : List Mut) (h : acceptsPrefix [] tr = true) : tr = [] := by
  cases tr with
  | nil => rfl
  | cons m ms => simp [acceptsPrefix, normalizePlan] at h

/-- an accepted trace either stays inside the first stage, or completes it (in some order) and continues with the rest -/
theorem acceptsPrefix_cases (stage : List Mut) (rest : Plan) (tr : List Mut) (h : acceptsPrefix (stage :: rest) tr = true) :
    (∀ m ∈ tr, m ∈ stage) ∨ ∃ t1 t2, tr = t1 ++ t2 ∧ t1.Perm stage ∧ acceptsPrefix rest t2 = true := by
  induction tr generalizing stage with
  | nil => exact Or.inl (by simp)
  | cons m ms ih =>
    by_cases hemp : stage.isEmpty = true
    · have hst : stage = [] := isEmpty_iff.mp hemp
      subst hst
      refine Or.inr ⟨[], m :: ms, rfl, Perm.refl _, ?_⟩
      rw [← acceptsPrefix_normalize] at h
      have : normalizePlan ([] :: rest) = normalizePlan rest := rfl
      rw [this, acceptsPrefix_normalize] at h
      exact h
    · have hn : normalizePlan (stage :: rest) = stage :: rest := by rw [normalizePlan_cons, if_neg hemp]
      simp only [acceptsPrefix, hn] at h
      split at h
      · rename_i hc
        have hmem : m ∈ stage := contains_iff_mem.mp hc
        rcases ih (stage.erase m) h with h1 | ⟨t1, t2, rfl, hp, hacc⟩
        · left
          intro x hx
          rcases mem_cons.mp hx with rfl | hx'
          · exact hmem
          · exact mem_of_mem_erase (h1 x hx')
        · right
          exact ⟨m :: t1, t2, rfl, (hp.cons m).trans (perm_cons_erase hmem).symm, hacc⟩
      · cases h

/-- a call that never completes blocks its stage: nothing of a later stage happens -/
theorem stuck_in_stage (stage : List Mut) (rest : Plan) (tr : List Mut) (m : Mut) (hm : m ∈ stage) (hnot : m ∉ tr)
    (h : acceptsPrefix (stage :: rest) tr = true) : ∀ x ∈ tr, x ∈ stage := by
  rcases acceptsPrefix_cases stage rest tr h with h1 | ⟨t1, t2, rfl, hp, _⟩
  · exact h1
  · exact absurd (mem_append_left _ (hp.mem_iff.mpr hm)) hnot

theorem accepts_forall {Q : Mut → Prop} {p : Plan} {tr : List Mut} (h : acceptsPrefix p tr = true)
    (hq : ∀ st ∈ p, ∀ m ∈ st, Q m) : ∀ m ∈ tr, Q m := by
  induction p generalizing tr with
  | nil => rw [acceptsPrefix_nil_plan tr h]; intro m hm; cases hm
  | cons stage rest ih =>
    rcases acceptsPrefix_cases stage rest tr h with h1 | ⟨t1, t2, rfl, hp, hacc⟩
    · exact fun m hm => hq stage mem_cons_self m (h1 m hm)
    · intro m hm
      rcases mem_append.mp hm with h' | h'
      · exact hq stage mem_cons_self m (hp.mem_iff.mp h')
      · exact ih hacc (fun st hst => hq st (mem_cons_of_mem _ hst)) m h'

theorem accepts_last_stage (stage : List Mut) (tr : List Mut) (h : acceptsPrefix [stage] tr = true) : ∀ m ∈ tr, m ∈ stage :=
  accepts_forall h fun _ hst _ hm => mem_singleton.mp hst ▸ hm

theorem applyMuts_append (s : Store) (a b : List Mut) : applyMuts s (a ++ b) = applyMuts (applyMuts s a) b := by
  unfold applyMuts; rw [foldl_append]

theorem applyMuts_cons (s : Store) (m : Mut) (t : List Mut) : applyMuts s (m :: t) = applyMuts (applyMut s m) t := rfl

theorem applyMuts_dels (s : Store) (ns : List Name) : applyMuts s (ns.map Mut.del) = delAll s ns := by
  unfold applyMuts delAll
  induction ns generalizing s with
  | nil => rfl
  | cons n ns ih => simp only [map_cons, foldl_cons, applyMut]; exact ih _

theorem mem_map_del {n : Name} {ns : List Name} : Mut.del n ∈ ns.map Mut.del ↔ n ∈ ns :=
  ⟨fun h => (mem_map.mp h).elim fun _ hn => Mut.del.inj hn.2 ▸ hn.1, mem_map_of_mem⟩

theorem del_of_mem_map {m : Mut} {ns : List Name} (h : m ∈ ns.map Mut.del) : ∃ n, m = Mut.del n :=
  (mem_map.mp h).elim fun n hn => ⟨n, hn.2.symm⟩

theorem applyMuts_induct {P : Store → Prop} {Q : Mut → Prop} (hstep : ∀ s m, P s → Q m → P (applyMut s m))
    (s : Store) (t : List Mut) (hs : P s) (ht : ∀ m ∈ t, Q m) : P (applyMuts s t) := by
  induction t generalizing s with
  | nil => exact hs
  | cons m t ih =>
    rw [applyMuts_cons]
    exact ih _ (hstep s m hs (ht m mem_cons_self)) (fun x hx => ht x (mem_cons_of_mem _ hx))

theorem get_applyMuts_dels (s : Store) (t : List Mut) (ht : ∀ m ∈ t, ∃ n, m = Mut.del n) (n : Name) :
    get (applyMuts s t) n = if Mut.del n ∈ t then none else get s n := by
  induction t generalizing s with
  | nil => exact (if_neg not_mem_nil).symm
  | cons m t ih =>
    rw [applyMuts_cons, ih _ (fun x hx => ht x (mem_cons_of_mem _ hx))]
    obtain ⟨n', rfl⟩ := ht m mem_cons_self
    by_cases h1 : Mut.del n ∈ t
    · rw [if_pos h1, if_pos (mem_cons_of_mem _ h1)]
    · rw [if_neg h1]
      by_cases h2 : n = n'
      · subst h2
        rw [if_pos mem_cons_self]
        exact get_del_same s n
      · rw [if_neg (fun h => (mem_cons.mp h).elim (fun e => h2 (Mut.del.inj e)) h1)]
        exact get_del_other s n' n h2

theorem get_applyMuts_puts (s : Store) (t : List Mut) (g : Name → Obj) (ht : ∀ m ∈ t, ∃ n, m = Mut.put n (g n)) (n : Name) :
    get (applyMuts s t) n = if Mut.put n (g n) ∈ t then some (g n) else get s n := by
  induction t generalizing s with
  | nil => exact (if_neg not_mem_nil).symm
  | cons m t ih =>
    rw [applyMuts_cons, ih _ (fun x hx => ht x (mem_cons_of_mem _ hx))]
    obtain ⟨n', rfl⟩ := ht m mem_cons_self
    by_cases h1 : Mut.put n (g n) ∈ t
    · rw [if_pos h1, if_pos (mem_cons_of_mem _ h1)]
    · rw [if_neg h1]
      by_cases h2 : n = n'
      · subst h2
        rw [if_pos mem_cons_self]
        exact get_put_same s n _
      · rw [if_neg (fun h => (mem_cons.mp h).elim (fun e => h2 (Mut.put.inj e).1) h1)]
        exact get_put_other s n' n _ h2

/-- the order of the deletions does not matter: only the snapshots left at the end have to be complete -/
theorem consistent_dels {s : Store} {t : List Mut} (hs : Consistent s) (ht : ∀ m ∈ t, ∃ n, m = Mut.del n)
    (hsafe : ∀ f sid b c, get s (.snap f sid) = some (.snap f sid b) → c ∈ b.chunks → Mut.del (.chunk f c) ∈ t →
      Mut.del (.snap f sid) ∈ t) : Consistent (applyMuts s t) := by
  have hget := get_applyMuts_dels s t ht
  refine ⟨applyMuts_induct (P := WF) (Q := fun m => ∃ n, m = Mut.del n) (fun s m h ⟨n, hm⟩ => hm ▸ h.del n) s t hs.1 ht, ?_, ?_⟩
  · intro f sid b hg c hc
    rw [hget] at hg ⊢
    split at hg
    · cases hg
    · rename_i hnot
      rw [if_neg (fun hd => hnot (hsafe f sid b c hg hc hd))]
      exact hs.2.1 f sid b hg c hc
  · intro f sid b hg
    rw [hget] at hg
    split at hg
    · cases hg
    · exact hs.2.2 f sid b hg

theorem mem_fold_names {u : User} {stream : List Content} {acc : Store × List Name} {n : Name}
    (h : n ∈ (stream.foldl (uploadChunk u) acc).2) : n ∈ acc.2 ∨ ∃ c ∈ stream, n = .chunk u.fam c := by
  induction stream generalizing acc with
  | nil => exact Or.inl h
  | cons d ds ih =>
    rcases ih h with h1 | ⟨c, hc, rfl⟩
    · unfold uploadChunk at h1
      split at h1
      · exact Or.inl h1
      · rcases mem_append.mp h1 with h2 | h2
        · exact Or.inl h2
        · exact Or.inr ⟨d, mem_cons_self, mem_singleton.mp h2⟩
    · exact Or.inr ⟨c, mem_cons_of_mem _ hc, rfl⟩

theorem names_sub_fold {u : User} {stream : List Content} {acc : Store × List Name} {n : Name} (h : n ∈ acc.2) :
    n ∈ (stream.foldl (uploadChunk u) acc).2 := by
  induction stream generalizing acc with
  | nil => exact h
  | cons d ds ih =>
    apply ih
    unfold uploadChunk
    split
    · exact h
    · exact mem_append_left _ h

theorem fold_names_absent {u : User} {stream : List Content} {acc : Store × List Name} {c : Content} (hc : c ∈ stream)
    (hn : get acc.1 (.chunk u.fam c) = none) : Name.chunk u.fam c ∈ (stream.foldl (uploadChunk u) acc).2 := by
  induction stream generalizing acc with
  | nil => cases hc
  | cons d ds ih =>
    by_cases hcd : c = d
    · subst hcd
      rw [foldl_cons]
      apply names_sub_fold
      unfold uploadChunk
      rw [hn]
      exact mem_append_right _ (mem_singleton.mpr rfl)
    · apply ih ((mem_cons.mp hc).resolve_left hcd)
      unfold uploadChunk
      split
      · exact hn
      · rw [get_put_other _ _ _ _ (by intro h; cases h; exact hcd rfl)]
        exact hn

theorem mem_dedupKeepFirstC {l : List Content} {c : Content} : c ∈ dedupKeepFirstC l ↔ c ∈ l := by
  suffices H : ∀ (l acc : List Content),
      c ∈ l.foldl (fun acc a => if acc.contains a then acc else acc ++ [a]) acc ↔ c ∈ acc ∨ c ∈ l from
    (H l []).trans (by simp)
  intro l
  induction l with
  | nil => intro acc; simp
  | cons a l ih =>
    intro acc
    rw [foldl_cons, ih, mem_cons]
    split
    · rename_i ha
      have haa : a ∈ acc := contains_iff_mem.mp ha
      constructor
      · rintro (h | h)
        · exact Or.inl h
        · exact Or.inr (Or.inr h)
      · rintro (h | rfl | h)
        · exact Or.inl h
        · exact Or.inl haa
        · exact Or.inr h
    · rw [mem_append, mem_singleton, or_assoc]

end Replicat.Crash
