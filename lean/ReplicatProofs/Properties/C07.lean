import ReplicatProofs.Lemmas.RepoExact
import ReplicatProofs.Lemmas.RepoConcCount
/-!
# C07 — identical data is stored once

Property theorems only, over the repository state machine `ReplicatModel/Repo.lean`.
Ideal cryptography (DESIGN.md §4): a chunk's content id *is* its digest and the storage name is `mac_family(digest)`, rendered
as the constructor `Name.chunk family content`; `name_injective` states exactly this modelling assumption (a function of
(family, content), injective) — it is a definition-level fact, everything else below is proved from the behaviour of the
commands.  That chunk *boundaries* are a pure function of content and family key is C10 (`chunk_deterministic`, `chunk_no_oob`).

`Exact f s`: the chunk objects of family `f` are precisely the chunks referenced by the family's snapshots.
`RunOk`: crash-free admissible history (each snapshot's name is new at the moment it is written — it is the digest of the
stored bytes).
-/
namespace Replicat.C07
open Replicat.Repo List

/-- the storage name of a chunk is a function of (family, content) and injective in both -/
theorem name_injective (f f' : Fam) (c c' : Content) : Name.chunk f c = Name.chunk f' c' ↔ f = f' ∧ c = c' := by
  constructor
  · intro h; cases h; exact ⟨rfl, rfl⟩
  · rintro ⟨rfl, rfl⟩; rfl

/-- **One object per distinct chunk**: in every reachable (well-formed) state a given chunk (family, content) is the payload of
at most one backend object, and that object lives under the chunk's own name. -/
theorem stored_once (enc : Bool) (s : Store) (ops : List Op) (h : Consistent enc s) (hops : ∀ op ∈ ops, OpOk enc op)
    (f : Fam) (c : Content) :
    ((run enc s ops).filter (fun e => e.2 == Obj.chunk f c)).length ≤ 1 ∧
      ∀ e ∈ run enc s ops, e.2 = Obj.chunk f c → e.1 = Name.chunk f c :=
  stored_once_wf (run_consistent h hops).1 f c

/-- every command of a crash-free history keeps `Exact`, for every family -/
theorem exact_step (enc : Bool) (s : Store) (op : Op) (f : Fam) (h : Consistent enc s) (hop : OpOk enc op)
    (hfresh : FreshOp s op) (hex : Exact f s) : Exact f (step enc s op) := step_exact h hop hfresh f hex

/-- **After every crash-free history of snapshots, deletes and cleans by any users, the chunk objects of every family are
precisely the distinct chunks its snapshots reference** (from any consistent `Exact` state, in particular from `init`). -/
theorem exact_after_history (enc : Bool) (s : Store) (ops : List Op) (h : Consistent enc s) (hrun : RunOk enc s ops)
    (hex : ∀ f, Exact f s) : ∀ f, Exact f (run enc s ops) := fun f => run_exact ops s h hrun f (hex f)

theorem exact_from_init (enc : Bool) (ops : List Op) (hrun : RunOk enc initStore ops) : ∀ f, Exact f (run enc initStore ops) :=
  exact_after_history enc initStore ops (initStore_consistent enc) hrun initStore_exact

/-- **A snapshot whose chunks all exist uploads nothing.** -/
theorem repeat_uploads_nothing (u : User) (stream : List Content) (files : List FileRec) (ts sid : Nat) (s : Store)
    (hpres : ∀ c ∈ stream, (get s (.chunk u.fam c)).isSome) : (snapshot u stream files ts sid s).2 = [] :=
  snapshot_uploads_nil u stream files ts sid s hpres

/-- **Unchanged data transfers no chunk payload**: right after a snapshot of `stream` by `u`, a snapshot of the same data by the
same user, a clone or a shared-key user (`u'.fam = u.fam`) uploads nothing — whatever its file list, time stamp or name.  For any
later state in which the chunks are still present use `repeat_uploads_nothing` (hypothesis `hpres`). -/
theorem repeat_snapshot_uploads_nothing (u u' : User) (stream : List Content) (files files' : List FileRec) (ts sid ts' sid' : Nat)
    (s : Store) (hfam : u'.fam = u.fam) :
    (snapshot u' stream files' ts' sid' (snapshot u stream files ts sid s).1).2 = [] := by
  apply snapshot_uploads_nil
  intro c hc
  rw [hfam, snapshot_get_chunk, fold_get_stream u stream (s, []) hc]
  rfl

/-- **Data already uploaded by a shared-key user is reused**: whatever a user of the same family snapshots afterwards, none of
the chunks that `u`'s snapshot made present is uploaded again. -/
theorem shared_reuse (u u' : User) (stream stream' : List Content) (files files' : List FileRec) (ts sid ts' sid' : Nat)
    (s : Store) (hfam : u'.fam = u.fam) (c : Content) (hc : c ∈ stream) :
    Name.chunk u.fam c ∉ (snapshot u' stream' files' ts' sid' (snapshot u stream files ts sid s).1).2 := by
  intro hm
  obtain ⟨_, hnone⟩ := (snapshot_uploaded_iff u' stream' files' ts' sid' _ _).mp hm
  rw [snapshot_get_chunk, fold_get_stream u stream (s, []) hc] at hnone
  cases hnone

/-- **Each distinct new chunk is uploaded once**: the upload list of a snapshot has no repetition, however often a block
repeats inside the data. -/
theorem uploads_distinct (u : User) (stream : List Content) (files : List FileRec) (ts sid : Nat) (s : Store) :
    (snapshot u stream files ts sid s).2.Nodup :=
  fold_names_nodup u stream (s, []) (by simp) (by simp)

/-- **Users of independent keys never alias each other's objects**: a snapshot by `u'` only creates names of its own family
and leaves every chunk and snapshot object of another family exactly as it was. -/
theorem independent_no_alias (u u' : User) (stream : List Content) (files : List FileRec) (ts sid : Nat) (s : Store)
    (hfam : u'.fam ≠ u.fam) :
    (∀ n ∈ (snapshot u' stream files ts sid s).2, ∃ c, n = Name.chunk u'.fam c) ∧
    (∀ c, get (snapshot u' stream files ts sid s).1 (.chunk u.fam c) = get s (.chunk u.fam c)) ∧
    (∀ sid', get (snapshot u' stream files ts sid s).1 (.snap u.fam sid') = get s (.snap u.fam sid')) := by
  refine ⟨?_, ?_, ?_⟩
  · intro n hn
    obtain ⟨⟨c, _, rfl⟩, _⟩ := (snapshot_uploaded_iff u' stream files ts sid s n).mp hn
    exact ⟨c, rfl⟩
  · intro c
    rw [snapshot_get_chunk, fold_get_other]
    intro c' _ heq
    injection heq with h1 _
    exact hfam h1.symm
  · intro sid'
    exact snapshot_get_snap_other u' stream files ts sid s (by intro heq; injection heq with h1 _; exact hfam h1.symm)

/-! ## racy uploads of overlapping snapshot commands (`ReplicatModel/RepoConc.lean`)

Workers — of one snapshot command or of several overlapping ones — observe a chunk with `exists` and upload it later if it was
absent; two of them may both see one new chunk absent and both upload it.  `uploads tr i c` / `absents tr i c`: how often command
`i` uploaded chunk `c` / how often one of its workers saw it absent, in the trace `tr` of completed backend calls. -/

/-- **Racy uploads are bounded, harmless and leave exactly the referenced chunks.**  In every complete concurrent execution
of any number of snapshot commands by any users, started in a consistent repository:
1. every upload is the upload of one worker that observed the chunk absent — exactly one per such observation;
2. a command uploads one chunk at most once per worker of its pool and at most once per occurrence of the chunk in its data,
   and never uploads a chunk that was stored when the execution began;
3. every new chunk of every command is uploaded at least once (by a command of the family);
4. all uploads of one name carry the same payload (it is a function of (family, content));
5. if the snapshot names are new and pairwise different and the chunk objects were exactly the referenced ones at the start,
   they are exactly the referenced ones at the end, for every family (`Exact`). -/
theorem racy_upload_bounded (enc : Bool) (s : Store) (cmds : List SnapCmd) (tr : List Ev) (st : CState)
    (h : Consistent enc s) (hok : ∀ cmd ∈ cmds, OpOk enc cmd.op)
    (hrun : crun cmds (CState.init s cmds) tr = some st) (hdone : st.complete = true) :
    (∀ (i : Nat) cmd, cmds[i]? = some cmd → ∀ c, uploads tr i c = absents tr i c) ∧
    (∀ (i : Nat) cmd, cmds[i]? = some cmd → ∀ c,
      uploads tr i c ≤ cmd.workers ∧ uploads tr i c ≤ cmd.stream.count c ∧
        ((Repo.get s (.chunk cmd.u.fam c)).isSome → uploads tr i c = 0)) ∧
    (∀ cmd ∈ cmds, ∀ c ∈ cmd.stream, Repo.get s (.chunk cmd.u.fam c) = none →
      ∃ (j : Nat) (cmd' : SnapCmd), cmds[j]? = some cmd' ∧ cmd'.u.fam = cmd.u.fam ∧ 1 ≤ uploads tr j c) ∧
    (∀ i j n o o', Ev.upload i n o ∈ tr → Ev.upload j n o' ∈ tr → o = o') ∧
    (FreshCmds s cmds → (∀ f, Exact f s) → ∀ f, Exact f st.store) := by
  have hcount := countInv_run hrun
  have hpi := progInv_run (progInv_init s cmds) hrun
  have hci := concInv_run hok (concInv_init cmds h) hrun
  have heq : ∀ (i : Nat) cmd, cmds[i]? = some cmd → ∀ c, uploads tr i c = absents tr i c := by
    intro i cmd hc c
    obtain ⟨p, hp, _, _, hpe⟩ := complete_empty hpi hdone hc
    have := (hcount.worker i cmd p hc hp).k1 c
    rw [hpe] at this
    exact this.symm
  refine ⟨heq, ?_, ?_, ?_, ?_⟩
  · intro i cmd hc c
    obtain ⟨p, hp, _, hte, _⟩ := complete_empty hpi hdone hc
    have W := hcount.worker i cmd p hc hp
    rw [heq i cmd hc c]
    exact ⟨W.k4 c, Nat.le_trans (Nat.le_add_right _ _) (W.k5 c), W.k6 c⟩
  · intro cmd hm c hc h0
    obtain ⟨i, hi⟩ := getElem?_of_mem hm
    obtain ⟨p, hp, _, hte, hpe⟩ := complete_empty hpi hdone hi
    apply hcount.src cmd.u.fam c h0
    rw [(hci.2 i cmd p hi hp).stored hte hpe hc]
    exact Option.some_ne_none _
  · intro i j n o o' h1 h2
    obtain ⟨f, c, hn, ho⟩ := hcount.payload i n o h1
    obtain ⟨f', c', hn', ho'⟩ := hcount.payload j n o' h2
    rw [hn] at hn'
    cases hn'
    rw [ho, ho']
  · intro hfresh hex f
    have hget := (isFinal_conc h.1 (freshCmds_namesOk hfresh) hrun hdone).unique (isFinal_run enc cmds s h.1 (freshCmds_namesOk hfresh))
    exact exact_of_get_eq hget (exact_after_history enc s (cmds.map SnapCmd.op) h (runOk_of_fresh cmds s hok hfresh) hex f)

/-- owner ⟨1,1⟩ snapshots blocks [10,11,10,12] (10 repeats inside the data): three uploads; the shared-key user ⟨2,1⟩ snapshots
[11,12,13]: only 13 is uploaded; the independent user ⟨3,2⟩ uploads all of his own; a repeat by the owner uploads nothing. -/
example :
    let s1 := snapshot ⟨1, 1⟩ [10, 11, 10, 12] [] 1 100 initStore
    let s2 := snapshot ⟨2, 1⟩ [11, 12, 13] [] 2 101 s1.1
    let s3 := snapshot ⟨3, 2⟩ [10, 11] [] 3 102 s2.1
    let s4 := snapshot ⟨1, 1⟩ [10, 11, 10, 12] [] 4 103 s3.1
    s1.2 = [.chunk 1 10, .chunk 1 11, .chunk 1 12] ∧ s2.2 = [.chunk 1 13] ∧ s3.2 = [.chunk 2 10, .chunk 2 11] ∧ s4.2 = [] := by
  decide +kernel

/-- a racy execution: one command with two workers whose data repeats chunk 10, and a second command of the same family with
chunk 10 as well — three workers see 10 absent and all three upload it (the first command twice = its pool size); the trace is
accepted and complete, 10 ends up stored once.  With a pool of ONE worker the second `exists` of the first command is not
possible before its upload (rejected). -/
example :
    let cmds : List SnapCmd := [⟨⟨1, 1⟩, [10, 10, 11], [], 1, 100, 2⟩, ⟨⟨2, 1⟩, [10], [], 2, 101, 1⟩]
    let tr : List Ev := [.exists 0 10 false, .exists 1 10 false, .exists 0 10 false, .upload 0 (.chunk 1 10) (.chunk 1 10),
      .upload 1 (.chunk 1 10) (.chunk 1 10), .upload 0 (.chunk 1 10) (.chunk 1 10), .exists 0 11 false, .commit 1,
      .upload 0 (.chunk 1 11) (.chunk 1 11), .commit 0]
    (crun cmds (CState.init initStore cmds) tr).map (·.complete) = some true ∧
    uploads tr 0 10 = 2 ∧ uploads tr 1 10 = 1 ∧ absents tr 0 10 = 2 ∧
    (crun cmds (CState.init initStore cmds) tr).map (fun st => (st.store.filter (fun e => e.2 == Obj.chunk 1 10)).length) = some 1 ∧
    FreshCmds initStore cmds ∧
    (crun [⟨⟨1, 1⟩, [10, 10, 11], [], 1, 100, 1⟩] (CState.init initStore [⟨⟨1, 1⟩, [10, 10, 11], [], 1, 100, 1⟩])
      [.exists 0 10 false, .exists 0 10 false]).isNone = true := by
  decide +kernel

/-- `RunOk` is satisfiable by a history with all three kinds of commands -/
example : RunOk true initStore [.snapshot ⟨1, 1⟩ [10, 11] [⟨1, 1, [10]⟩] 1 100, .snapshot ⟨2, 1⟩ [11] [] 2 101,
    .delete ⟨1, 1⟩ [100], .clean ⟨2, 1⟩] := by
  decide +kernel

end Replicat.C07
