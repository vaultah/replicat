import ReplicatProofs.Lemmas.RetryRun
import ReplicatProofs.Lemmas.RetryCredRun
/-!
# C12 — transient backend faults are masked, persistent ones end in a bounded error

Property theorems only (helper lemmas: `Lemmas/Retry.lean`, `RetryLoop.lean`, `RetryAttempts.lean`, `RetryPolicy.lean`,
`RetryRun.lean`).  The first part is about `Retry.runUp` / `Retry.runDown` (model of `upload_stream` / `download_stream` of the
local, S3-compatible and B2 adapters under a fault plan — one fault per attempt, any kind, any position, and for the local adapter
any class of OSError: `Fault.errno k f` is fault `f` surfacing with errno `k`, e.g. `errno 2 mktemp` = ENOENT because the freshly
created directory is gone again when the temp file is created) with the configuration
`cfgOf b` that the extractor reads from the source on every run, for ALL payloads, chunk sizes ≥ 1, previous objects, previous
sink contents and fault plans.

Sessions — credentials with a lifetime on ONE long-lived B2 object (`ReplicatModel/RetryCred.lean`; helper lemmas `Lemmas/RetryCred.lean`,
`RetryCredRun.lean`): the service is stateful about which account tokens, upload URLs and upload tokens it still accepts; expiry /
revocation events happen between the operations of a history.
-/
namespace Replicat.C12
open Replicat Replicat.Retry

/-- number of tries the back-off decorator of backend `b` allows (`max_tries`) -/
abbrev budget (b : Backend) : Nat := (cfgOf b).budget

/-- a transient fault: anything but an answer with the status the decorator gives up on (403) -/
def Transient (b : Backend) (x : Fault) : Prop := StatusIn (NotGiveup (cfgOf b)) x

/-- faults outside the class that makes B2 re-authenticate: for B2 a status fault must be the plain-retry status (429) or the
give-up status (403); no restriction for the local and the S3 adapter -/
def NoReauthFault (b : Backend) (x : Fault) : Prop := StatusIn (NoReauthCode b (cfgOf b)) x

/-- The configuration extracted from the current source has the shape all theorems below rely on: every streaming method rewinds
to 0 in an except-branch that catches everything and re-raises, the local upload unlinks its temp file, downloads truncate the
sink inside the `try`, the S3 digest helper rewinds to 0 and runs outside the retry loop, every method carries its back-off
decorator with a positive `max_tries` and the error class of its adapter, no decorator has a `giveup=` predicate that singles
out a class of OSError (the local decorator has none at all: the empty table is exact), B2 methods are wrapped in `requires_auth`. -/
theorem cfg_sound (b : Backend) :
    UpSound b (cfgOf b) ∧ DownSound (cfgOf b) ∧ PolSound (cfgOf b) (cfgOf b).upDecorated ∧ PolSound (cfgOf b) (cfgOf b).downDecorated ∧
    UpAuthSound b (cfgOf b) ∧ DownAuthSound b (cfgOf b) ∧ Gen.retrySectionOk = true ∧ Gen.retryLocalGiveupExact = true := by
  cases b <;> decide

/-- **Every class of OSError is transient for the local adapter.**  Whatever errno the error carries (ENOENT, EACCES, ENOSPC,
EIO, none …): below `max_tries` the answer is a plain retry with a back-off sleep, at `max_tries` the error is raised — for the
upload and the download.  (So `masked_upload` / `masked_download` below, which quantify over all plans, cover every
`Fault.errno k f`.) -/
theorem every_oserror_class_retried (k tries rounds : Nat) :
    upPolicy .local (cfgOf .local) (.os k) tries rounds = (if tries = budget .local then .raise (.os k) false else .retry false) ∧
    downPolicy .local (cfgOf .local) (.os k) tries rounds = (if tries = budget .local then .raise (.os k) false else .retry false) := by
  obtain ⟨_, _, h3, h4, _⟩ := cfg_sound .local
  exact ⟨policy_local_os h3 k tries rounds, policy_local_os h4 k tries rounds⟩

/-- **Masked (upload).**  Fewer transient faults than `max_tries` ⇒ the call returns normally, the object is exactly the payload,
no temp file is left, the stream was read to its end, at most one attempt per fault plus one — exactly that many if every fault
of the plan fires wherever it is placed — and no intermediate state showed anything but the previous object or the payload.
(`ReauthRoom` is vacuous as long as `requires_auth` has no bound on its rounds.) -/
theorem masked_upload (b : Backend) (c : Nat) (hc : 0 < c) (data : Bytes) (old : Option Bytes) (plan : List Fault) (fuel : Nat)
    (htr : ∀ x ∈ plan, Transient b x) (hlen : plan.length < budget b) (hfuel : plan.length < fuel)
    (hroom : ReauthRoom (cfgOf b) plan.length) :
    (runUp b (cfgOf b) c fuel plan data 0 data.length old).outcome = .ok ∧
    (runUp b (cfgOf b) c fuel plan data 0 data.length old).final.visible = some data ∧
    (runUp b (cfgOf b) c fuel plan data 0 data.length old).final.temps = 0 ∧
    (runUp b (cfgOf b) c fuel plan data 0 data.length old).final.src = ⟨data, data.length⟩ ∧
    (runUp b (cfgOf b) c fuel plan data 0 data.length old).attempts ≤ plan.length + 1 ∧
    ((∀ x ∈ plan, UpHard b x) → (runUp b (cfgOf b) c fuel plan data 0 data.length old).attempts = plan.length + 1) ∧
    (∀ v ∈ (runUp b (cfgOf b) c fuel plan data 0 data.length old).history, v = old ∨ v = some data) := by
  obtain ⟨h1, _, h3, _, h5, _, _, _⟩ := cfg_sound b
  have hpart := (runUp_never_partial h1 c hc data old plan fuel).1
  rw [runUp_eq h1] at hpart ⊢
  obtain ⟨r1, r2, r3, r4⟩ := run_masked (upAttempt_spec h1 c hc data old _) h3 h5 (uinv_start data old)
    plan fuel htr hlen hfuel hroom
  exact ⟨r1, r2.2.2, r2.2.1, r2.1, r3, r4, hpart⟩

/-- **Masked (download).**  Fewer transient faults than `max_tries` ⇒ the call returns normally and the sink holds exactly the
object (whatever it held before, memory buffer or file), position at the end. -/
theorem masked_download (b : Backend) (c : Nat) (hc : 0 < c) (obj sink0 : Bytes) (file : Bool) (plan : List Fault) (fuel : Nat)
    (htr : ∀ x ∈ plan, Transient b x) (hlen : plan.length < budget b) (hfuel : plan.length < fuel)
    (hroom : ReauthRoom (cfgOf b) plan.length) :
    (runDown b (cfgOf b) c fuel plan obj sink0 0 file).outcome = .ok ∧
    (runDown b (cfgOf b) c fuel plan obj sink0 0 file).final.buf = obj ∧
    (runDown b (cfgOf b) c fuel plan obj sink0 0 file).final.pos = obj.length ∧
    (runDown b (cfgOf b) c fuel plan obj sink0 0 file).attempts ≤ plan.length + 1 ∧
    ((∀ x ∈ plan, DownHard b x) → (runDown b (cfgOf b) c fuel plan obj sink0 0 file).attempts = plan.length + 1) := by
  obtain ⟨_, h2, _, h4, _, h6, _, _⟩ := cfg_sound b
  obtain ⟨r1, r2, r3, r4⟩ := run_masked (downAttempt_spec b h2 c hc obj _) h4
    h6 (dinv_start sink0 file) plan fuel htr hlen hfuel hroom
  exact ⟨r1, r2.1, r2.2, r3, r4⟩

/-- **Never a partial object.**  For every plan, also a persistent one: after every attempt the object visible in the directory /
at the service is the previous one or the complete payload; at the end no temp file is left. -/
theorem never_partial (b : Backend) (c : Nat) (hc : 0 < c) (data : Bytes) (old : Option Bytes) (plan : List Fault) (fuel : Nat) :
    (∀ v ∈ (runUp b (cfgOf b) c fuel plan data 0 data.length old).history, v = old ∨ v = some data) ∧
    (runUp b (cfgOf b) c fuel plan data 0 data.length old).final.temps = 0 ∧
    ((runUp b (cfgOf b) c fuel plan data 0 data.length old).final.visible = old ∨
      (runUp b (cfgOf b) c fuel plan data 0 data.length old).final.visible = some data) :=
  runUp_never_partial (cfg_sound b).1 c hc data old plan fuel

/-- **No self-inflicted attempt.**  For every plan: the client never needs more attempts than faults were injected, plus one —
no attempt fails because of what an earlier attempt (or the digest pass) left behind. -/
theorem no_self_inflicted_attempt (b : Backend) (c : Nat) (hc : 0 < c) (data : Bytes) (old : Option Bytes) (sink0 : Bytes) (file : Bool)
    (plan : List Fault) (fuel : Nat) :
    (runUp b (cfgOf b) c fuel plan data 0 data.length old).attempts ≤ plan.length + 1 ∧
    (runDown b (cfgOf b) c fuel plan data sink0 0 file).attempts ≤ plan.length + 1 := by
  obtain ⟨h1, h2, _⟩ := cfg_sound b
  rw [runUp_eq h1]
  exact ⟨(loop_plan_consumed (upAttempt_spec h1 c hc data old fun _ => True) fuel 1 0 plan _ (uinv_start data old)
      (statusIn_true plan)).1,
    (loop_plan_consumed (downAttempt_spec b h2 c hc data fun _ => True) fuel 1 0 plan _ (dinv_start sink0 file) (statusIn_true plan)).1⟩

/-- **Bounded (all backends, partial for B2).**  For plans without the B2 re-authentication fault class: at most `max_tries`
attempts, upload and download.  Missing for the full statement: B2 answers with a status other than 429 / 403 — see
`b2_status_unbounded_witness`. -/
theorem bounded_partial (b : Backend) (c : Nat) (hc : 0 < c) (data : Bytes) (old : Option Bytes) (sink0 : Bytes) (file : Bool)
    (plan : List Fault) (fuel : Nat) (hcl : ∀ x ∈ plan, NoReauthFault b x) :
    (runUp b (cfgOf b) c fuel plan data 0 data.length old).attempts ≤ budget b ∧
    (runDown b (cfgOf b) c fuel plan data sink0 0 file).attempts ≤ budget b := by
  obtain ⟨h1, h2, h3, h4, h5, h6, _, _⟩ := cfg_sound b
  rw [runUp_eq h1]
  exact ⟨run_bounded (upAttempt_spec h1 c hc data old _) h3 h5 (uinv_start data old) plan fuel hcl,
    run_bounded (downAttempt_spec b h2 c hc data _) h4 h6 (dinv_start sink0 file) plan fuel hcl⟩

/-- **Persistent faults end in an error (all backends, partial for B2).**  At least `max_tries` faults that fire, none of the B2
re-authentication class ⇒ the call ends with an exception (and, by `bounded_partial`, after at most `max_tries` attempts). -/
theorem persistent_error_partial (b : Backend) (c : Nat) (hc : 0 < c) (data : Bytes) (old : Option Bytes) (sink0 : Bytes) (file : Bool)
    (fuel : Nat) (hfuel : budget b ≤ fuel) :
    (∀ plan : List Fault, (∀ x ∈ plan, NoReauthFault b x ∧ UpHard b x) → budget b ≤ plan.length →
      ∃ e, (runUp b (cfgOf b) c fuel plan data 0 data.length old).outcome = .error e) ∧
    (∀ plan : List Fault, (∀ x ∈ plan, NoReauthFault b x ∧ DownHard b x) → budget b ≤ plan.length →
      ∃ e, (runDown b (cfgOf b) c fuel plan data sink0 0 file).outcome = .error e) := by
  obtain ⟨h1, h2, h3, h4, h5, h6, _, _⟩ := cfg_sound b
  refine ⟨fun plan hcl hlen => ?_, fun plan hcl hlen => ?_⟩
  · rw [runUp_eq h1]
    exact run_persistent (upAttempt_spec h1 c hc data old _) h3 h5 (uinv_start data old) plan fuel hcl
      hlen hfuel
  · exact run_persistent (downAttempt_spec b h2 c hc data _) h4 h6 (dinv_start sink0 file) plan fuel hcl hlen hfuel

/-- **Bounded (local, S3): full.**  Every plan whatsoever: at most `max_tries` attempts. -/
theorem bounded_local_s3 (b : Backend) (hb : b ≠ .b2) (c : Nat) (hc : 0 < c) (data : Bytes) (old : Option Bytes) (sink0 : Bytes)
    (file : Bool) (plan : List Fault) (fuel : Nat) :
    (runUp b (cfgOf b) c fuel plan data 0 data.length old).attempts ≤ budget b ∧
    (runDown b (cfgOf b) c fuel plan data sink0 0 file).attempts ≤ budget b :=
  bounded_partial b c hc data old sink0 file plan fuel (fun x _ => statusIn_noReauth_of_ne_b2 b hb (cfgOf b) x)

/-- **Persistent faults end in an error (local, S3): full.** -/
theorem persistent_error_local_s3 (b : Backend) (hb : b ≠ .b2) (c : Nat) (hc : 0 < c) (data : Bytes) (old : Option Bytes) (sink0 : Bytes)
    (file : Bool) (fuel : Nat) (hfuel : budget b ≤ fuel) :
    (∀ plan : List Fault, (∀ x ∈ plan, UpHard b x) → budget b ≤ plan.length →
      ∃ e, (runUp b (cfgOf b) c fuel plan data 0 data.length old).outcome = .error e) ∧
    (∀ plan : List Fault, (∀ x ∈ plan, DownHard b x) → budget b ≤ plan.length →
      ∃ e, (runDown b (cfgOf b) c fuel plan data sink0 0 file).outcome = .error e) := by
  obtain ⟨p1, p2⟩ := persistent_error_partial b c hc data old sink0 file fuel hfuel
  exact ⟨fun plan h hl => p1 plan (fun x hx => ⟨statusIn_noReauth_of_ne_b2 b hb (cfgOf b) x, h x hx⟩) hl,
         fun plan h hl => p2 plan (fun x hx => ⟨statusIn_noReauth_of_ne_b2 b hb (cfgOf b) x, h x hx⟩) hl⟩

/-! ## B2: the re-authentication recursion (defect candidate D9) -/

/-- the B2 configuration as extracted, with the number of re-authentication rounds explicitly unbounded (what the current source
has: `requires_auth` calls itself again after every `AuthRequired`) -/
def b2Unbounded : Cfg := { cfgOf .b2 with reauthLimit := none }

/-- **Negation witness for the full `bounded` on B2.**  For EVERY n: n consecutive 500 answers (or 401 answers) to the upload are
each followed by a re-authentication and a fresh attempt — n + 1 attempts, n re-authentications, not one back-off sleep, and the
call finally succeeds; with n beyond any fuel the model is still running (never an error).  The back-off handler raises
`AuthRequired` before the try counter matters, `requires_auth` re-authenticates and calls again with a fresh counter. -/
theorem b2_status_unbounded_witness (c : Nat) (hc : 0 < c) (data : Bytes) (old : Option Bytes) (n fuel : Nat) (code : Nat)
    (hcode : code = 500 ∨ code = 503 ∨ code = 401) :
    (runUp .b2 b2Unbounded c fuel (List.replicate n (.status code false)) data 0 data.length old).outcome = (if n < fuel then .ok else .fuel) ∧
    (runUp .b2 b2Unbounded c fuel (List.replicate n (.status code false)) data 0 data.length old).attempts = min (n + 1) fuel ∧
    (runUp .b2 b2Unbounded c fuel (List.replicate n (.status code false)) data 0 data.length old).sleeps = 0 ∧
    (runUp .b2 b2Unbounded c fuel (List.replicate n (.status code false)) data 0 data.length old).reauths = min n fuel := by
  have hs : UpSound .b2 b2Unbounded := by decide
  have hg : b2Unbounded.giveupStatus ≠ some code := by rcases hcode with h | h | h <;> subst h <;> decide
  have hp : b2Unbounded.plainRetryStatus ≠ some code := by rcases hcode with h | h | h <;> subst h <;> decide
  rw [runUp_eq hs]
  exact b2_restart_run b2Unbounded hs (by decide) (by decide) (by decide) rfl (by decide) code hg hp c hc data old n fuel 0 _
    (uinv_start data old)

/-- **What a bound on the rounds buys (the candidate fix).**  With at most `l` re-authentication rounds per call, every plan —
any mixture of 5xx, 401, 429, transport errors — is answered with at most `(l + 1) · max_tries` attempts, upload and download. -/
theorem b2_bounded_with_reauth_limit (l : Nat) (c fuel : Nat) (plan : List Fault) (data : Bytes) (old : Option Bytes) (sink0 : Bytes)
    (file : Bool) :
    (runUp .b2 { cfgOf .b2 with reauthLimit := some l } c fuel plan data 0 data.length old).attempts ≤ (l + 1) * budget .b2 ∧
    (runDown .b2 { cfgOf .b2 with reauthLimit := some l } c fuel plan data sink0 0 file).attempts ≤ (l + 1) * budget .b2 := by
  have hm : ({ cfgOf .b2 with reauthLimit := some l } : Cfg).maxTries = some ({ cfgOf .b2 with reauthLimit := some l } : Cfg).budget :=
    (cfg_sound .b2).2.2.1.1
  have hb : 1 ≤ ({ cfgOf .b2 with reauthLimit := some l } : Cfg).budget := (cfg_sound .b2).2.2.1.2.1
  exact ⟨run_bounded_reauth _ hm hb l rfl fuel plan _, run_bounded_reauth _ hm hb l rfl fuel plan _⟩

/-! ## the hypotheses are needed: the same model without the rewind / truncate / unlink -/

/-- **`seek(0)` is needed.**  One fault inside the transfer, well within the budget, on the model WITHOUT the rewind:
local — the call succeeds and a partial object (the tail of the payload) becomes visible;
S3 — the retried body is short, the service refuses it, the call fails although the fault was transient;
download — the call succeeds and the sink holds the first chunks twice. -/
theorem rewind_needed :
    (runUp .local { cfgOf .local with upRewind := none } 3 10 [.mid 1] [1, 2, 3, 4, 5, 6, 7, 8, 9, 10] 0 10 none).outcome = .ok ∧
    (runUp .local { cfgOf .local with upRewind := none } 3 10 [.mid 1] [1, 2, 3, 4, 5, 6, 7, 8, 9, 10] 0 10 none).final.visible
      = some [7, 8, 9, 10] ∧
    (runUp .s3 { cfgOf .s3 with upRewind := none } 3 10 [.mid 2] [1, 2, 3, 4, 5, 6, 7, 8, 9, 10] 0 10 none).outcome
      = .error (.status 400 false) ∧
    (runDown .s3 { cfgOf .s3 with downRewind := none } 3 10 [.cut 7] [1, 2, 3, 4, 5, 6, 7, 8, 9, 10] [] 0 false).outcome = .ok ∧
    (runDown .s3 { cfgOf .s3 with downRewind := none } 3 10 [.cut 7] [1, 2, 3, 4, 5, 6, 7, 8, 9, 10] [] 0 false).final.buf
      = [1, 2, 3, 4, 5, 6, 1, 2, 3, 4, 5, 6, 7, 8, 9, 10] := by
  decide +kernel

/-- **`truncate(length)` is needed.**  Without it a sink that held more than the object keeps its tail. -/
theorem truncate_needed :
    (runDown .local { cfgOf .local with downTruncate := false } 3 10 [] [1, 2, 3, 4] [9, 9, 9, 9, 9, 9] 0 false).outcome = .ok ∧
    (runDown .local { cfgOf .local with downTruncate := false } 3 10 [] [1, 2, 3, 4] [9, 9, 9, 9, 9, 9] 0 false).final.buf
      = [1, 2, 3, 4, 9, 9] := by
  decide +kernel

/-- **`temp.unlink()` is needed.**  Without it a failed local attempt leaves its temp file in the repository. -/
theorem cleanup_needed :
    (runUp .local { cfgOf .local with upUnlink := false } 3 10 [.mid 1] [1, 2, 3, 4, 5, 6, 7, 8, 9, 10] 0 10 none).outcome = .ok ∧
    (runUp .local { cfgOf .local with upUnlink := false } 3 10 [.mid 1] [1, 2, 3, 4, 5, 6, 7, 8, 9, 10] 0 10 none).final.temps = 1 := by
  decide +kernel

/-- **An empty give-up table is needed.**  The same model with a `giveup=` predicate that singles out ENOENT: ONE fault of that
class (the directory of the object vanished before the temp file was created), with 4 tries left, ends the upload with the
error after a single attempt and stores nothing — while the same fault with any other errno is masked. -/
theorem errno_giveup_breaks_masked :
    (runUp .local { cfgOf .local with giveupOs := [2] } 3 10 [.errno 2 .mktemp] [1, 2, 3, 4, 5, 6, 7, 8, 9, 10] 0 10 none).outcome
      = .error (.os 2) ∧
    (runUp .local { cfgOf .local with giveupOs := [2] } 3 10 [.errno 2 .mktemp] [1, 2, 3, 4, 5, 6, 7, 8, 9, 10] 0 10 none).attempts = 1 ∧
    (runUp .local { cfgOf .local with giveupOs := [2] } 3 10 [.errno 2 .mktemp] [1, 2, 3, 4, 5, 6, 7, 8, 9, 10] 0 10 none).final.visible
      = none ∧
    (runUp .local { cfgOf .local with giveupOs := [2] } 3 10 [.errno 13 .mktemp] [1, 2, 3, 4, 5, 6, 7, 8, 9, 10] 0 10 none).outcome = .ok ∧
    (runDown .local { cfgOf .local with giveupOs := [2] } 3 10 [.errno 2 (.mid 1)] [1, 2, 3, 4, 5, 6, 7] [] 0 false).outcome
      = .error (.os 2) := by
  decide +kernel

/-- The fuel is never the reason for stopping: with more fuel than faults the model always reaches a verdict. -/
theorem fuel_enough (b : Backend) (c : Nat) (hc : 0 < c) (data : Bytes) (old : Option Bytes) (sink0 : Bytes) (file : Bool)
    (plan : List Fault) (fuel : Nat) (hfuel : plan.length < fuel) :
    (runUp b (cfgOf b) c fuel plan data 0 data.length old).outcome ≠ .fuel ∧
    (runDown b (cfgOf b) c fuel plan data sink0 0 file).outcome ≠ .fuel := by
  obtain ⟨h1, h2, _⟩ := cfg_sound b
  rw [runUp_eq h1]
  exact ⟨(loop_plan_consumed (upAttempt_spec h1 c hc data old fun _ => True) fuel 1 0 plan _ (uinv_start data old)
      (statusIn_true plan)).2 hfuel,
    (loop_plan_consumed (downAttempt_spec b h2 c hc data fun _ => True) fuel 1 0 plan _ (dinv_start sink0 file) (statusIn_true plan)).2 hfuel⟩

open Replicat.Cred in
/-- The configuration of the session model extracted from the current source: upload credentials are requested afresh by every
call of `_get_upload_url_token` (nothing about them is kept on the object), `upload` / `upload_stream` call it inside the body that
is retried and re-authenticated, every B2 method that talks to the service is `requires_auth(backoff_reauth(…))`, the response hook
turns a 401 into `AuthRequired` and `requires_auth` answers `AuthRequired` with `authenticate()` and another call. -/
theorem credentials_cfg_sound :
    Cred.Sound Cred.cfgB2 ∧ Gen.retryB2UploadCredsInAttempt = true ∧ Cred.cfgB2.decorated = true ∧ Cred.cfgB2.requiresAuth = true := by
  decide

open Replicat.Cred in
/-- **Expired / revoked credentials are masked, within a constant number of requests.**  Take ANY state of the service and of the
long-lived backend object — whatever account tokens, upload URLs and upload tokens were issued, have expired or were revoked, whether
the object has authenticated, knows its bucket, holds a dead account token — and any operation (upload, download of an object that
is there, exists, delete, list).  The operation returns normally with exactly what the abstract store `Name → Option Bytes` says,
the objects at the service are what the abstract store says, the service saw at most 5 requests of which at most one is a
re-authorisation, nothing slept — and the object is left with a valid account token. -/
theorem credential_expiry_masked (F : Nat) (hF : 2 ≤ F) (s : Sess) (hw : WF s) (o : Op) (hp : Present s.store o) :
    (runOp cfgB2 F o none s).1.out = .ok (specVal (specStore s.store o) o) ∧
    (runOp cfgB2 F o none s).2.store = specStore s.store o ∧
    (runOp cfgB2 F o none s).1.requests ≤ 5 ∧ (runOp cfgB2 F o none s).1.auths ≤ 1 ∧ (runOp cfgB2 F o none s).1.sleeps = 0 ∧
    WF (runOp cfgB2 F o none s).2 ∧ (runOp cfgB2 F o none s).2.acctOk = true := by
  obtain ⟨f, rfl⟩ := Nat.exists_eq_add_of_le' hF
  obtain ⟨h1, h2, h3, h4, h5, h6, _, h8⟩ := runOp_spec cfgB2 credentials_cfg_sound.1 f o s hw hp
  exact ⟨h1, h2, h3, h4, h5, h6, h8⟩

open Replicat.Cred in
/-- **A long-lived object behaves as the abstract store, whatever happens to its credentials.**  Every history of operations on one
B2 object with credential events (account tokens expire, upload URLs / tokens expire, both, upload pods are retired) anywhere between
the operations, started on a fresh object or in any other state: every operation returns what the abstract store returns, each after
at most 5 requests, at most one re-authorisation and no sleep. -/
theorem session_refines_store (F : Nat) (hF : 2 ≤ F) (steps : List Step) (s : Sess) (hw : WF s) (hok : StepsOk s.store steps) :
    (runSession cfgB2 F steps s).map (·.out) = (specSession steps s.store).map R.ok ∧
    ∀ r ∈ runSession cfgB2 F steps s, r.requests ≤ 5 ∧ r.auths ≤ 1 ∧ r.sleeps = 0 := by
  obtain ⟨f, rfl⟩ := Nat.exists_eq_add_of_le' hF
  exact runSession_spec cfgB2 credentials_cfg_sound.1 f steps s hw hok

/-- the session configuration as extracted, but with upload credentials KEPT on the object and handed out again by
`_get_upload_url_token` (and `requires_auth` unbounded, as in the source) -/
def cachedCreds : Cred.Cfg := { Cred.cfgB2 with credsFresh := false, base := b2Unbounded }

open Replicat.Cred in
/-- **Fresh upload credentials are needed.**  The same model with the pair kept on the object: in ANY state in which the object
holds upload credentials the service no longer accepts, an upload never ends — for every fuel `F + 1` the model is still running
after `F + 1` attempts and `F + 1` authorisations (each re-authentication renews the account token only, the dead upload token is
presented again) — and nothing is stored.  ONE upload followed by ONE expiry event leaves such a state: with the pair kept, the
history upload ; ⟨upload credentials expire⟩ ; upload does not get past its second upload, with the extracted configuration both
uploads return. -/
theorem cached_upload_credentials_unbounded_witness (F n : Nat) (d : Bytes) (s : Sess) (u : Nat)
    (hq : Quiet s) (hau : s.authed = true) (hu : s.upCred = some u) (hx : u < s.upLive) :
    (uploadOp cachedCreds (F + 1) n d s).1 = .fuel ∧ (uploadOp cachedCreds (F + 1) n d s).2.store = s.store ∧
    (uploadOp cachedCreds (F + 1) n d s).2.auths = s.auths + (F + 1) ∧
    (runSession cachedCreds 8 [.op (.upload 0 [1, 2]) none, .ev .expireUpload, .op (.upload 1 [3]) none] (Sess.init false)).map (·.out)
      = [.ok .unit, .fuel] ∧
    (runSession cfgB2 8 [.op (.upload 0 [1, 2]) none, .ev .expireUpload, .op (.upload 1 [3]) none] (Sess.init false)).map (·.out)
      = [.ok .unit, .ok .unit] := by
  have hpol : ∀ rounds, cachedCreds.pol .auth 1 rounds = .reauth false := by
    intro rounds
    show policy .b2 cachedCreds.base cachedCreds.decorated cachedCreds.requiresAuth .auth 1 rounds = _
    rw [policy_auth]
    exact viaAuth_pos rfl false
  obtain ⟨r1, r2, r3, _⟩ := stale_upload cachedCreds rfl (by decide) hpol n d u F s hq hau hu hx
  exact ⟨r1, r2, r3, by decide +kernel, by decide +kernel⟩

open Replicat.Cred in
/-- a history with every kind of credential event between operations satisfies the hypothesis of `session_refines_store`, and the
model needs re-authorisations to get through it (the events bite) -/
example : StepsOk (Sess.init false).store
      [.op (.upload 0 [1, 2]) none, .ev .expireAll, .op (.upload 1 [3]) none, .ev .expireUpload, .op (.upload 0 [4]) none,
       .ev .retirePods, .op (.download 0) none, .ev .expireAccount, .op (.list 3) none, .op (.delete 1) none, .op (.exists 1) none] ∧
    (runSession cfgB2 5 [.op (.upload 0 [1, 2]) none, .ev .expireAll, .op (.upload 1 [3]) none, .ev .expireUpload, .op (.upload 0 [4]) none,
       .ev .retirePods, .op (.download 0) none, .ev .expireAccount, .op (.list 3) none, .op (.delete 1) none, .op (.exists 1) none]
       (Sess.init false)).map (fun r => (r.requests, r.auths)) = [(4, 1), (4, 1), (2, 0), (1, 0), (3, 1), (1, 0), (1, 0)] := by
  refine ⟨⟨rfl, trivial, rfl, trivial, rfl, trivial, rfl, rfl, rfl, trivial, rfl, trivial, rfl, trivial, trivial⟩, by decide +kernel⟩

/-- the hypotheses of `masked_upload` are satisfiable with faults strictly inside the transfer, and its conclusion is what the
model computes -/
example : (∀ x ∈ [Fault.mid 1, Fault.mid 2, Fault.rename], Transient .local x) ∧ [Fault.mid 1, Fault.mid 2, Fault.rename].length < budget .local ∧
    (runUp .local (cfgOf .local) 3 10 [.mid 1, .mid 2, .rename] [1, 2, 3, 4, 5, 6, 7, 8, 9, 10] 0 10 (some [0])).attempts = 4 ∧
    (runUp .local (cfgOf .local) 3 10 [.mid 1, .mid 2, .rename] [1, 2, 3, 4, 5, 6, 7, 8, 9, 10] 0 10 (some [0])).final.visible
      = some [1, 2, 3, 4, 5, 6, 7, 8, 9, 10] := by
  refine ⟨?_, by decide +kernel, by decide +kernel, by decide +kernel⟩
  intro x _ code ra h
  exact fun h' => by cases h'

/-- OSErrors of different classes at different places of a local transfer (ENOENT when the temp file is created, ENOSPC in the
middle of the copy, EACCES from the rename, an OSError without errno from the payload stream): masked, one attempt per fault -/
example : (∀ x ∈ [Fault.errno 2 .mktemp, .errno 28 (.mid 1), .errno 13 .rename, .errno 0 (.src 2)], Transient .local x) ∧
    (∀ x ∈ [Fault.errno 2 .mktemp, .errno 13 .rename], UpHard .local x) ∧
    (runUp .local (cfgOf .local) 3 10 [.errno 2 .mktemp, .errno 28 (.mid 1), .errno 13 .rename, .errno 0 (.src 2)]
      [1, 2, 3, 4, 5, 6, 7, 8, 9, 10] 0 10 none).attempts = 5 ∧
    (runUp .local (cfgOf .local) 3 10 [.errno 2 .mktemp, .errno 28 (.mid 1), .errno 13 .rename, .errno 0 (.src 2)]
      [1, 2, 3, 4, 5, 6, 7, 8, 9, 10] 0 10 none).final.visible = some [1, 2, 3, 4, 5, 6, 7, 8, 9, 10] ∧
    (runUp .local (cfgOf .local) 3 10 (List.replicate 7 (.errno 2 .mktemp)) [1, 2, 3, 4] 0 4 none).outcome = .error (.os 2) ∧
    (runUp .local (cfgOf .local) 3 10 (List.replicate 7 (.errno 2 .mktemp)) [1, 2, 3, 4] 0 4 none).attempts = budget .local ∧
    (runDown .local (cfgOf .local) 3 10 [.errno 2 .pre, .errno 116 (.mid 1)] [1, 2, 3, 4, 5, 6, 7] [8, 8] 0 true).final.buf
      = [1, 2, 3, 4, 5, 6, 7] := by
  refine ⟨?_, ?_, by decide +kernel, by decide +kernel, by decide +kernel, by decide +kernel, by decide +kernel⟩
  · intro x _ code ra h
    exact fun h' => by cases h'
  · intro x hx
    simp only [List.mem_cons, List.not_mem_nil, or_false] at hx
    rcases hx with rfl | rfl <;> exact trivial

/-- mixed B2 plan within the budget (429, a broken connection, a 500 that triggers one re-authentication): masked -/
example : (runUp .b2 (cfgOf .b2) 3 10 [.status 429 false, .mid 2, .status 500 false] [1, 2, 3, 4, 5, 6, 7] 0 7 none).outcome = .ok ∧
    (runUp .b2 (cfgOf .b2) 3 10 [.status 429 false, .mid 2, .status 500 false] [1, 2, 3, 4, 5, 6, 7] 0 7 none).reauths = 1 ∧
    (runDown .b2 (cfgOf .b2) 3 10 [.cut 4, .status 401 false] [1, 2, 3, 4, 5, 6, 7] [8, 8] 0 true).final.buf = [1, 2, 3, 4, 5, 6, 7] := by
  decide +kernel

/-- persistent faults: the S3 upload gives up after exactly `max_tries` attempts with the last error -/
example : (runUp .s3 (cfgOf .s3) 3 10 (List.replicate 9 (.status 503 false)) [1, 2, 3, 4] 0 4 none).attempts = budget .s3 ∧
    (runUp .s3 (cfgOf .s3) 3 10 (List.replicate 9 (.status 503 false)) [1, 2, 3, 4] 0 4 none).outcome = .error (.status 503 false) := by
  decide +kernel

end Replicat.C12
