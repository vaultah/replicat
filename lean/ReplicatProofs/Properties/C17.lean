import ReplicatProofs.Lemmas.Settings
import ReplicatProofs.Lemmas.SettingsKeyFile
import ReplicatProofs.Lemmas.SettingsCli
/-!
# C17 — accepted settings always yield a usable repository and working keys

Model: `ReplicatModel/Settings.lean` (`Repository.init`, `add_key`, `adapters.from_config`, the adapter constructors with
their guards regenerated from `/repo` as `Gen.adapterTable`, the statement order of `init` regenerated as
`Gen.initStages`).  All theorems are for EVERY settings dictionary of the typed universe (int, bool, float, NaN, str, None,
mapping; unknown keys, any adapter name in any slot) and every chain of add-key invocations.

* `accept_implies_usable` holds for a source that validates the hashing and chunking slots (`d12FixedInSource`, read off the
  regenerated tables: defect candidates D12).  Without that validation it is false: the `*_witness` theorems are its negation
  at concrete settings, each under the hypothesis that the guard in question is missing (each was replayed on the real code by
  the harness), and `accept_implies_usable_partial` proves it on the rest of the space, with the excluded region spelled out
  as the decidable predicate `checkedElsewhere` (`init` never exercises the hasher and exercises the chunker only to draw its
  key, so without guards of their own hashing / chunking parameters and adapter kinds reach the stored config unchecked).
* `reject_leaves_backend`, `accept_uploads_config_once` — full.
* `addkey_unlocks_own_only`, `addkey_shared_keeps_family`, `addkey_accept_implies_kdf_usable` — full (symbolic KDF / AEAD).
* `keyfile_*` — the key file ON DISK (`-o PATH`) as a later process reads it, for every pre-existing state of the path
  (`ReplicatModel/KeyFileIO.lean`; the way the path is opened is regenerated from `/repo`: `key_write_bridge`).
-/
namespace Replicat.C17
open Replicat.Gen Replicat.Settings

/-- The statement order of `Repository.init` found in the source is the one the proofs below are about: validation, config,
adapter instantiation, (encrypted:) password check, key, key derivation, encryption of the private part — and only then
the upload of the config.  Moving the upload (or any other statement) in `/repo` makes this fail. -/
theorem init_order_bridge : initStages = canonicalStages := by decide +kernel

/-- `add_key` / `_add_key` contain no mutating backend call. -/
theorem addkey_leaves_backend : addKeyUploads = false := by decide +kernel

/-- `_make_key` would also read `encryption.mac` and `encryption.shared_kdf` (and never checks them: the MAC and the shared
KDF are not run by `init`).  The schema of `_validate_init_settings` makes them unreachable, which is why the model's key
generation uses the class defaults; widening the schema in `/repo` breaks this theorem. -/
theorem validated_settings_have_no_hidden_key_options (s : Settings) (h : validateInit s = .ok ())
    (enc : List (String × V2)) (he : encryptionSettings s = .ok (some enc)) :
    enc.lookup "mac" = none ∧ enc.lookup "shared_kdf" = none :=
  ⟨validated_encryption_keys h he (by decide +kernel), validated_encryption_keys h he (by decide +kernel)⟩

/-- **Every rejection precedes the config upload.**  Whatever the settings and whether or not a password is given: if `init`
raises, nothing has been uploaded. -/
theorem reject_leaves_backend (s : Option Settings) (pw : Bool) (h : accept s pw = false) :
    (runInit s pw).1.puts = [] := by
  rw [runInit_puts init_order_bridge, h]
  rfl

/-- An accepted `init` uploads exactly one object, the config. -/
theorem accept_uploads_config_once (s : Option Settings) (pw : Bool) (h : accept s pw = true) :
    (runInit s pw).1.puts = ["config"] := by
  rw [runInit_puts init_order_bridge, h]
  rfl

/-- **Accepted settings are usable — on the part of the settings space where it is true.**
`checkedElsewhere s` (decidable, a predicate on the INPUT): the hashing section names a hash adapter with a digest size the
library accepts (and ≥ `minDigestBytes`), the chunking section names the chunker with integer lengths 1 ≤ min ≤ max.
Everything else `usable` demands — the cipher slot holds an AEAD cipher with an AES key size and a nonce of 8…128 bytes,
the key file's KDF is a KDF with parameters scrypt accepts — follows from acceptance alone, because `init` runs the
cipher and the KDF once before it uploads. -/
theorem accept_implies_usable_partial (s : Option Settings) (pw : Bool)
    (hacc : accept s pw = true) (hreg : checkedElsewhere s = true) : usable (runInit s pw).1 = true := by
  obtain ⟨cfg, props, hmk, hinst, hcfg, hbranch⟩ := accepted_went s pw _ (accepted_run init_order_bridge hacc)
  obtain ⟨kvh, kvc, h1, h2, h3, h4, hcipher⟩ := makeConfig_ok hmk
  -- the hashing and chunking slots of the config are the ones `checkedElsewhere` looked at
  simp only [checkedElsewhere, hashingInputOk, chunkingInputOk, h1, h2, h3, h4, Bool.and_eq_true] at hreg
  obtain ⟨hH, hC⟩ := hreg
  obtain ⟨hcc, _, _⟩ := instantiateConfig_ok hinst
  simp only [usable, St.config, hcfg, hH, hC, Bool.true_and, St.key]
  rcases constructCipher_ok hcc with ⟨hnone, _⟩ | ⟨row, args, c, hsome, hcon, hpc⟩
  · rw [hnone]
  · rw [hsome]
    obtain ⟨kdf, k, hmkey, hder, hencr, hkey⟩ := hbranch c hpc
    have hcu := cipher_usable_of (hcipher _ hsome) hcon hencr
    have hku := kdf_usable_of (makeKey_mem hmkey) hder
    simp only [hcu, hkey, hku, Bool.and_self]

/-- **The full statement, for a source that validates the hashing and chunking slots.**  `d12FixedInSource` (decidable, computed
from the regenerated tables) says: `blake2b.__init__` and `gclmulchunker.__init__` start with the validating guards and
`_make_config` checks the adapter kind of the hashing and chunking slots.  For a source without these checks it is false and this
theorem says nothing; `accept_implies_usable` below discharges it for the extracted source.  (For another shape of validation use
`checkedElsewhere_of_source_checks`, whose hypotheses are semantic.) -/
theorem accept_implies_usable_if_fixed (hfix : d12FixedInSource = true) (s : Option Settings) (pw : Bool)
    (hacc : accept s pw = true) : usable (runInit s pw).1 = true := by
  simp only [d12FixedInSource, Bool.and_eq_true, decide_eq_true_eq, beq_iff_eq] at hfix
  obtain ⟨⟨⟨hgb, hgc⟩, hk1⟩, hk2⟩ := hfix
  apply accept_implies_usable_partial s pw hacc
  refine checkedElsewhere_of_source_checks hk1 hk2 ?_ ?_ s pw _ (accepted_run init_order_bridge hacc)
  · rw [hgb]
    exact blake2bFix_sound
  · rw [hgc]
    exact chunkerFix_sound

/-! Negation witnesses for a source without the validation of D12, each also replayed on the real code.  Each says in its
hypothesis which validation is missing: for such a source the theorem is the negation of `accept_implies_usable` at that input.
The extracted source has the validation, so every one of these hypotheses is false for it. -/

def witHashLength : Option Settings :=
  some [("hashing", .m [("length", .val (.int 100))]), ("encryption", .m [("kdf", .args [("n", .val (.int 4))])])]
def witHashWrongKind : Option Settings :=
  some [("hashing", .m [("name", .val (.str "aes_gcm"))]), ("encryption", .m [("kdf", .args [("n", .val (.int 4))])])]
def witChunkNegative : Option Settings :=
  some [("chunking", .m [("min_length", .val (.int (-5))), ("max_length", .val (.int 8))]),
        ("encryption", .m [("kdf", .args [("n", .val (.int 4))])])]
def witChunkFloat : Option Settings :=
  some [("chunking", .m [("min_length", .val (.float ((3 : Rat) / 2))), ("max_length", .val (.int 8))]), ("encryption", .val .none)]
def witChunkZero : Option Settings :=
  some [("chunking", .m [("min_length", .val (.int 0)), ("max_length", .val (.int 0))]), ("encryption", .val .none)]
def witChunkWrongKind : Option Settings :=
  some [("chunking", .m [("name", .val (.str "blake2b"))]), ("encryption", .val .none)]
def witDigestOneByte : Option Settings :=
  some [("hashing", .m [("length", .val (.int 1))]), ("encryption", .val .none)]

/-- `hashing.length = 100` is accepted (config uploaded); `hashlib.blake2b` takes at most 64 bytes. -/
theorem hash_length_witness : guardCount "blake2b" = 0 →
    accept witHashLength true = true ∧ usable (runInit witHashLength true).1 = false ∧ checkedElsewhere witHashLength = false := by
  decide +kernel

/-- any adapter name is accepted in the hashing slot: `hashing.name = "aes_gcm"`. -/
theorem hash_wrong_kind_witness : kindChecked "hashing" = false →
    accept witHashWrongKind true = true ∧ usable (runInit witHashWrongKind true).1 = false ∧
    checkedElsewhere witHashWrongKind = false := by
  decide +kernel

/-- negative / non-integer / zero chunk lengths are accepted. -/
theorem chunk_lengths_witness : guardCount "gclmulchunker" = 1 →
    (accept witChunkNegative true = true ∧ usable (runInit witChunkNegative true).1 = false) ∧
    (accept witChunkFloat true = true ∧ usable (runInit witChunkFloat true).1 = false) ∧
    (accept witChunkZero true = true ∧ usable (runInit witChunkZero true).1 = false) := by
  decide +kernel

/-- a non-chunker in the chunking slot is accepted when the repository is unencrypted (an encrypted `init` happens to call
`chunker.generate_chunking_params()` and fails before the upload). -/
theorem chunk_wrong_kind_witness : kindChecked "chunking" = false →
    accept witChunkWrongKind true = true ∧ usable (runInit witChunkWrongKind true).1 = false ∧
    accept (some [("chunking", .m [("name", .val (.str "blake2b"))])]) true = false := by
  decide +kernel

/-- a one-byte digest is accepted: chunk names are digests, so any 257 chunks collide. -/
theorem digest_too_short_witness : guardCount "blake2b" = 0 →
    accept witDigestOneByte true = true ∧ usable (runInit witDigestOneByte true).1 = false := by
  decide +kernel

/-- the cipher and KDF slots, in contrast, ARE covered by acceptance alone: the same kinds of junk are refused. -/
theorem cipher_kdf_junk_rejected :
    accept (some [("encryption", .m [("cipher", .args [("name", .val (.str "blake2b"))]), ("kdf", .args [("n", .val (.int 4))])])]) true = false ∧
    accept (some [("encryption", .m [("cipher", .args [("key_bits", .val (.float 256))]), ("kdf", .args [("n", .val (.int 4))])])]) true = false ∧
    accept (some [("encryption", .m [("cipher", .args [("nonce_bits", .val (.int 1032))]), ("kdf", .args [("n", .val (.int 4))])])]) true = false ∧
    accept (some [("encryption", .m [("kdf", .args [("n", .val (.int 3))])])]) true = false ∧
    accept (some [("encryption", .m [("kdf", .args [("n", .val (.int 4)), ("r", .val (.int 0))])])]) true = false ∧
    accept (some [("encryption", .m [("kdf", .args [("n", .val (.int 4))])])]) false = false := by
  decide +kernel

/-- Whatever KDF settings `add_key` accepts (independent, shared or clone; any repository), the new key file's KDF section
is one the library can run again: a fresh process can derive the user key. -/
theorem addkey_accept_implies_kdf_usable (s : Option Settings) (pw shared unlocked : Bool) (props : Props) (k : KeyMat)
    (h : addKey s pw shared unlocked props = .ok k) : kdfUsable (k.userKdf.row, k.userKdf.args) = true := by
  obtain ⟨c, kdf, hmk, hder⟩ := addKey_ok h
  exact kdf_usable_of (makeKey_mem hmk) hder

/-- **Every key produced by `init` or by any chain of add-key invocations (independent, shared, clone; any KDF parameters,
refused ones included; right or wrong unlocking passwords) unlocks with its own password and with no other.** -/
theorem addkey_unlocks_own_only {κ : Type} [DecidableEq κ] (valid : κ → Bool) (pw0 : Pw) (kdf0 : κ) (ops : List (KeyOp κ))
    (k : KeyFile κ) (p : Pw) (hk : (k, p) ∈ (runKeyOps valid (initRing pw0 kdf0) ops).keys) (p' : Pw) :
    (unlockKey k p').isSome = true ↔ p' = p := by
  exact unlockKey_sealed_iff (ringOk_run valid ops (ringOk_init pw0 kdf0) (k, p) hk) p'

/-- a shared / cloned key carries the secrets of the key it was made from (and is only made if that key was unlocked with
the right password); nothing else changes -/
theorem addkey_shared_keeps_family {κ : Type} [DecidableEq κ] (valid : κ → Bool) (r : Ring κ) (i : Nat) (upw pw : Pw) (kdf : κ)
    (k : KeyFile κ) (p : Pw) (hi : r.keys[i]? = some (k, p)) :
    stepKey valid r (.shared i upw pw kdf) =
      if (unlockKey k upw).isSome ∧ valid kdf = true
      then { keys := r.keys ++ [(mkKey kdf r.next pw k.family, pw)], next := r.next + 1 } else r := by
  by_cases hu : (⟨k.kdf, k.salt, upw⟩ : UserKey κ) = k.sealedWith
  · have h1 : unlockKey k upw = some k.family := if_pos hu
    simp only [stepKey, hi, h1]
    cases valid kdf <;> rfl
  · have h1 : unlockKey k upw = none := if_neg hu
    simp only [stepKey, hi, h1]
    rfl

/-- the default settings (None), an explicit encrypted lattice point and an unencrypted one are accepted, lie in the region of
the partial theorem and are usable -/
example : accept none true = true ∧ checkedElsewhere none = true ∧ usable (runInit none true).1 = true := by decide +kernel

example :
    let s : Option Settings := some [("hashing", .m [("name", .val (.str "sha2")), ("bits", .val (.int 256))]),
      ("chunking", .m [("min_length", .val (.int 4)), ("max_length", .val (.int 8))]),
      ("encryption", .m [("cipher", .args [("name", .val (.str "chacha20_poly1305"))]), ("kdf", .args [("n", .val (.int 4))])])]
    accept s true = true ∧ checkedElsewhere s = true ∧ usable (runInit s true).1 = true ∧ (runInit s true).1.puts = ["config"] := by
  decide +kernel

example : accept (some [("encryption", .val .none)]) false = true ∧ checkedElsewhere (some [("encryption", .val .none)]) = true := by
  decide +kernel

/-- a chain: init(pw 0), independent(pw 1), shared from #0 with the right password (pw 2), clone of #1 with a WRONG password
(nothing produced), clone of #1 with the right one -/
example :
    let r := runKeyOps (fun (_ : Nat) => true) (initRing 0 (10 : Nat))
      [.independent 1 11, .shared 0 0 2 12, .clone 1 7 13, .clone 1 1 14]
    r.keys.map (fun kp => (kp.1.family, kp.2)) = [(1, 0), (3, 1), (1, 2), (3, 1)] := by
  decide +kernel

/-- The statement that stores the key in `init` and in `_add_key` discards whatever the output path held (it truncates, or
renames a finished temporary file onto the path), and it comes after the last statement that can refuse the settings.
Regenerated from `/repo` (`tools/sections/17_settings.py`, helper methods are followed): opening the path without
truncation, appending or `'x'` makes this fail. -/
theorem key_write_bridge :
    overwrites keyWriteInit = true ∧ overwrites keyWriteAddKey = true ∧ keyWriteAfterChecks = true := by decide +kernel

/-- **Whatever the output path held before** (nothing, a shorter / longer / equally long earlier key file, anything else):
after an add-key invocation that produced a key, the path holds exactly the serialisation of that key. -/
theorem keyfile_holds_serialized_key {κ α : Type} [DecidableEq κ] (ser : KeyFile κ → List α) (valid : κ → Bool)
    (d : KeyDisk κ α) (o : KeyOpAt κ) (p : Nat) (kp : KeyFile κ × Pw) (nx : Nat)
    (hprod : producedKey valid d.ring o.op = some (kp, nx)) (hout : o.out = some p) :
    (stepDisk keyWriteAddKey ser valid d o).files.lookup p = some (ser kp.1) := by
  unfold stepDisk
  simp only [hprod, hout, writeBytes_overwrites keyWriteAddKey key_write_bridge.2.1]
  simp only [List.lookup_cons_self]

/-- the same for `init -o PATH`: it succeeds over any earlier file and the path then holds the serialised first key -/
theorem keyfile_init_holds_serialized_key {κ α : Type} (ser : KeyFile κ → List α) (files0 : List (Nat × List α))
    (pw : Pw) (kdf : κ) (p : Nat) :
    ∃ d, initDisk keyWriteInit ser files0 pw kdf (some p) = some d ∧ d.files.lookup p = some (ser (mkKey kdf 0 pw 1)) := by
  simp only [initDisk, writeBytes_overwrites keyWriteInit key_write_bridge.1]
  exact ⟨_, rfl, by simp only [List.lookup_cons_self]⟩

/-- **A fresh process that reads a key file from disk unlocks the repository with that key's own password and with no
other** — for every chain of `init -o` / add-key invocations (independent, shared, clone; any KDF parameters, refused ones
included; right or wrong unlocking passwords; key printed or written to any path, the same path any number of times) over
EVERY pre-existing content `files0` of the output paths.  `parse ∘ ser = some` is the JSON round trip of
`serialize` / `deserialize` (validated by the harness on the real files); KDF / AEAD are symbolic as in `addkey_unlocks_own_only`. -/
theorem keyfile_fresh_load_unlocks_own_only {κ α : Type} [DecidableEq κ] (ser : KeyFile κ → List α)
    (parse : List α → Option (KeyFile κ)) (hparse : ∀ k, parse (ser k) = some k) (valid : κ → Bool)
    (files0 : List (Nat × List α)) (pw0 : Pw) (kdf0 : κ) (out0 : Option Nat) (ops : List (KeyOpAt κ)) :
    ∃ d0, initDisk keyWriteInit ser files0 pw0 kdf0 out0 = some d0 ∧
      ∀ p k pw, (runDisk keyWriteAddKey ser valid d0 ops).holder.lookup p = some (k, pw) →
        ∀ pw', (freshLoad parse (runDisk keyWriteAddKey ser valid d0 ops).files p pw').isSome = true ↔ pw' = pw := by
  obtain ⟨d0, hd0, hok0⟩ := diskOk_init keyWriteInit key_write_bridge.1 ser files0 pw0 kdf0 out0
  refine ⟨d0, hd0, ?_⟩
  intro p k pw hh pw'
  have hok := diskOk_run keyWriteAddKey key_write_bridge.2.1 ser valid ops d0 hok0
  obtain ⟨hfile, hmem⟩ := hok.2 p (k, pw) hh
  simp only [freshLoad, hfile, hparse]
  exact unlockKey_sealed_iff (hok.1 (k, pw) hmem) pw'

/-- writing key files does not change which keys exist: the ring is the one of the plain chain of `addkey_unlocks_own_only` -/
theorem keyfile_chain_is_addkey_chain {κ α : Type} [DecidableEq κ] (ser : KeyFile κ → List α) (valid : κ → Bool)
    (d : KeyDisk κ α) (ops : List (KeyOpAt κ)) :
    (runDisk keyWriteAddKey ser valid d ops).ring = runKeyOps valid d.ring (ops.map (·.op)) :=
  ring_runDisk keyWriteAddKey key_write_bridge.2.1 ser valid ops d

/-- a refused add-key (wrong unlocking password, KDF parameters the library rejects) leaves every file as it was — an
earlier working key at the output path keeps working; and a successful one changes no other path -/
theorem keyfile_frame {κ α : Type} [DecidableEq κ] (m : WriteMode) (ser : KeyFile κ → List α) (valid : κ → Bool)
    (d : KeyDisk κ α) (o : KeyOpAt κ) :
    (producedKey valid d.ring o.op = none → (stepDisk m ser valid d o).files = d.files) ∧
    (∀ q, o.out ≠ some q → (stepDisk m ser valid d o).files.lookup q = d.files.lookup q) := by
  constructor
  · intro h
    simp only [stepDisk, h]
  · intro q hq
    unfold stepDisk
    cases producedKey valid d.ring o.op with
    | none => rfl
    | some kn =>
      obtain ⟨kp, nx⟩ := kn
      cases ho : o.out with
      | none => rfl
      | some p =>
        dsimp only
        cases writeBytes m (d.files.lookup p) (ser kp.1) with
        | error e => rfl
        | ok c =>
          have : (q == p) = false := beq_eq_false_iff_ne.mpr fun h => hq (ho.trans (congrArg some h.symm))
          simp only [List.lookup_cons, this]

/-- Negation witness for a key-file statement that does not truncate (`os.open(path, O_WRONLY | O_CREAT)`, `'r+b'`): over a
LONGER earlier file the tail survives, the path does not hold the serialised key, and a strict parser (`json.loads`:
"Extra data") gives a fresh process nothing to unlock with. -/
theorem inplace_write_keeps_tail {κ α : Type} [DecidableEq κ] (ser : KeyFile κ → List α) (parse : List α → Option (KeyFile κ))
    (k : KeyFile κ) (tail : List α) (hne : tail ≠ []) (hstrict : parse (ser k ++ tail) = none) (pw : Pw) :
    writeBytes .inPlace (some (ser k ++ tail)) (ser k) = .ok (ser k ++ tail) ∧
    writeBytes .inPlace (some (ser k ++ tail)) (ser k) ≠ .ok (ser k) ∧
    freshLoad parse [(0, ser k ++ tail)] 0 pw = none := by
  refine ⟨by simp only [writeBytes, List.drop_left'], ?_, by simp only [freshLoad, List.lookup_cons_self, hstrict]⟩
  simp only [writeBytes, List.drop_left, ne_eq, Except.ok.injEq]
  intro h
  exact hne (List.append_right_eq_self.mp h)

/-- non-vacuity: init writes to path 7 over a longer file, add-key --shared replaces it in place (same path), an independent
key goes to path 8 over garbage; both paths then load in a fresh process with their own passwords only -/
example :
    let ser : KeyFile Nat → List Nat := fun k => [k.kdf, k.salt, k.sealedWith.pw, k.family]
    let parse : List Nat → Option (KeyFile Nat) := fun
      | [a, b, c, d] => some ⟨a, b, ⟨a, b, c⟩, d⟩
      | _ => none
    let d := (initDisk keyWriteInit ser [(7, [1, 2, 3, 4, 5, 6, 7]), (8, [9])] 0 10 (some 7)).map
      (fun d0 => runDisk keyWriteAddKey ser (fun _ => true) d0 [⟨.shared 0 0 2 11, some 7⟩, ⟨.shared 0 5 3 12, some 7⟩, ⟨.independent 1 13, some 8⟩])
    d.map (fun d => ((List.range 4).map (fun pw => (freshLoad parse d.files 7 pw).isSome), (List.range 4).map (fun pw => (freshLoad parse d.files 8 pw).isSome)))
      = some ([false, false, true, false], [false, true, false, false]) := by
  decide +kernel

/-- **Accepted settings are usable** (full statement).  On the current `/repo` (fix c31bfee: kind checks in `_make_config`,
range / type guards in `blake2b.__init__` and `gclmulchunker.__init__`) the hypothesis of `accept_implies_usable_if_fixed` is
discharged from the regenerated adapter table by `decide`; if the guards are removed or weakened this proof stops compiling. -/
theorem accept_implies_usable (s : Option Settings) (pw : Bool) (hacc : accept s pw = true) :
    usable (runInit s pw).1 = true :=
  accept_implies_usable_if_fixed (by decide +kernel) s pw hacc

/-! ## custom settings WRITTEN ON THE COMMAND LINE (`replicat init … --encryption.kdf.n 16 --hashing.name blake2b`)

Model: `ReplicatModel/SettingsCli.lean` — `parse_cli_settings` (the loop as written), `guess_type` on a decidable fragment of
texts, `flat_to_nested` (sorted items, split on the separator, `setdefault` descent, `Conflicting options`), and the part of
`main()` between the second parse and the handler.  The theorems with a parameter `g` hold for EVERY coercion function
whose results are scalars (so also for the real `guess_type` wherever it returns a scalar); `cliMain` uses the modelled one. -/
section Cli
open Replicat.SettingsCli

/-- **The extracted shape facts.**  The loop of `parse_cli_settings` (prefix test, pending-flag bookkeeping, the key
normalisation chain, the coercion), `flat_to_nested` (separator, `sorted`, descent inside `try`, the two exception classes
that mean a scalar/dict clash, the error raised), `guess_type` (title-cased words, evaluator, fallback) and the chain in
`main()` (unknown arguments of the second parse → `parse_cli_settings` → `flat_to_nested` only if nothing is left unknown →
`main_parser.error` → handler, for exactly `init` / `add-key` / `benchmark`, each handing `settings=` on) are what the model
was written against.  Regenerated from `/repo` on every run; any other shape makes this fail. -/
theorem cli_shape_bridge :
    (cliLoopRecognised = true ∧ cliFlagPrefix = ['-', '-'] ∧ cliKeyOps = [.lstrip ['-'], .replace '-' '_'] ∧
      cliCoercion = "guess_type") ∧
    (flatDescentRecognised = true ∧ flatSep = '.' ∧ flatSorted = true ∧
      flatConflictCatches = ["AttributeError", "TypeError"] ∧ flatConflictRaises = "ReplicatError") ∧
    (guessRecognised = true ∧ guessTitleWords = ["false".toList, "none".toList, "true".toList] ∧
      guessEval = "ast.literal_eval" ∧ guessCatches = ["SyntaxError", "ValueError"]) ∧
    (mainChainRecognised = true ∧
      mainCliChain = [.secondParse, .settingsNone, .parseCliSettings, .flatToNestedIfClean, .errorIfUnknown, .runHandler] ∧
      mainSettingsActions = ["add-key", "benchmark", "init"] ∧
      mainHandlerPassesSettings = [("add-key", "add_key"), ("benchmark", "benchmark"), ("init", "init")]) := by
  decide +kernel

/-- **Nothing is dropped silently.**  Whatever the argument list: the arguments are, as a multiset, exactly the flag/value
pairs (a flag immediately followed by a non-flag) together with the `unknown` list; the mapping is the dict of those pairs
(key normalised, value coerced ONCE, a repeated key keeps its LAST value); and every pair is a flag followed by a value. -/
theorem cli_settings_unknown_sound {β : Type} (g : Str → β) (args : List Str) :
    args.Perm ((cliPairs args).flatMap (fun p => [p.1, p.2]) ++ (parseWith g args).2) ∧
    (parseWith g args).1 = toDict ((cliPairs args).map (fun p => (normKey p.1, g p.2))) ∧
    (∀ p ∈ cliPairs args, isFlag p.1 = true ∧ isFlag p.2 = false) := by
  rw [parseWith_spec]
  exact ⟨cli_perm args, rfl, cliPairs_flags args⟩

/-- **Looking a dotted key up in the settings the handler receives returns the LAST value given for that key, coerced
once** — and nothing for a key that was not given. -/
theorem cli_settings_lookup {β : Type} (g : Str → β) (action : String) (args : List Str) (t : Tree β)
    (h : cliMainWith g action args = .settings t) (k : Str) :
    t.leafAt (splitDots k) = (lastGiven k args).map g := by
  rw [cliMainWith_eq] at h
  obtain ⟨_, h⟩ := ite_ne_left h nofun
  obtain ⟨_, h⟩ := ite_ne_left h nofun
  obtain ⟨_, h⟩ := ite_ne_left h nofun
  split at h
  · rename_i t' hft
    cases h
    rw [flatToNested_leafAt hft, lastFor_toDict, lastGiven, ← lastFor_map, List.map_map]
    rfl
  · cases h

/-- the same for the modelled `guess_type`: the scalar at a dotted key is the reading of the last text given for it -/
theorem cli_settings_lookup_guess (action : String) (args : List Str) (t : Tree Val)
    (h : cliMain action args = .settings t) (k : Str) (v : Val) :
    t.leafAt (splitDots k) = some v ↔ (lastGiven k args).map guessType = some (.val v) := by
  rw [cliMain_eq] at h
  obtain ⟨_, h⟩ := ite_ne_left h nofun
  obtain ⟨_, h⟩ := ite_ne_left h nofun
  obtain ⟨_, h⟩ := ite_ne_left h nofun
  split at h
  · cases h
  · rename_i flatV hga
    split at h
    · rename_i t' hft
      cases h
      have h1 : (lastFor k flatV).map Guess.val = (lastGiven k args).map guessType := by
        rw [← lastFor_map, ← guessedAll_some hga, lastFor_toDict, lastGiven, ← lastFor_map, List.map_map]
        rfl
      rw [flatToNested_leafAt hft, ← h1]
      cases lastFor k flatV <;> simp
    · cases h

/-- **`Conflicting options` is raised exactly when one key is a proper dotted prefix of another** (`a.b` and `a.b.c`),
whichever of the two comes first in the dict. -/
theorem cli_settings_conflict_iff_flat {β : Type} (flat : List (Str × β)) :
    flatToNested flat = .error .conflictingOptions ↔
      ∃ q ∈ flat.map (·.1), ∃ p ∈ flat.map (·.1), ∃ r, p = q ++ flatSep :: r :=
  (flatToNested_spec flat).1

/-- the same from the command line: for `init` / `add-key` / `benchmark` and a non-empty list of unknown arguments, `main()`
ends in `Conflicting options` exactly when every argument was paired and two of the (normalised) keys are in the
dotted-prefix relation — in either argument order. -/
theorem cli_settings_conflict_iff {β : Type} (g : Str → β) (action : String)
    (hact : mainSettingsActions.contains action = true) (args : List Str) (hne : args ≠ []) :
    cliMainWith g action args = .conflict ↔
      cliLeftover args = [] ∧
      ∃ q ∈ (cliPairs args).map (fun p => normKey p.1), ∃ p ∈ (cliPairs args).map (fun p => normKey p.1),
        ∃ r, p = q ++ flatSep :: r := by
  have hkeys : ∀ k, k ∈ (toDict ((cliPairs args).map (fun p => (normKey p.1, g p.2)))).map (·.1) ↔
      k ∈ (cliPairs args).map (fun p => normKey p.1) := by
    intro k
    rw [toDict_keys_mem, List.map_map]
    rfl
  have hconf := cli_settings_conflict_iff_flat (toDict ((cliPairs args).map (fun p => (normKey p.1, g p.2))))
  simp only [hkeys] at hconf
  have he : args.isEmpty = false := by cases args with | nil => exact absurd rfl hne | cons _ _ => rfl
  rw [cliMainWith_eq]
  simp only [he, hact, Bool.false_eq_true, if_false, Bool.not_true]
  cases hl : cliLeftover args with
  | cons a rest => exact iff_of_false nofun (fun h => nomatch h.1)
  | nil =>
    simp only [List.isEmpty_nil, Bool.not_true, Bool.false_eq_true, if_false, true_and]
    rw [← hconf]
    cases hft : flatToNested (toDict ((cliPairs args).map (fun p => (normKey p.1, g p.2)))) with
    | ok t => simp only [reduceCtorEq]
    | error e => cases e; simp only

/-- **The order of the items does not matter**: two dicts with the same items (distinct keys) give the same nested dict —
the same children in the same order, or the same failure. -/
theorem cli_settings_order_irrelevant_flat {β : Type} (flat₁ flat₂ : List (Str × β)) (hperm : flat₁.Perm flat₂)
    (hkeys : (flat₁.map (·.1)).Nodup) : flatToNested flat₁ = flatToNested flat₂ :=
  flatToNested_perm hperm hkeys

/-- the same from the command line: permuting flag/value pairs with distinct (normalised) keys changes nothing of what the
handler receives (or of the failure) -/
theorem cli_settings_order_irrelevant {β : Type} (g : Str → β) (action : String)
    (hact : mainSettingsActions.contains action = true) (ps₁ ps₂ : List (Str × Str)) (hperm : ps₁.Perm ps₂)
    (hflags : ∀ p ∈ ps₁, isFlag p.1 = true ∧ isFlag p.2 = false)
    (hkeys : (ps₁.map (fun p => normKey p.1)).Nodup) :
    cliMainWith g action (argsOfPairs ps₁) = cliMainWith g action (argsOfPairs ps₂) := by
  have hflags2 : ∀ p ∈ ps₂, isFlag p.1 = true ∧ isFlag p.2 = false := fun p hp => hflags p (hperm.symm.subset hp)
  obtain ⟨hp1, hl1⟩ := cliPairs_argsOfPairs ps₁ hflags
  obtain ⟨hp2, hl2⟩ := cliPairs_argsOfPairs ps₂ hflags2
  have hn1 : ((ps₁.map (fun p => (normKey p.1, g p.2))).map (·.1)).Nodup := by rw [List.map_map]; exact hkeys
  have hpm : (ps₁.map (fun p => (normKey p.1, g p.2))).Perm (ps₂.map (fun p => (normKey p.1, g p.2))) := hperm.map _
  have hn2 : ((ps₂.map (fun p => (normKey p.1, g p.2))).map (·.1)).Nodup := (hpm.map _).nodup hn1
  rw [cliMainWith_eq, cliMainWith_eq, hp1, hp2, hl1, hl2, argsOfPairs_isEmpty, argsOfPairs_isEmpty, hperm.isEmpty_eq,
    toDict_of_nodup _ hn1, toDict_of_nodup _ hn2, flatToNested_perm hpm hn1]
  simp only [hact, Bool.not_true, Bool.false_eq_true, if_false, List.isEmpty_nil]

/-- **The command line is as good as the dict.**  For every settings dictionary that can be written as flags
(`cliExpressible`, decidable: no empty / opaque mapping; every value has a text that the modelled `guess_type` reads back
as that value — ints, bools, `None`, strings that are plain words or can be quoted; key components without `.` and `-`; no
two leaves on the same or on nested paths, as in every dict), `main()` on its canonical rendering
`--section.sub.arg text …` hands the handler a nested dict with exactly the scalars of that dictionary at exactly their
paths.  Two nested dicts without empty mappings that agree on all scalars are equal as Python dicts, so every C17 theorem
about `init(settings=…)` / `add_key(settings=…)` applies to the command line. -/
theorem cli_settings_equals_direct (action : String) (hact : mainSettingsActions.contains action = true)
    (s : Settings) (hexp : cliExpressible s = true) :
    ∃ t, cliMain action (renderSettings s) = .settings t ∧ ∀ p v, t.leafAt p = some v ↔ (p, v) ∈ leavesOf s := by
  simp only [cliExpressible, Bool.and_eq_true, Bool.not_eq_true'] at hexp
  obtain ⟨⟨hne, _⟩, hl⟩ := hexp
  exact cliMain_renderLeaves action hact (leavesOf s) hne hl

/-- **Every dict qualifies.**  The pairwise half of `cliExpressible` (no two leaves on the same or on nested paths) is a fact
about dicts, not a restriction: it holds for every settings dictionary in which no mapping has a key twice (`dictLike`).  What
remains to be checked of a dictionary is local: no empty / opaque mapping, and each leaf writable (`leafWritable`: components
without `.` and `-`, value with a text that is read back — see `cli_value_texts_read_back`). -/
theorem cli_dict_expressible (s : Settings) (hd : dictLike s = true) (hno : noOpaque s = true)
    (hne : (leavesOf s).isEmpty = false) (hw : (leavesOf s).all leafWritable = true) : cliExpressible s = true := by
  simp only [cliExpressible, leavesExpressible, hne, hno, hw, Bool.not_false, Bool.true_and, allPairs_apart]
  exact leavesOf_apart s hd

/-- **Which values can be written.**  The value half of `cliExpressible` is no hidden restriction: `True` / `False` / `None`,
every integer of at most 255 digits (canonical text = its decimal numeral, with `-` when negative) and every string that is a
plain word `[A-Za-z_][A-Za-z0-9_.-]*` other than none / true / false (adapter names, …) of at most 256 characters have a canonical
text, that text is not a flag, and the modelled `guess_type` reads it back as exactly that value. -/
theorem cli_value_texts_read_back :
    (∀ b : Bool, ∃ t, textOf (.bool b) = some t ∧ guessType t = .val (.bool b) ∧ isFlag t = false) ∧
    (∃ t, textOf .none = some t ∧ guessType t = .val .none ∧ isFlag t = false) ∧
    (∀ i : Int, (decDigits i.natAbs).length < guessMaxLen →
      ∃ t, textOf (.int i) = some t ∧ guessType t = .val (.int i) ∧ isFlag t = false) ∧
    (∀ s : String, plainWord s.toList = true → guessTitleWords.contains (lowerAscii s.toList) = false →
      s.toList.length ≤ guessMaxLen →
      textOf (.str s) = some s.toList ∧ guessType s.toList = .val (.str s) ∧ isFlag s.toList = false) := by
  refine ⟨?_, ?_, guessType_int, guessType_plainWord⟩
  · intro b
    cases b
    · exact ⟨"False".toList, by decide +kernel⟩
    · exact ⟨"True".toList, by decide +kernel⟩
  · exact ⟨"None".toList, by decide +kernel⟩

/-- the loop on a list with every irregularity: repeated flag (last wins), value without flag, flag after flag, trailing
flag, triple dash, `-` → `_`, single dash -/
example :
    parseCliSettingsS ["--a", "1", "--a", "2", "x", "--b", "--c", "---d-e.f-g", "v", "-s", "--kdf.n", "0x10", "--last"] =
      ([("a", .val (.int 2)), ("d_e.f_g", .val (.str "v")), ("kdf.n", .val (.int 16))], ["x", "--b", "--c", "-s", "--last"]) := by
  decide +kernel

/-- lookup: `init --encryption.kdf.n 16 --chunking.min-length 1000 --hashing.name blake2b --encryption.kdf.n 4` -/
example :
    let args := ["--encryption.kdf.n", "16", "--chunking.min-length", "1000", "--hashing.name", "blake2b", "--encryption.kdf.n", "4"].map String.toList
    (match cliMain "init" args with
     | .settings t => [t.leafAt ["encryption".toList, "kdf".toList, "n".toList], t.leafAt ["chunking".toList, "min_length".toList],
                       t.leafAt ["hashing".toList, "name".toList], t.leafAt ["hashing".toList]]
     | _ => []) = [some (.int 4), some (.int 1000), some (.str "blake2b"), none] := by
  decide +kernel

/-- conflicts in both argument orders; no conflict for keys that merely share a textual prefix -/
example :
    (match cliMain "init" (["--a.b", "1", "--a", "2"].map String.toList) with | .conflict => true | _ => false) = true ∧
    (match cliMain "init" (["--a", "2", "--a.b", "1"].map String.toList) with | .conflict => true | _ => false) = true ∧
    (match cliMain "init" (["--a", "2", "--ab", "1", "--a-b.c", "3"].map String.toList) with | .settings _ => true | _ => false) = true ∧
    (match cliMain "add-key" (["--a", "2", "x"].map String.toList) with | .unrecognised u => u == ["x".toList] | _ => false) = true ∧
    (match cliMain "snapshot" (["--a", "2"].map String.toList) with | .unrecognised _ => true | _ => false) = true ∧
    (match cliMain "init" (["--a", "1.5"].map String.toList) with | .unmodelled => true | _ => false) = true := by
  decide +kernel

/-- a lattice point of C17 (unencrypted; chacha; scrypt parameters) is expressible, and its rendering -/
example :
    let s : Settings := [("hashing", .m [("name", .val (.str "sha2")), ("bits", .val (.int 256))]),
      ("chunking", .m [("min_length", .val (.int 4)), ("max_length", .val (.int 8))]),
      ("encryption", .m [("cipher", .args [("name", .val (.str "chacha20_poly1305"))]), ("kdf", .args [("n", .val (.int 4)), ("r", .val (.int 2))])])]
    cliExpressible s = true ∧ dictLike s = true ∧ (leavesOf s).all leafWritable = true ∧
    (renderSettings s).map String.ofList = ["--hashing.name", "sha2", "--hashing.bits", "256", "--chunking.min_length", "4",
      "--chunking.max_length", "8", "--encryption.cipher.name", "chacha20_poly1305", "--encryption.kdf.n", "4", "--encryption.kdf.r", "2"] ∧
    cliExpressible [("encryption", .val .none)] = true ∧
    cliExpressible [("encryption", .m [])] = false ∧ cliExpressible [("hashing", .m [("length", .val (.float 1))])] = false := by
  decide +kernel

end Cli

end Replicat.C17
