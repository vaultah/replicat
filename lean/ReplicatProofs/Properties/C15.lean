import ReplicatProofs.Lemmas.RepoAccess
import ReplicatProofs.Lemmas.TimeKey
/-!
# C15 — restore and the listings select exactly what the filters and timestamps say

Property theorems only, over `Repo.lean`: `restore` (`loadSnapshots` with the snapshot filter → readable bodies sorted newest
first → first occurrence of a path wins, file filter per path), `listSnapshots`, `listFiles`, `deletePlan`.
Regular expressions are arbitrary predicates (`sre` on snapshot names, `fre` on paths).  `Readable enc u sre s b` = `b` is the
body of a listed snapshot object whose name matches `sre`, whose tag is `u`'s family's (encrypted repositories) and whose
private part decrypts with `u`'s key.  A file version is `(path, ver, needs)`; that the bytes restored for a version are the
recorded ones, and that the listed size is the true size, is C01 (`roundtrip`, `refs_tile`).
-/
namespace Replicat.C15
open Replicat Replicat.Repo List

/-- **Restore selects, per path, the version from the newest matching readable snapshot containing the path — and nothing
else.**  For pairwise different timestamps: a file version is written iff its path passes the file filter and it is recorded in
a readable snapshot matching the snapshot filter such that no other such snapshot containing the path is newer.  Every path is
written at most once; the command fails only when a chunk needed by a selected version is missing. -/
theorem restore_select_spec (enc : Bool) (u : User) (sre fre : Nat → Bool) (s : Store) (h : WF s)
    (hts : (((loadedPure enc u sre s).filterMap (·.data)).map (·.ts)).Nodup)
    (hpaths : ∀ b, Readable enc u sre s b → (b.files.map (·.path)).Nodup) :
    ∃ sel, (restore enc u sre fre s = if sel.all (fun f => f.needs.all (chunkOk u s)) then .ok sel else .error .missing) ∧
      (sel.map (·.path)).Nodup ∧
      ∀ f, f ∈ sel ↔ fre f.path = true ∧ ∃ b, Readable enc u sre s b ∧ f ∈ b.files ∧
        ∀ b', Readable enc u sre s b' → (∃ g ∈ b'.files, g.path = f.path) → b'.ts ≤ b.ts := by
  refine ⟨selectFiles fre (readableNewestFirst (loadedPure enc u sre s)), ?_, selectFiles_nodup_paths _ _, ?_⟩
  · unfold restore
    rw [loadSnapshots_wf enc u sre s h]
  · intro f
    rw [mem_selectFiles, findSome?_sorted (·.ts) _ _ (readableNewestFirst_sorted _ hts)]
    constructor
    · rintro ⟨hfre, b, hb, hfind, hmax⟩
      refine ⟨hfre, b, (mem_readable h b).mp hb, mem_of_find?_eq_some hfind, ?_⟩
      intro b' hb' hex
      exact hmax b' ((mem_readable h b').mpr hb') ((find?_path_isSome_iff _ _).mpr hex)
    · rintro ⟨hfre, b, hb, hf, hmax⟩
      refine ⟨hfre, b, (mem_readable h b).mpr hb, find?_path_of_mem (hpaths b hb) hf, ?_⟩
      intro b' hb' hsome
      exact hmax b' ((mem_readable h b').mp hb') ((find?_path_isSome_iff _ _).mp hsome)

/-- **Nothing else is written.**  Without any assumption on timestamps: every file version a successful `restore` writes
passes the file filter, is recorded in a readable snapshot matching the snapshot filter, has all the chunks it needs, and no
path is written twice. -/
theorem restore_nothing_else (enc : Bool) (u : User) (sre fre : Nat → Bool) (s : Store) (h : WF s) (sel : List FileRec)
    (hr : restore enc u sre fre s = .ok sel) :
    (sel.map (·.path)).Nodup ∧
    ∀ f ∈ sel, fre f.path = true ∧ (∃ b, Readable enc u sre s b ∧ f ∈ b.files) ∧ ∀ c ∈ f.needs, chunkOk u s c = true := by
  obtain ⟨rfl, hall⟩ := restore_ok h hr
  refine ⟨selectFiles_nodup_paths _ _, fun f hf => ?_⟩
  obtain ⟨hfre, hb⟩ := mem_selected h hf
  exact ⟨hfre, hb, all_eq_true.mp (all_eq_true.mp hall f hf)⟩

/-- **The snapshot filter selects exactly the matching names**: listing under a filter shows the rows of the unfiltered
listing whose name the filter accepts (same multiset; both are ordered newest first by `list_rows_spec`). -/
theorem list_filter_commutes (enc : Bool) (u : User) (sre : Nat → Bool) (s : Store) (h : WF s) :
    ∃ rows all, listSnapshots enc u sre s = .ok rows ∧ listSnapshots enc u (fun _ => true) s = .ok all ∧
      rows.Perm (all.filter (fun r => sre r.sid)) := by
  unfold listSnapshots
  rw [loadSnapshots_wf enc u sre s h, loadSnapshots_wf enc u _ s h]
  refine ⟨_, _, rfl, rfl, ?_⟩
  refine (mergeSort_perm _ _).trans ?_
  refine Perm.trans ?_ ((mergeSort_perm _ rowGE).filter _).symm
  rw [loadedPure_filter enc u sre s, filter_map]
  exact Perm.refl _

/-- **`list-snapshots` shows exactly the snapshots the caller can see, newest first.**  One row per listed snapshot object
that matches the filter and carries the caller's family tag; timestamp and file count are the recorded ones when the private
part decrypts with the caller's key, empty otherwise; rows are ordered by timestamp descending (rows without details last). -/
theorem list_rows_spec (enc : Bool) (u : User) (sre : Nat → Bool) (s : Store) (h : WF s) :
    ∃ rows, listSnapshots enc u sre s = .ok rows ∧
      rows.Pairwise (fun a b => b.ts.getD 0 ≤ a.ts.getD 0) ∧
      rows.Perm ((loadedPure enc u sre s).map fun l => ⟨l.sid, l.data.map (·.ts), l.data.map (·.files.length)⟩) ∧
      ∀ r, r ∈ rows ↔ ∃ f sid b, get s (.snap f sid) = some (.snap f sid b) ∧ sre sid = true ∧ visible enc u f = true ∧
        r = if (!enc || b.owner == u.key) = true then ⟨sid, some b.ts, some b.files.length⟩ else ⟨sid, none, none⟩ := by
  unfold listSnapshots
  rw [loadSnapshots_wf enc u sre s h]
  refine ⟨_, rfl, pairwise_mergeSort_key (fun r : SnapRow => r.ts.getD 0) _, mergeSort_perm _ _, fun r => ?_⟩
  rw [mem_mergeSort, mem_map]
  constructor
  · rintro ⟨l, hl, rfl⟩
    obtain ⟨b, hg, hre, hvis, hl'⟩ := (mem_loadedPure h).mp hl
    refine ⟨l.fam, l.sid, b, hg, hre, hvis, ?_⟩
    rw [hl']
    exact row_toLoaded enc u l.fam l.sid b
  · rintro ⟨f, sid, b, hg, hre, hvis, rfl⟩
    exact ⟨toLoaded enc u f sid b, toLoaded_mem hg hre hvis, row_toLoaded enc u f sid b⟩

/-- **`list-files` shows exactly the files of the readable matching snapshots that pass the file filter, newest snapshot
first**, each with its recorded path and version. -/
theorem listfiles_rows_spec (enc : Bool) (u : User) (sre fre : Nat → Bool) (s : Store) (h : WF s) :
    ∃ rows, listFiles enc u sre fre s = .ok rows ∧
      rows.Pairwise (fun a b => b.1 ≤ a.1) ∧
      ∀ r, r ∈ rows ↔ ∃ b, Readable enc u sre s b ∧ ∃ f ∈ b.files, fre f.path = true ∧ r = (b.ts, f.path, f.ver) := by
  have hr : ∀ rows, listFiles enc u sre fre s = .ok rows → _ := fun rows hr => mem_listFiles h hr
  unfold listFiles at hr ⊢
  rw [loadSnapshots_wf enc u sre s h] at hr ⊢
  refine ⟨_, rfl, ?_, hr _ rfl⟩
  rw [pairwise_flatMap]
  constructor
  · intro b _
    rw [pairwise_map]
    exact pairwise_of_forall (fun _ _ => Nat.le_refl _)   -- same snapshot: same timestamp
  · have hs : (readableNewestFirst (loadedPure enc u sre s)).Pairwise (fun a b => b.ts ≤ a.ts) :=
      pairwise_mergeSort_key Body.ts _
    refine hs.imp ?_
    intro a b hab x hx y hy
    obtain ⟨_, _, rfl⟩ := mem_map.mp hx
    obtain ⟨_, _, rfl⟩ := mem_map.mp hy
    exact hab

/-- **The names the listing prints are the names the snapshot filter and `delete` accept.**  For every printed row: the name
passed the filter it was listed under; used as an exact filter it selects that row and only rows of that name; `delete` knows
it (never "not available"); and when the row shows details, `delete` of that name is accepted and removes snapshot objects of
exactly that name. -/
theorem names_agree (enc : Bool) (u : User) (sre : Nat → Bool) (s : Store) (h : WF s) (rows : List SnapRow)
    (hr : listSnapshots enc u sre s = .ok rows) (r : SnapRow) (hrm : r ∈ rows) :
    sre r.sid = true ∧
    (∃ rows', listSnapshots enc u (fun x => x == r.sid) s = .ok rows' ∧ r ∈ rows' ∧ ∀ r' ∈ rows', r'.sid = r.sid) ∧
    deletePlan enc u [r.sid] s ≠ .error .notAvailable ∧
    (r.ts.isSome = true → ∃ p, deletePlan enc u [r.sid] s = .ok p ∧ (∃ f, Name.snap f r.sid ∈ p.snaps) ∧
        ∀ n ∈ p.snaps, ∃ f, n = Name.snap f r.sid) := by
  obtain ⟨rows₀, hr₀, _, _, hmem⟩ := list_rows_spec enc u sre s h
  rw [hr] at hr₀
  cases hr₀
  obtain ⟨f, sid, b, hg, hre, hvis, rfl⟩ := (hmem r).mp hrm
  have hsid : ∀ (sid : Nat) (b : Body),
      (if (!enc || b.owner == u.key) = true then (⟨sid, some b.ts, some b.files.length⟩ : SnapRow) else ⟨sid, none, none⟩).sid = sid := by
    intro sid b
    split <;> rfl
  rw [hsid]
  have hav : ∀ sid' ∈ [sid], ∃ f b, get s (.snap f sid') = some (.snap f sid' b) ∧ visible enc u f = true := by
    intro sid' hs
    rw [mem_singleton.mp hs]
    exact ⟨f, b, hg, hvis⟩
  refine ⟨hre, ?_, ?_⟩
  · obtain ⟨rows', hr', _, _, hmem'⟩ := list_rows_spec enc u (fun x => x == sid) s h
    refine ⟨rows', hr', (hmem' _).mpr ⟨f, sid, b, hg, beq_self_eq_true sid, hvis, rfl⟩, ?_⟩
    intro r' hr'm
    obtain ⟨f', sid', b', _, hre', _, rfl⟩ := (hmem' r').mp hr'm
    rw [hsid, beq_iff_eq.mp hre']
  · cases hread : (!enc || b.owner == u.key) with
    | false =>
      -- a row without details: `delete` knows the name and refuses with "different key"
      rw [deletePlan_differentKey h hg hvis mem_cons_self hread]
      exact ⟨(fun hne => nomatch hne), (fun hsome => nomatch hsome)⟩
    | true =>
      have hrd : ∀ f' sid' b', get s (.snap f' sid') = some (.snap f' sid' b') → visible enc u f' = true → sid' ∈ [sid] →
          (!enc || b'.owner == u.key) = true := by
        intro f' sid' b' hg' hv' hs'
        cases enc with
        | false => rfl
        | true =>
          -- both snapshot objects carry the caller's family tag and the same name: they are one object
          have e1 : f' = u.fam := beq_iff_eq.mp hv'
          have e2 : f = u.fam := beq_iff_eq.mp hvis
          rw [mem_singleton.mp hs', e1, ← e2, hg] at hg'
          cases hg'
          exact hread
      obtain ⟨p, hp⟩ := deletePlan_ok h hav hrd
      obtain ⟨msnap, _⟩ := deletePlan_inv h hp
      rw [hp]
      refine ⟨(fun hne => nomatch hne), fun _ => ⟨p, rfl, ⟨f, (msnap _).mpr ⟨f, sid, b, rfl, hg, hvis, mem_singleton.mpr rfl⟩⟩, ?_⟩⟩
      intro n hn
      obtain ⟨f', sid', _, rfl, _, _, hs⟩ := (msnap n).mp hn
      exact ⟨f', by rw [mem_singleton.mp hs]⟩

/-! ## the order does not depend on the time zone of any process

The theorems above order snapshots by `Body.ts`, the UTC timestamp.  The code orders them by a key derived from the recorded
string, inside a process that has a local zone.  `TimeKey.restoreKey`, `listFilesKey`, `listSnapshotsKey`, `recordedClock` are
the KINDS of those keys read from the source on every run (`tools/sections/15_timekey.py`); `TimeKey.sortKey k loc t` is the key
of kind `k` for the UTC value `t` in a process whose zone is `loc` — an arbitrary function, so every DST rule, gap and fold.
The two theorems compile only while no key is of a zone-dependent kind (`localEpoch` = the naive value re-read as local time,
`localWall` = the local wall clock): for those they are false (`localEpoch_misorders`, `localWall_misorders`).  A key the
extractor cannot classify is an explicit hypothesis (then the time-zone worlds of the harness, doubled, decide). -/

/-- **The order in which `restore`, `list-files` and `list-snapshots` consider snapshots is the order of their UTC timestamps,
in whatever time zone the command runs.**  Sorting with the code's key, evaluated under any zone `loc`, IS the model's
newest-first order by UTC timestamp — so `restore_select_spec`, `list_rows_spec`, `listfiles_rows_spec` hold for the process
in zone `loc`, across daylight-saving gaps and folds included. -/
theorem order_zone_independent (loc : TimeKey.Zone) :
    (TimeKey.restoreKey ≠ .unrecognised → ∀ ls : List Loaded,
        (ls.filterMap (·.data)).mergeSort (TimeKey.bodyGE TimeKey.restoreKey loc) = readableNewestFirst ls) ∧
    (TimeKey.listFilesKey ≠ .unrecognised → ∀ ls : List Loaded,
        (ls.filterMap (·.data)).mergeSort (TimeKey.bodyGE TimeKey.listFilesKey loc) = readableNewestFirst ls) ∧
    (TimeKey.listSnapshotsKey ≠ .unrecognised → ∀ rows : List SnapRow,
        rows.mergeSort (TimeKey.rowKeyGE TimeKey.listSnapshotsKey loc) = rows.mergeSort rowGE) := by
  -- each key read from the source is of a zone-free kind or was not recognised
  have h1 : TimeKey.restoreKey.zoneFree = true ∨ TimeKey.restoreKey = .unrecognised := by decide
  have h2 : TimeKey.listFilesKey.zoneFree = true ∨ TimeKey.listFilesKey = .unrecognised := by decide
  have h3 : TimeKey.listSnapshotsKey.zoneFree = true ∨ TimeKey.listSnapshotsKey = .unrecognised := by decide
  refine ⟨fun hk ls => ?_, fun hk ls => ?_, fun hk rows => ?_⟩
  · rw [TimeKey.bodyGE_eq_tsGE (h1.resolve_right hk)]
    rfl
  · rw [TimeKey.bodyGE_eq_tsGE (h2.resolve_right hk)]
    rfl
  · rw [TimeKey.rowKeyGE_eq_rowGE (h3.resolve_right hk)]

/-- **What `snapshot` records as the timestamp is strictly increasing in the true instant, in whatever zone the snapshotting
machine lives** (it is the UTC value, not a wall-clock reading): a later snapshot never gets an earlier-or-equal recorded value
because of a zone or a fall-back hour. -/
theorem recorded_clock_zone_independent (hk : TimeKey.recordedClock ≠ .unrecognised) (loc : TimeKey.Zone) (t₁ t₂ : Int)
    (hlt : t₁ < t₂) : TimeKey.sortKey TimeKey.recordedClock loc t₁ < TimeKey.sortKey TimeKey.recordedClock loc t₂ := by
  have hz : TimeKey.recordedClock.zoneFree = true ∨ TimeKey.recordedClock = .unrecognised := by decide
  exact TimeKey.sortKey_strictMono (hz.resolve_right hk) loc hlt

/-- the zone-dependent kinds are really different: under a zone that springs forward, `naive.timestamp()` as a key puts an
older snapshot (UTC value inside the skipped hour) after a newer one taken less than an hour later; the local wall clock does
the same across the fall-back instant; under a fixed offset neither happens -/
example : (∃ loc t₁ t₂, t₁ < t₂ ∧ TimeKey.sortKey .localEpoch loc t₂ < TimeKey.sortKey .localEpoch loc t₁) ∧
    (∃ loc t₁ t₂, t₁ < t₂ ∧ TimeKey.sortKey .localWall loc t₂ < TimeKey.sortKey .localWall loc t₁) ∧
    (∀ c t₁ t₂ : Int, t₁ < t₂ → TimeKey.sortKey .localEpoch (fun u => u + c) t₁ < TimeKey.sortKey .localEpoch (fun u => u + c) t₂) :=
  ⟨⟨_, _, _, TimeKey.localEpoch_misorders⟩, ⟨_, _, _, TimeKey.localWall_misorders⟩,
    fun c t₁ t₂ h => by simp only [TimeKey.sortKey, TimeKey.pyMktime_fixed_offset]; omega⟩

/-- non-vacuity: the string key satisfies the hypotheses; under the spring-forward zone it compares two bodies by their UTC
values (101800 lies in the skipped hour), where the re-read-as-local key compares them the other way round -/
example : TimeKey.KeyKind.utcString ≠ .unrecognised ∧ TimeKey.KeyKind.utcString.zoneFree = true ∧
    TimeKey.bodyGE .utcString TimeKey.springZone ⟨1, 104200, [], []⟩ ⟨1, 101800, [], []⟩ = true ∧
    TimeKey.bodyGE .utcString TimeKey.springZone ⟨1, 101800, [], []⟩ ⟨1, 104200, [], []⟩ = false ∧
    TimeKey.bodyGE .localEpoch TimeKey.springZone ⟨1, 101800, [], []⟩ ⟨1, 104200, [], []⟩ = true := by
  decide

/-! ## non-vacuity and the role of the hypotheses -/

/-- with EQUAL timestamps the selected version depends on the listing order (so "distinct timestamps" is needed):
two snapshots of one path, both orders of the same two bodies -/
example :
    selectFiles (fun _ => true) [⟨1, 5, [], [⟨1, 10, []⟩]⟩, ⟨1, 5, [], [⟨1, 20, []⟩]⟩] = [⟨1, 10, []⟩] ∧
    selectFiles (fun _ => true) [⟨1, 5, [], [⟨1, 20, []⟩]⟩, ⟨1, 5, [], [⟨1, 10, []⟩]⟩] = [⟨1, 20, []⟩] := by
  decide

/-- three snapshots (ts 10, 20, 30) over paths 1..3 where paths appear, change and disappear; newest-first selection with a
file filter that rejects path 3 -/
example :
    selectFiles (fun p => p != 3)
      [⟨1, 30, [], [⟨2, 22, []⟩]⟩, ⟨1, 20, [], [⟨1, 12, []⟩, ⟨3, 31, []⟩]⟩, ⟨1, 10, [], [⟨1, 11, []⟩, ⟨2, 21, []⟩]⟩]
      = [⟨2, 22, []⟩, ⟨1, 12, []⟩] := by
  decide

/-- the hypotheses of `restore_select_spec` hold on the example store of C06 for the shared user -/
example : ∃ sel : List FileRec, (sel.map (·.path)).Nodup ∧ ∀ f, f ∈ sel ↔ (fun _ => true) f.path = true ∧ ∃ b, Readable true ⟨2, 1⟩ (fun _ => true) exStore b ∧ f ∈ b.files ∧
    ∀ b', Readable true ⟨2, 1⟩ (fun _ => true) exStore b' → (∃ g ∈ b'.files, g.path = f.path) → b'.ts ≤ b.ts := by
  obtain ⟨sel, _, h2, h3⟩ := restore_select_spec true ⟨2, 1⟩ (fun _ => true) (fun _ => true) exStore exStore_wf (by decide)
    (by
      -- every snapshot object of the example store records a single file
      rintro b ⟨f, sid, hg, _⟩
      have hall : ∀ e ∈ exStore, (match e.2 with | .snap _ _ b => decide ((b.files.map (·.path)).Nodup) | _ => true) = true := by
        decide
      exact of_decide_eq_true (hall _ (mem_of_get hg)))
  exact ⟨sel, h2, h3⟩

end Replicat.C15
