import ReplicatProofs.Lemmas.Access
import ReplicatProofs.Lemmas.RepoAccess
import ReplicatProofs.Lemmas.CacheCmd
/-!
# C06 — access rights follow key relationships

Property theorems only.  Two models:

* `Access.lean` — key files as symbolic terms, key graphs built by `init` and chains of `add-key` (independent / shared /
  clone, any KDF settings): which password unlocks which key, and which `Repo.User` (user key, family) the unlock yields.
* `Repo.lean` — the repository state machine.  A user is `⟨key, fam⟩`: *independent* keys have different families,
  *shared* keys the same family and different user keys, a *clone* is the same user.  `enc = true` throughout (an unencrypted
  repository has one user).  `WF s` = every stored object is what its name says (corruption is C04).

Regular expressions are arbitrary predicates on names.

Clients keep state between commands: the snapshot cache directory (the CLI default; possibly one directory for several keys).
The last section restates the repository theorems for the cached commands of `CacheCmd.lean` (`loadSnapshots ↦ loadSnapshotsC
cache`), for EVERY cache content that is hash-ideal (`Agree` / `Ideal`, DESIGN.md §4) — cold, warm from any earlier command of
the same or another key, stale, torn — and for the cache a snapshot-loading command leaves behind (`cacheAfterLoad`), i.e. for the
sequence "list / restore / delete first, clean or delete afterwards".  These theorems carry the regenerated flag
`Gen.cacheVerified = true` (the cached copy is compared with the digest in the name before use) as an explicit decidable
hypothesis `hv`: it is discharged from `Generated.lean` in `Properties/C18.lean` (`cacheVerified_holds`, whose subject the cache
code is), so a rewrite of the cache code that the recogniser does not follow alarms there, not here.  What ties the cached theorems to the code is the correspondence run by
`harness/impl/access.py`: real clients with real cache directories against `CacheCmd.stepC` on the abstracted directory.
-/
namespace Replicat.C06
open Replicat Replicat.Repo Replicat.Access Replicat.CacheCmd Replicat.P18 List

/-! ## unlocking -/

/-- **A key unlocks with password `p'` iff `p'` is the password it was made with** — for every key of every key graph built
by `init` and any chain of `add-key` (independent, shared, clone; any KDF settings), and every KDF that is injective in the
password (a hypothesis on the function, not an axiom). -/
theorem unlock_iff {K : Type} [DecidableEq K] (kdf : Nat → Nat → Nat → K)
    (hinj : ∀ c s p p', kdf c p s = kdf c p' s → p = p')
    (password cfg : Nat) (steps : List AddKey) (e : Entry K) (he : e ∈ (build kdf password cfg steps).entries) (p' : Nat) :
    (unlock kdf e.file p').isSome ↔ p' = e.password :=
  unlock_isSome_iff kdf hinj e ((inv_build kdf password cfg steps).sealed e he) p'

/-- the same for the symbolic KDF (a free constructor): no hypothesis left -/
theorem unlock_iff_symbolic (password cfg : Nat) (steps : List AddKey) (e : Entry SymKey)
    (he : e ∈ (build symKdf password cfg steps).entries) (p' : Nat) :
    (unlock symKdf e.file p').isSome ↔ p' = e.password :=
  unlock_iff symKdf (by intro c s p p' h; exact congrArg SymKey.password h) password cfg steps e he p'

/-- `init` / `add-key` never write a key file with a plaintext private section, and every key they write is sealed under the
key derived from its own password, KDF settings and salt -/
theorem built_keys_sealed {K : Type} [DecidableEq K] (kdf : Nat → Nat → Nat → K) (password cfg : Nat) (steps : List AddKey)
    (e : Entry K) (he : e ∈ (build kdf password cfg steps).entries) :
    ∃ n m, e.file.priv = .enc (kdf e.file.cfg e.password e.file.salt) n m :=
  (inv_build kdf password cfg steps).sealed e he

/-- **Key relations.**  One more `add-key` on a built graph, issued by the holder of a valid entry `b`: a clone is the same
entry; a shared key unlocks to the *same family* under a *new user key*; an independent key unlocks to a family no earlier
key has, under a new user key. -/
theorem keygraph_relations {K : Type} [DecidableEq K] (kdf : Nat → Nat → Nat → K) (password cfg : Nat) (steps : List AddKey)
    (a : AddKey) (b : Entry K) (hb : (build kdf password cfg steps).entries[a.base]? = some b) :
    ∃ ub, userOf kdf b b.password = some ub ∧
      match a.kind with
      | .clone => (addKey kdf (build kdf password cfg steps) a).entries = (build kdf password cfg steps).entries ++ [b]
      | .shared => ∃ e' u', (addKey kdf (build kdf password cfg steps) a).entries = (build kdf password cfg steps).entries ++ [e'] ∧
          userOf kdf e' a.password = some u' ∧ u'.fam = ub.fam ∧
          ∀ e ∈ (build kdf password cfg steps).entries, ∀ p u, userOf kdf e p = some u → u.key ≠ u'.key
      | .independent => ∃ e' u', (addKey kdf (build kdf password cfg steps) a).entries = (build kdf password cfg steps).entries ++ [e'] ∧
          userOf kdf e' a.password = some u' ∧
          ∀ e ∈ (build kdf password cfg steps).entries, ∀ p u, userOf kdf e p = some u → u.key ≠ u'.key ∧ u.fam ≠ u'.fam := by
  have hinv := inv_build kdf password cfg steps
  generalize build kdf password cfg steps = g at hb hinv
  have hbm : b ∈ g.entries := mem_of_getElem? hb
  obtain ⟨mb, hunl, nb, kb, hpb⟩ := unlock_own kdf b (hinv.sealed b hbm)
  refine ⟨⟨b.keyId, mb.fam⟩, userOf_of_unlock hunl, ?_⟩
  -- every key of the graph has an older id than the one being made
  have hold : ∀ e ∈ g.entries, ∀ p u, userOf kdf e p = some u → u.key ≠ g.nextSalt := by
    intro e he p u hu heq
    have hlt := hinv.keyIdLt e he
    rw [← (userOf_some kdf e p u hu).1, heq] at hlt
    exact Nat.lt_irrefl _ hlt
  cases hk : a.kind with
  | clone => simp only [addKey, hb, hk]
  | shared =>
    simp only [addKey, hb, hk, hunl]
    exact ⟨_, ⟨g.nextSalt, mb.fam⟩, rfl, userOf_makeKey kdf g a.password a.cfg mb, rfl, hold⟩
  | independent =>
    simp only [addKey, hb, hk]
    refine ⟨_, ⟨g.nextSalt, g.nextFam⟩, rfl, userOf_makeKey kdf g a.password a.cfg ⟨g.nextFam⟩,
      fun e he p u hu => ⟨hold e he p u hu, ?_⟩⟩
    -- and a family below the fresh one
    obtain ⟨n, m, hpe⟩ := hinv.sealed e he
    rw [(userOf_some kdf e p u hu).2 _ n m hpe]
    exact Nat.ne_of_lt (hinv.famLt e he n m _ hpe)

/-! ## independent keys (different families) -/

/-- **What a user sees is a function of the objects of its own family.**  `list-snapshots`, `list-files`, `restore` and the
decision part of `delete` by `v` return the same on `s` and on `s` with every object of every other family (and `config`, and
strays) removed: nothing of a user with an independent key shows up, whatever that user has stored. -/
theorem independent_invisible (v : User) (s : Store) :
    (∀ sre, listSnapshots true v sre s = listSnapshots true v sre (famPart v.fam s)) ∧
    (∀ sre fre, listFiles true v sre fre s = listFiles true v sre fre (famPart v.fam s)) ∧
    (∀ sre fre, restore true v sre fre s = restore true v sre fre (famPart v.fam s)) ∧
    (∀ sids, (deletePlan true v sids s).toOption.map (fun p => (p.snaps, p.chunks))
        = (deletePlan true v sids (famPart v.fam s)).toOption.map (fun p => (p.snaps, p.chunks))) := by
  refine ⟨?_, ?_, ?_, ?_⟩
  · intro sre
    unfold listSnapshots
    rw [loadSnapshots_famPart]
  · intro sre fre
    unfold listFiles
    rw [loadSnapshots_famPart]
  · intro sre fre
    unfold restore
    rw [loadSnapshots_famPart]
    cases loadSnapshots true v sre s with
    | error e => rfl
    | ok ls =>
      simp only
      have : chunkOk v (famPart v.fam s) = chunkOk v s := funext fun c => by
        unfold chunkOk
        rw [get_famPart _ _ _ rfl]
      rw [this]
  · intro sids
    unfold deletePlan
    rw [loadSnapshots_famPart]

/-- **An independent key cannot delete**: asking `v` to delete a snapshot name that is not a snapshot of `v`'s family (for
instance any snapshot of a user with an independent key) fails before any mutation — "not available" (or "different key" when
the request also names a family member's snapshot) — and leaves the repository unchanged. -/
theorem independent_cannot_delete (v : User) (s : Store) (h : WF s) (sids : List Nat) (sid : Nat) (hsid : sid ∈ sids)
    (hnone : get s (.snap v.fam sid) = none) :
    (deletePlan true v sids s = .error .notAvailable ∨ deletePlan true v sids s = .error .differentKey) ∧
    ((∀ l ∈ loadedPure true v (fun _ => true) s, sids.contains l.sid = true → l.data.isSome = true) →
        deletePlan true v sids s = .error .notAvailable) ∧
    step true s (.delete v sids) = s := by
  have hna : sids.any (fun sid => !(loadedPure true v (fun _ => true) s).any (fun l => l.sid == sid)) = true := by
    refine any_eq_true.mpr ⟨sid, hsid, ?_⟩
    rw [Bool.not_eq_true', any_eq_false]
    intro l hl hls
    -- a loaded snapshot of that name would be an object under `v`'s family tag
    obtain ⟨b, hg, _, hv, _⟩ := (mem_loadedPure h).mp hl
    rw [beq_iff_eq.mp hv, beq_iff_eq.mp hls, hnone] at hg
    cases hg
  have hplan := deletePlan_of_wf true v sids s h
  rw [hna] at hplan
  split at hplan
  · rename_i hd
    refine ⟨Or.inr hplan, fun hall => ?_, step_delete_error hplan⟩
    obtain ⟨l, hl, hc⟩ := any_eq_true.mp hd
    rw [Bool.and_eq_true] at hc
    have hsome := hall l hl hc.1
    rw [Option.isNone_iff_eq_none.mp hc.2] at hsome
    cases hsome
  · rw [if_pos rfl] at hplan
    exact ⟨Or.inl hplan, fun _ => hplan, step_delete_error hplan⟩

/-- **No command of `v` changes an object of another family** (nor `config`, nor anything outside the two areas): snapshot,
delete and clean by `v` only write and delete names carrying `v`'s family tag. -/
theorem independent_frame (v : User) (s : Store) (h : WF s) (op : Op)
    (hop : match op with | .snapshot u .. => u = v | .delete u _ => u = v | .clean u => u = v)
    (n : Name) (hn : nameFam n ≠ some v.fam) :
    get (step true s op) n = get s n := by
  have hu : opUser op = v := by
    cases op <;> exact hop
  refine step_frame h op (fun f hf => ⟨rfl, fun hfv => hn ?_⟩)
  rw [hf, hfv, hu]

/-! ## shared keys (same family, different user key) -/

/-- **A shared key sees that the other's snapshot exists, without details**: the row is there, timestamp and file count
(all data columns) are empty. -/
theorem shared_sees_no_details (u v : User) (hfam : u.fam = v.fam) (hkey : u.key ≠ v.key) (s : Store) (h : WF s)
    (sid : Nat) (b : Body) (hg : get s (.snap u.fam sid) = some (.snap u.fam sid b)) (hown : b.owner = u.key)
    (sre : Nat → Bool) (hre : sre sid = true) :
    ∃ rows, listSnapshots true v sre s = .ok rows ∧ (⟨sid, none, none⟩ : SnapRow) ∈ rows := by
  unfold listSnapshots
  rw [loadSnapshots_wf true v sre s h]
  refine ⟨_, rfl, ?_⟩
  rw [mem_mergeSort, mem_map]
  refine ⟨toLoaded true v u.fam sid b, toLoaded_mem hg hre (hfam ▸ visible_own true v), ?_⟩
  -- the private part does not decrypt with `v`'s key: no data columns
  exact (row_toLoaded true v u.fam sid b).trans (if_neg (fun hr => hkey (hown ▸ beq_iff_eq.mp hr)))

/-- **A shared key cannot restore or list the other's files**: every file version `restore` writes for `v`, and every row of
`list-files`, comes from a snapshot whose private part decrypts with `v`'s own user key. -/
theorem shared_cannot_restore (v : User) (s : Store) (h : WF s) (sre fre : Nat → Bool) :
    (∀ fs, restore true v sre fre s = .ok fs → ∀ f ∈ fs, ∃ b, Readable true v sre s b ∧ b.owner = v.key ∧ f ∈ b.files) ∧
    (∀ rows, listFiles true v sre fre s = .ok rows → ∀ r ∈ rows, ∃ b, Readable true v sre s b ∧ b.owner = v.key ∧
        ∃ f ∈ b.files, r = (b.ts, f.path, f.ver)) := by
  have hown : ∀ b, Readable true v sre s b → b.owner = v.key := by
    rintro b ⟨_, _, _, _, _, hc⟩
    simpa using hc
  constructor
  · intro fs hr f hf
    obtain ⟨rfl, _⟩ := restore_ok h hr
    obtain ⟨_, b, hR, hfb⟩ := mem_selected h hf
    exact ⟨b, hR, hown b hR, hfb⟩
  · intro rows hr r hrm
    obtain ⟨b, hR, f, hf, _, rfl⟩ := (mem_listFiles h hr r).mp hrm
    exact ⟨b, hR, hown b hR, f, hf, rfl⟩

/-- **A shared key cannot delete the other's snapshot**: the request fails with "different key" before any mutation. -/
theorem shared_cannot_delete (u v : User) (hfam : u.fam = v.fam) (hkey : u.key ≠ v.key) (s : Store) (h : WF s)
    (sid : Nat) (b : Body) (hg : get s (.snap u.fam sid) = some (.snap u.fam sid b)) (hown : b.owner = u.key)
    (sids : List Nat) (hsid : sid ∈ sids) :
    deletePlan true v sids s = .error .differentKey ∧ step true s (.delete v sids) = s := by
  have hplan : deletePlan true v sids s = .error .differentKey :=
    deletePlan_differentKey h hg (hfam ▸ visible_own true v) hsid (beq_eq_false_iff_ne.mpr (hown ▸ hkey))
  exact ⟨hplan, step_delete_error hplan⟩

/-- **A shared key deduplicates against the other's chunks**: a snapshot uploads only chunks that are absent under the
family's names — so after `u` stored a stream, `v` (same family) uploads none of its chunks again. -/
theorem shared_dedups (u v : User) (hfam : u.fam = v.fam) (s : Store) :
    (∀ st files ts sid, ∀ n ∈ (snapshot v st files ts sid s).2, ∃ c ∈ st, n = .chunk v.fam c ∧ get s n = none) ∧
    (∀ st₁ files₁ ts₁ sid₁ st₂ files₂ ts₂ sid₂, ∀ c ∈ st₁,
        Name.chunk v.fam c ∉ (snapshot v st₂ files₂ ts₂ sid₂ (snapshot u st₁ files₁ ts₁ sid₁ s).1).2) := by
  have key : ∀ (s : Store) st files ts sid, ∀ n ∈ (snapshot v st files ts sid s).2, ∃ c ∈ st, n = .chunk v.fam c ∧ get s n = none := by
    intro s st files ts sid n hn
    obtain ⟨⟨c, hc, rfl⟩, hnone⟩ := (snapshot_uploaded_iff v st files ts sid s n).mp hn
    exact ⟨c, hc, rfl, hnone⟩
  refine ⟨key s, ?_⟩
  intro st₁ files₁ ts₁ sid₁ st₂ files₂ ts₂ sid₂ c hc hmem
  obtain ⟨c', _, hcc, hnone⟩ := key _ st₂ files₂ ts₂ sid₂ _ hmem
  -- the chunk is there after `u`'s snapshot, under the family's name, which is also `v`'s
  have hpres := (snapshot_chunk_present u st₁ files₁ ts₁ sid₁ s v.fam c).mpr (Or.inr ⟨hfam.symm, hc⟩)
  rw [hnone] at hpres
  cases hpres

/-- **Clean by a shared key keeps every chunk the other's snapshots reference** (the chunk table is readable family-wide). -/
theorem shared_clean_keeps_foreign_refs (u v : User) (hfam : u.fam = v.fam) (s : Store) (h : WF s)
    (sid : Nat) (b : Body) (hg : get s (.snap u.fam sid) = some (.snap u.fam sid b)) (c : Content) (hc : c ∈ b.chunks) :
    ∃ s', clean true v s = .ok s' ∧ get s' (.chunk v.fam c) = get s (.chunk v.fam c) := by
  obtain ⟨s', hs', sp⟩ := clean_spec (enc := true) (u := v) h
  exact ⟨s', hs', sp.chunk_keep v.fam c (Or.inl ⟨rfl, u.fam, sid, b, hg, hfam ▸ visible_own true v, trivial, hc⟩)⟩

/-- **Delete by a shared key keeps every chunk the other's snapshots reference**: whatever `v` deletes successfully, the
chunks of `u`'s snapshot (same family, different key) stay. -/
theorem shared_delete_keeps_foreign_refs (u v : User) (hfam : u.fam = v.fam) (hkey : u.key ≠ v.key) (s : Store) (h : WF s)
    (sid : Nat) (b : Body) (hg : get s (.snap u.fam sid) = some (.snap u.fam sid b)) (hown : b.owner = u.key)
    (c : Content) (hc : c ∈ b.chunks) (sids : List Nat) (s' : Store) (hdel : deleteSnapshots true v sids s = .ok s') :
    get s' (.chunk v.fam c) = get s (.chunk v.fam c) ∧ get s' (.snap u.fam sid) = get s (.snap u.fam sid) := by
  have hnot : sid ∉ sids := by
    intro hsid
    unfold deleteSnapshots at hdel
    rw [(shared_cannot_delete u v hfam hkey s h sid b hg hown sids hsid).1] at hdel
    cases hdel
  have sp := delete_spec h hdel
  -- `u`'s snapshot is visible to `v`, not requested, and references the chunk
  exact ⟨sp.chunk_keep v.fam c (Or.inr (Or.inr ⟨u.fam, sid, b, hg, hfam ▸ visible_own true v, hnot, hc⟩)),
    sp.snap_keep u.fam sid (fun hh => hnot hh.1)⟩

/-! ## clients with persistent state: a snapshot cache directory -/

/-- **A client with a cache directory runs the commands of a client without one** — every command (`list-snapshots`,
`list-files`, `restore`, `delete`, `clean`, and `snapshot`, which never reads snapshots), whatever the directory holds: nothing,
verified copies left by earlier commands of this or of any other key, stale entries, torn writes, other repositories' bytes. -/
theorem cached_client_is_uncached (hv : Gen.cacheVerified = true) (c : Cache) (v : User) (s : Store) (h : WF s) (ha : Agree c s) :
    (∀ re, loadSnapshotsC (some c) true v re s = loadSnapshots true v re s) ∧
    (∀ sids, deletePlanC (some c) true v sids s = deletePlan true v sids s ∧
        deleteSnapshotsC (some c) true v sids s = deleteSnapshots true v sids s) ∧
    (cleanPlanC (some c) true v s = cleanPlan true v s ∧ cleanC (some c) true v s = clean true v s) ∧
    (∀ sre, listSnapshotsC (some c) true v sre s = listSnapshots true v sre s) ∧
    (∀ sre fre, listFilesC (some c) true v sre fre s = listFiles true v sre fre s) ∧
    (∀ sre fre, restoreC (some c) true v sre fre s = restore true v sre fre s) := by
  have hl : ∀ re, loadSnapshotsC (some c) true v re s = loadSnapshots true v re s := fun re => by
    rw [← loadSnapshotsC_none]
    unfold loadSnapshotsC
    rw [loadCandidatesC_eq hv c true v re s h.2 ha]
  have hd : ∀ sids, deletePlanC (some c) true v sids s = deletePlan true v sids s := fun sids => by
    unfold deletePlanC
    rw [hl, ← deletePlan_eq]
  have hc : cleanPlanC (some c) true v s = cleanPlan true v s := by
    unfold cleanPlanC
    rw [hl, ← cleanPlan_eq]
  refine ⟨hl, fun sids => ⟨hd sids, ?_⟩, ⟨hc, ?_⟩, fun sre => ?_, fun sre fre => ?_, fun sre fre => ?_⟩
  · unfold deleteSnapshotsC
    rw [hd, ← deleteSnapshots_eq]
  · unfold cleanC
    rw [hc, ← clean_eq]
  · unfold listSnapshotsC
    rw [hl, ← listSnapshots_eq]
  · unfold listFilesC
    rw [hl, ← listFiles_eq]
  · unfold restoreC
    rw [hl, ← restore_eq]

/-- the same for the state transition: one mutating command of ANY user through a client with cache `c` -/
theorem cached_step_is_uncached (hv : Gen.cacheVerified = true) (c : Cache) (s : Store) (h : WF s) (ha : Agree c s) (op : Op) :
    stepC (some c) true s op = step true s op := by
  cases op with
  | snapshot u stream files ts sid => rfl
  | delete u sids =>
    simp only [stepC, step]
    rw [((cached_client_is_uncached hv c u s h ha).2.1 sids).2]
    cases deleteSnapshots true u sids s <;> rfl
  | clean u =>
    simp only [stepC, step]
    rw [(cached_client_is_uncached hv c u s h ha).2.2.1.2]
    cases clean true u s <;> rfl

/-- **Independent keys, cached client**: no command of `v` changes an object of another family, whatever `v`'s cache holds. -/
theorem independent_frame_cached (hv : Gen.cacheVerified = true) (c : Cache) (v : User) (s : Store) (h : WF s) (ha : Agree c s) (op : Op)
    (hop : match op with | .snapshot u .. => u = v | .delete u _ => u = v | .clean u => u = v)
    (n : Name) (hn : nameFam n ≠ some v.fam) :
    get (stepC (some c) true s op) n = get s n := by
  rw [cached_step_is_uncached hv c s h ha op]
  exact independent_frame v s h op hop n hn

/-- **Shared keys, cached client**: whatever `v`'s cache directory holds, `clean` by `v` keeps every chunk `u`'s snapshot
references, a successful `delete` by `v` keeps them and the snapshot, a `delete` naming `u`'s snapshot is refused with
"different key" before any mutation, and `list-snapshots` still shows the row without details. -/
theorem shared_keeps_foreign_refs_cached (hv : Gen.cacheVerified = true) (c : Cache) (u v : User) (hfam : u.fam = v.fam) (hkey : u.key ≠ v.key) (s : Store)
    (h : WF s) (ha : Agree c s) (sid : Nat) (b : Body) (hg : get s (.snap u.fam sid) = some (.snap u.fam sid b))
    (hown : b.owner = u.key) (cc : Content) (hc : cc ∈ b.chunks) :
    (∃ s', cleanC (some c) true v s = .ok s' ∧ get s' (.chunk v.fam cc) = get s (.chunk v.fam cc)) ∧
    (∀ sids s', deleteSnapshotsC (some c) true v sids s = .ok s' →
        get s' (.chunk v.fam cc) = get s (.chunk v.fam cc) ∧ get s' (.snap u.fam sid) = get s (.snap u.fam sid)) ∧
    (∀ sids, sid ∈ sids → deletePlanC (some c) true v sids s = .error .differentKey ∧ stepC (some c) true s (.delete v sids) = s) ∧
    (∀ sre, sre sid = true → ∃ rows, listSnapshotsC (some c) true v sre s = .ok rows ∧ (⟨sid, none, none⟩ : SnapRow) ∈ rows) := by
  obtain ⟨_, hd, hcl, hls, _, _⟩ := cached_client_is_uncached hv c v s h ha
  refine ⟨?_, ?_, ?_, ?_⟩
  · rw [hcl.2]
    exact shared_clean_keeps_foreign_refs u v hfam s h sid b hg cc hc
  · intro sids s' hdel
    rw [(hd sids).2] at hdel
    exact shared_delete_keeps_foreign_refs u v hfam hkey s h sid b hg hown cc hc sids s' hdel
  · intro sids hsid
    rw [(hd sids).1, cached_step_is_uncached hv c s h ha]
    exact shared_cannot_delete u v hfam hkey s h sid b hg hown sids hsid
  · intro sre hre
    rw [hls sre]
    exact shared_sees_no_details u v hfam hkey s h sid b hg hown sre hre

/-- **First a command that loads snapshots, then a destructive one, same client.**  Starting from any hash-ideal cache, after
ANY snapshot-loading command of `v` under any filter (`list-snapshots`, `list-files`, `restore`, `delete`, `clean` — the cache
becomes `cacheAfterLoad`; the other key's snapshot was loaded without its private part), `clean` / `delete` by `v` through that
cache still keep every chunk `u`'s snapshot references: what a client remembers about a snapshot it cannot decrypt never makes
the snapshot's chunk list count less. -/
theorem shared_destructive_after_load_keeps_foreign_refs (hv : Gen.cacheVerified = true) (B : Fam → Nat → Body) (c : Cache) (u v : User) (hfam : u.fam = v.fam)
    (hkey : u.key ≠ v.key) (s : Store) (h : WF s) (hB : Ideal B s) (hcB : Ideal B c) (re : Nat → Bool)
    (sid : Nat) (b : Body) (hg : get s (.snap u.fam sid) = some (.snap u.fam sid b)) (hown : b.owner = u.key)
    (cc : Content) (hc : cc ∈ b.chunks) :
    (∃ s', cleanC (some (cacheAfterLoad c true v re s)) true v s = .ok s' ∧ get s' (.chunk v.fam cc) = get s (.chunk v.fam cc)) ∧
    (∀ sids s', deleteSnapshotsC (some (cacheAfterLoad c true v re s)) true v sids s = .ok s' →
        get s' (.chunk v.fam cc) = get s (.chunk v.fam cc) ∧ get s' (.snap u.fam sid) = get s (.snap u.fam sid)) := by
  have ha : Agree (cacheAfterLoad c true v re s) s := agree_of_ideal (ideal_cacheAfterLoad hcB hB) hB
  have := shared_keeps_foreign_refs_cached hv _ u v hfam hkey s h ha sid b hg hown cc hc
  exact ⟨this.1, this.2.1⟩

/-! ## the hypotheses are not vacuous, and what is outside the quantifier -/

/-- a hand-made key file with a plaintext private section unlocks with ANY password (outside "key graphs built by init and
add-key": `built_keys_sealed`) -/
example : (unlock symKdf (⟨0, 0, .plain ⟨7⟩⟩ : KeyFile SymKey) 12345).isSome = true := by decide

/-- owner (pw 5), shared key (pw 6), independent key (pw 5 again, other salt), clone of the independent one -/
example :
    let g := build symKdf 5 1 [⟨0, .shared, 6, 2⟩, ⟨1, .independent, 5, 1⟩, ⟨2, .clone, 0, 0⟩]
    g.entries.map (fun e => userOf symKdf e e.password) = [some ⟨1, 1⟩, some ⟨2, 1⟩, some ⟨3, 2⟩, some ⟨3, 2⟩] ∧
    (g.entries.map (fun e => (unlock symKdf e.file 5).isSome)) = [true, false, true, true] := by
  decide

/-- what the shared user ⟨2,1⟩ loads (own snapshot readable, the owner's without data, the independent one not at all), may
delete, and uploads; what the independent user uploads -/
example :
    (loadSnapshots true ⟨2, 1⟩ (fun _ => true) exStore).toOption.map (·.map (fun l => (l.sid, l.data.isSome)))
      = some [(2, true), (1, false)] ∧
    (deletePlan true ⟨2, 1⟩ [1] exStore).toOption.isNone ∧ (deletePlan true ⟨2, 1⟩ [3] exStore).toOption.isNone ∧
    (deletePlan true ⟨2, 1⟩ [2] exStore).toOption.map (fun p => (p.snaps, p.chunks)) = some ([.snap 1 2], [.chunk 1 7]) ∧
    (snapshot ⟨2, 1⟩ [5, 6] [] 40 4 exStore).2 = [] ∧ (snapshot ⟨3, 2⟩ [7] [] 40 4 exStore).2 = [.chunk 2 7] := by
  decide

/-- the hypotheses of the shared-key theorems are satisfiable -/
example : ∃ rows, listSnapshots true ⟨2, 1⟩ (fun _ => true) exStore = .ok rows ∧ (⟨1, none, none⟩ : SnapRow) ∈ rows :=
  shared_sees_no_details ⟨1, 1⟩ ⟨2, 1⟩ rfl (by decide) exStore exStore_wf 1 ⟨1, 10, [5, 6], [⟨1, 1, [5, 6]⟩]⟩ (by decide) rfl
    (fun _ => true) rfl

example : deletePlan true ⟨3, 2⟩ [1] exStore = .error .notAvailable :=
  (independent_cannot_delete ⟨3, 2⟩ exStore exStore_wf [1] 1 (by simp) (by decide)).2.1 (by decide)

/-- the shared user ⟨2,1⟩ through a client whose cache directory is warm (after a `list-snapshots` that saw the owner's snapshot
#1 without its private part, and its own #2): `clean` deletes nothing, `delete [2]` removes only chunk 7, `delete [1]` is refused -/
example :
    let c := cacheAfterLoad [] true ⟨2, 1⟩ (fun _ => true) exStore
    c.map (·.1) = [.snap 1 1, .snap 1 2] ∧
    cleanPlanC (some c) true ⟨2, 1⟩ exStore = .ok [] ∧
    (deletePlanC (some c) true ⟨2, 1⟩ [2] exStore).toOption.map (fun p => (p.snaps, p.chunks)) = some ([.snap 1 2], [.chunk 1 7]) ∧
    (deletePlanC (some c) true ⟨2, 1⟩ [1] exStore).toOption.isNone := by
  decide

/-- the other hypotheses of the cached-client theorems are satisfiable (a torn entry for #2 in the shared user's directory; the
warm case is the `decide` example above) -/
example (hv : Gen.cacheVerified = true) :
    ∃ s', cleanC (some [(.snap 1 2, .blob 0)]) true ⟨2, 1⟩ exStore = .ok s' ∧ get s' (.chunk 1 6) = get exStore (.chunk 1 6) :=
  (shared_keeps_foreign_refs_cached hv [(.snap 1 2, .blob 0)] ⟨1, 1⟩ ⟨2, 1⟩ rfl (by decide) exStore exStore_wf
    (by intro f sid b b' h _; simp only [Repo.get, find?_cons, find?_nil] at h; split at h <;> simp at h)
    1 ⟨1, 10, [5, 6], [⟨1, 1, [5, 6]⟩]⟩ (by decide) rfl 6 (by simp)).1

end Replicat.C06
