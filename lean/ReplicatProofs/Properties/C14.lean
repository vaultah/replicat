import ReplicatProofs.Lemmas.SymB64
import ReplicatProofs.Lemmas.SymNames
import ReplicatProofs.Properties.C01
import ReplicatProofs.Lemmas.Inflight
/-!
# C14 — what replicat writes follows the documented repository format

Property theorems only.  Object: the writer and reader of `ReplicatModel/Sym.lean` (symbolic terms), base64 / the JSON
byte-string hint / the legacy timestamp fallback (the part "Serialisation details" of that file), the histories of its last part
(`restore_after_run*`), and the tiling theorem of C01.

PARTIAL by design (DESIGN.md §6 C14): that Python's `json`, `base64`, `hashlib` and `cryptography` produce the BYTES the format
prescribes is not a theorem about this model; it is established in the supporting role by the independent reader/writer
`harness/ref/repo_format.py` run against the real code in both directions (see `harness/props/c14.py`).
-/
namespace Replicat.C14
open Replicat Replicat.Sym
open Term (pub sec nonce key nil pair mac kdf enc)

/-- **The source still has the shape the model mirrors**: every guard / scheme flag regenerated from replicat's source by
`tools/sections/14_format.py` is `true`, the MAC depths are 1 (name) and 2 (tag) for chunks and 1 for snapshot tags, the
byte-string hint key and the metadata keys are the documented ones. -/
theorem source_scheme_recognised :
    Gen.chunkDigestVerified = true ∧ Gen.chunkReadKeyFromDigest = true ∧ Gen.chunkReadLocFromDigest = true ∧
    Gen.chunkWriteKeyFromDigest = true ∧ Gen.chunkNameMacDepth = 1 ∧ Gen.chunkTagMacDepth = 2 ∧
    Gen.chunkPlainNameIsDigest = true ∧ Gen.snapTagMacDepth = 1 ∧ Gen.snapNameIsDigest = true ∧
    Gen.snapPlainTagIsDigest = true ∧ Gen.snapStoredUnderOwnDigest = true ∧ Gen.snapTagChecked = true ∧
    Gen.snapExpectedDigestIsName = true ∧ Gen.snapDigestVerified = true ∧ Gen.snapBodyWriteScheme = true ∧
    Gen.snapBodyReadScheme = true ∧ Gen.snapForeignDataTolerated = true ∧ Gen.privateEncryptedBeforeEmit = true ∧
    Gen.configUploadIsConfigOnly = true ∧ Gen.userKeyIsKdfOfPassword = true ∧ Gen.nonceFreshPerEncrypt = true ∧
    Gen.sharedSubkeyScheme = true ∧ Gen.macScheme = true ∧ Gen.serializeUsesHints = true ∧
    Gen.bytesHintStandardB64 = true ∧ Gen.typeReverseRequiresSingleKey = true ∧ Gen.bytesHintKey = "!b" ∧
    Gen.metaNsKeys = ["st_atime_ns", "st_mtime_ns"] ∧ Gen.metaLegacyKeys = ["st_atime", "st_mtime"] ∧
    Gen.metaFallbackOnKeyError = true ∧
    Gen.privateSectionKeys = ["shared_key", "shared_kdf", "shared_kdf_params", "mac", "mac_params", "chunker_params"] ∧
    Gen.formatSectionOk = true := by
  and_intros <;> rfl

/-- **Chunk scheme.**  Encrypted: name = `Mac(digest)`, tag = `Mac(Mac(digest))`, object = `Encrypt(chunk, FastKdf(SharedKey,
SharedKdfParams, digest))`; unencrypted: name = tag = digest, object = the chunk. -/
theorem scheme_chunk (p : Props) (n c : Term) :
    (p.encrypted = true →
      chunkName p (digest c) = mac p.sh.macKey (Term.hash c) ∧
      chunkTag p (digest c) = mac p.sh.macKey (mac p.sh.macKey (Term.hash c)) ∧
      chunkObject p n c = enc (kdf p.sh.sharedKey p.sh.sharedParams (Term.hash c)) n c) ∧
    (p.encrypted = false →
      chunkName p (digest c) = Term.hash c ∧ chunkTag p (digest c) = Term.hash c ∧ chunkObject p n c = c) := by
  have h1 : Gen.chunkNameMacDepth = 1 := rfl
  have h2 : Gen.chunkTagMacDepth = 2 := rfl
  have h3 : Gen.chunkWriteKeyFromDigest = true := rfl
  constructor
  · intro he
    simp [chunkName, chunkTag, chunkObject, he, h1, h2, h3, macN, digest, subKey]
  · intro he
    simp [chunkName, chunkTag, chunkObject, he, digest]

/-- **Snapshot scheme.**  Encrypted: `{chunks: Encrypt(table, FastKdf(SharedKey, SharedKdfParams, Hash(data'))), data: data' =
Encrypt(data, UserKey)}`, name = `Hash(stored)`, tag = `Mac(name)`; unencrypted: `{chunks: table, data: data}`, tag = name. -/
theorem scheme_snapshot (p : Props) (n1 n2 table data : Term) :
    (p.encrypted = true →
      snapshotStored p n1 n2 table data =
        pair (enc (kdf p.sh.sharedKey p.sh.sharedParams (Term.hash (enc p.userKey n1 data))) n2 table) (enc p.userKey n1 data) ∧
      snapshotTag p (snapshotName (snapshotStored p n1 n2 table data)) =
        mac p.sh.macKey (Term.hash (snapshotStored p n1 n2 table data))) ∧
    (p.encrypted = false →
      snapshotStored p n1 n2 table data = pair table data ∧
      snapshotTag p (snapshotName (snapshotStored p n1 n2 table data)) = Term.hash (pair table data)) := by
  have h1 : Gen.snapTagMacDepth = 1 := rfl
  constructor
  · intro he
    simp [snapshotStored, snapshotTag, snapshotName, he, h1, macN, subKey]
  · intro he
    simp [snapshotStored, snapshotTag, snapshotName, he]

/-- **Key scheme.**  `{kdf, kdf_params: salt, private: Encrypt({SharedKey, SharedKdfParams, SharedMacKey, SharedChunkerKey, …},
UserKey)}` with `UserKey = SlowKdf(Password, salt)`. -/
theorem scheme_key (kdfcfg salt pw n : Term) (sh : Shared) :
    keyFile kdfcfg salt pw sh n =
      pair kdfcfg (pair salt (enc (kdf pw salt nil) n
        (pair sh.cfg (pair sh.sharedKey (pair sh.sharedParams (pair sh.macKey (pair sh.chunkerKey nil))))))) := rfl

/-- **reader ∘ writer = id, chunks.** -/
theorem read_written_chunk (p : Props) (n c : Term) : verifyChunk p (digest c) (chunkObject p n c) = .ok c :=
  verifyChunk_family rfl (fun _ => rfl) n c

/-- **reader ∘ writer = id, snapshots**: under the name and tag the writer files it, the snapshot object loads and yields the
chunk table and the private data that were written. -/
theorem read_written_snapshot (p : Props) (n1 n2 : Term) (table : List Term) (data : Data) :
    loadSnapshot p (snapshotTag p (snapshotName (snapshotStored p n1 n2 (encTable table) (encData data))))
        (snapshotName (snapshotStored p n1 n2 (encTable table) (encData data)))
        (snapshotStored p n1 n2 (encTable table) (encData data)) = .ok (some (table, some data)) :=
  loadSnapshot_own p n1 n2 table data

/-- **Snapshot split**: the holder of a shared key (same family secrets, another user key) reads the chunk table but not the
file data (`data = None`). -/
theorem read_written_shared (p q : Props) (hp : p.encrypted = true) (hq : q.encrypted = true) (hsh : q.sh = p.sh)
    (hk : q.userKey ≠ p.userKey) (n1 n2 : Term) (table : List Term) (data : Data) :
    loadSnapshot q (snapshotTag p (snapshotName (snapshotStored p n1 n2 (encTable table) (encData data))))
        (snapshotName (snapshotStored p n1 n2 (encTable table) (encData data)))
        (snapshotStored p n1 n2 (encTable table) (encData data)) = .ok (some (table, none)) :=
  loadSnapshot_shared p q hp hq hsh hk n1 n2 table data

/-- **reader ∘ writer = id, keys**: the right password recovers the private section and the user key. -/
theorem unlock_written (kdfcfg salt pw n : Term) (sh : Shared) :
    unlock (keyFile kdfcfg salt pw sh n) pw = .ok (userKeyOf pw salt, sh) := by
  simp [unlock, keyFile]

/-- … and any other password is refused (authentication of the private section fails). -/
theorem unlock_wrong_password (kdfcfg salt pw pw' n : Term) (sh : Shared) (h : pw' ≠ pw) :
    unlock (keyFile kdfcfg salt pw sh n) pw' = .error .decryption := by
  have : userKeyOf pw salt ≠ userKeyOf pw' salt := by
    intro e
    unfold userKeyOf at e
    injection e with e1
    exact h e1.symm
  simp [unlock, keyFile, dec_enc_ne this]

/-- **base64 round trip** on byte strings of every length. -/
theorem b64_roundtrip (bs : Bytes) : B64.decode (B64.encode bs) = some bs := B64.decode_encode bs

/-- **`type_reverse ∘ type_hint = id` on byte strings.** -/
theorem type_hint_roundtrip (bs : Bytes) : typeReverse (typeHint bs) = some (.bytes bs) := by
  simp [typeReverse, typeHint, B64.decode_encode]

/-- … and `type_reverse` leaves every other JSON value alone: objects with another single key, objects with zero or several
members, strings, numbers. -/
theorem type_reverse_passthrough :
    (∀ k v, k ≠ Gen.bytesHintKey → typeReverse (.obj1 k v) = some (.obj1 k v)) ∧
    (∀ i, typeReverse (.objN i) = some (.objN i)) ∧ (∀ s, typeReverse (.str s) = some (.str s)) ∧
    (∀ i, typeReverse (.other i) = some (.other i)) := by
  refine ⟨?_, fun _ => rfl, fun _ => rfl, fun _ => rfl⟩
  intro k v hk
  cases v <;> simp [typeReverse, hk]

/-- **Legacy metadata.**  `restore_metadata` applies nanosecond timestamps exactly when both `_ns` keys are present, and
falls back to `(st_atime, st_mtime)` (pre-1.3 snapshots) exactly when an `_ns` key is absent and both legacy keys exist. -/
theorem legacy_metadata (m : Meta) :
    (∀ a t, restoreTimes m = .ns a t ↔ m.get "st_atime_ns" = some a ∧ m.get "st_mtime_ns" = some t) ∧
    (∀ a t, restoreTimes m = .times a t ↔
      (m.get "st_atime_ns" = none ∨ m.get "st_mtime_ns" = none) ∧ m.get "st_atime" = some a ∧ m.get "st_mtime" = some t) := by
  have k1 : Gen.metaNsKeys = ["st_atime_ns", "st_mtime_ns"] := rfl
  have k2 : Gen.metaLegacyKeys = ["st_atime", "st_mtime"] := rfl
  have k3 : Gen.metaFallbackOnKeyError = true := rfl
  unfold restoreTimes
  rw [k1, k2, k3]
  rcases getAll_pair m "st_atime_ns" "st_mtime_ns" with ⟨a', t', h1, h2, hN⟩ | ⟨hn, hN⟩
  · rw [hN]
    simp [h1, h2]
  · rw [hN]
    rcases getAll_pair m "st_atime" "st_mtime" with ⟨a', t', h3, h4, hL⟩ | ⟨hl, hL⟩
    · rw [hL]
      rcases hn with hn | hn <;> simp [hn, h3, h4]
    · rw [hL]
      rcases hn with hn | hn <;> rcases hl with hl | hl <;> simp [hn, hl]

/-- **The recorded ranges tile each file exactly** — this is `C01.refs_tile` (cited, not re-proved): the slices named by a
file's references, in counter order, are the file's byte range of the padded stream. -/
theorem records_tile (s : Bytes) (f : Span) (hf : f.1 ≤ f.2) (lens : List Nat) (hsum : lens.sum = s.length) (hfe : f.2 ≤ s.length) :
    ((planFrom 0 (fileRefs f 0 (spansFrom 0 lens))).map (partData (chunksOf s lens))).flatten = slice s f.1 f.2 :=
  C01.refs_tile s f hf lens hsum hfe

/-! ## Files spanning several read blocks: `_chunk_done` while the producer is still reading

`_stream_files` reads every file in blocks of `Gen.pieceSize` bytes and the chunker adapter looks ONE block ahead, so for a
file of two or more blocks the chunks cut from its earlier blocks are uploaded and attributed (`_chunk_done`, event loop)
while the producer thread has not read its later blocks yet.  `ReplicatModel/Inflight.lean` models what `state.files` holds at
every moment of the producer (`stateAt align sizes t` = after `t` of its events: record appended / block read and counted /
digest stored / padding yielded) and `recordsAt` runs every `_chunk_done` on the view of its own moment.  The theorems below say
that this changes nothing that selects a byte — PROVIDED the record of the file being read is advanced inside the read loop
before the block is handed to the chunker (`Gen.streamEndAdvancedInReadLoop`, regenerated from the source by
`tools/sections/14_format.py`; every proof here discharges it by `decide`). -/

/-- **The producer still has the shape the model mirrors**: `stream_end` of the record is advanced by `len(block)` inside the
read loop before the block is yielded, the record starts empty at the stream position, blocks have a positive size, and the
guards of `_chunk_done` / the padding expression were recognised. -/
theorem producer_shape_recognised :
    Gen.streamEndAdvancedInReadLoop = true ∧ 0 < Gen.pieceSize ∧ Gen.chunkDoneRecognised = true ∧ Gen.paddingRecognised = true := by
  decide

/-- **What `_chunk_done` can see at ANY moment of the producer**: the files started so far are a prefix of the final layout, each
with its final start and with `stream_end` = the final end clipped to the bytes handed to the chunker so far (`viewOf`); every
file not started yet begins at or after that position. -/
theorem inflight_view (align : Nat) (sizes : List Nat) (t : Nat) :
    ∃ k, (Inflight.stateAt align sizes t).files
          = Inflight.viewOf (layout align sizes) k (Inflight.stateAt align sizes t).yielded ∧
      ∀ f ∈ (layout align sizes).drop k, (Inflight.stateAt align sizes t).yielded ≤ f.1 :=
  Inflight.stateAt_view (by decide) (by decide) align sizes t

/-- … and when `_stream_files` is exhausted the records are exactly the layout `Layout.records` / C01 work with. -/
theorem inflight_final (align : Nat) (sizes : List Nat) :
    (Inflight.run (Inflight.events align Gen.pieceSize sizes)).files = layout align sizes := by
  have := Inflight.runFrom_eventsFrom_files (by decide) align Gen.pieceSize (by decide) sizes none [] 0
  simpa [Inflight.run, Inflight.events, layout, Inflight.padOf] using this

/-- **Attribution does not depend on WHEN `_chunk_done` runs.**  For every list of file sizes (any number of read blocks per
file), every chunking of the stream, every completion order of the upload workers and every schedule `when_` (chunk `j` is
attributed after `when_ j` events of the producer) that is causal — a chunk is cut only from bytes already handed to the
chunker —, the references of every file that select at least one byte are exactly those the final layout gives (same chunk,
same range, same order).  Only zero-length references to a file that had not been started yet can be missing. -/
theorem inflight_attribution (align : Nat) (sizes lens : List Nat) (order : List Nat) (when_ : Nat → Nat)
    (hcausal : ∀ j ∈ order, ∀ c, (spansFrom 0 lens)[j]? = some c → c.2 ≤ (Inflight.stateAt align sizes (when_ j)).yielded)
    (i : Nat) :
    (refsOfIn (Inflight.recordsAt (fun j => (Inflight.stateAt align sizes (when_ j)).files) (spansFrom 0 lens) order) i).filter
        Inflight.nonEmpty
      = (refsOfIn (records (layout align sizes) (spansFrom 0 lens) order) i).filter Inflight.nonEmpty := by
  apply Inflight.recordsAt_nonEmpty _ _ (layoutFrom_sorted align 0 sizes)
  intro j hj
  obtain ⟨k, hv, hdrop⟩ := inflight_view align sizes (when_ j)
  refine ⟨k, _, hv, hdrop, ?_⟩
  intro c hc
  have := spansFrom_mem_bounds (List.mem_of_getElem? hc)
  exact ⟨this.2.1, hcausal j hj c hc⟩

/-- **The ranges recorded while files are in flight tile every file exactly.**  For every tree (files of any number of read
blocks, empty files, any alignment), every chunking of the padded stream, every completion order and every causal schedule:
the references recorded for file `i`, sorted by counter as `restore` does, select exactly the file's bytes. -/
theorem inflight_records_tile (align : Nat) (files : List Bytes) (lens : List Nat)
    (hsum : lens.sum = (streamOf align files).length) (order : List Nat) (horder : order.Perm (List.range lens.length))
    (when_ : Nat → Nat)
    (hcausal : ∀ j ∈ order, ∀ c, (spansFrom 0 lens)[j]? = some c →
      c.2 ≤ (Inflight.stateAt align (files.map List.length) (when_ j)).yielded)
    (i : Nat) (b : Bytes) (hb : files[i]? = some b) :
    ((plan (refsOfIn (Inflight.recordsAt (fun j => (Inflight.stateAt align (files.map List.length) (when_ j)).files)
        (spansFrom 0 lens) order) i)).map (partData (chunksOf (streamOf align files) lens))).flatten = b := by
  have hi : i < (layout align (files.map List.length)).length := by
    unfold layout
    rw [layoutFrom_length, List.length_map]
    exact (List.getElem?_eq_some_iff.mp hb).1
  obtain ⟨f, hf⟩ : ∃ f, (layout align (files.map List.length))[i]? = some f := ⟨_, List.getElem?_eq_getElem hi⟩
  have hsorted := layoutFrom_sorted align 0 (files.map List.length)
  have hfle : f.1 ≤ f.2 := hsorted.2 f (List.mem_of_getElem? hf)
  obtain ⟨b', hb', hslice, hlen⟩ := streamOf_slice align files i f [] hf
  simp only [List.nil_append] at hslice hlen
  cases hb.symm.trans hb'
  have hperm := C01.records_perm (layout align (files.map List.length)) (spansFrom 0 lens) hsorted order
    (by rw [spansFrom_length]; exact horder) i f hf
  have hne := inflight_attribution align (files.map List.length) lens order when_ hcausal i
  have hsort := Inflight.sort_filter_eq (fileRefs f 0 (spansFrom 0 lens)) _ (fileRefs_counters f 0 (spansFrom 0 lens)).1
    (by rw [hne]; exact hperm.filter _)
  unfold plan
  rw [← Inflight.parts_filter_nonEmpty, hsort, Inflight.parts_filter_nonEmpty,
    C01.refs_tile (streamOf align files) f hfle lens hsum hlen, hslice]

/-- **Why the record must be advanced inside the read loop** (negation witness for a producer that does not): a 5-byte file
and a file of 40 000 001 bytes (three read blocks); after the first block of the large file has been handed to the chunker
(6 events) a chunk `[0, 1 000 000)` of the stream is attributed.  With the record left at `stream_end = stream_start` until the
file has been read (here: never, no later assignment is modelled), `_chunk_done` gives the large file the EMPTY range `[8, 8)`
of that chunk and the small one `[0, 0)`; the final layout — and the producer that advances the record — give `[8, 1 000 000)`
and `[0, 5)`. -/
theorem unadvanced_record_loses_ranges :
    let evs := (Inflight.events 4 Gen.pieceSize [5, 40000001]).take 6
    let stale := (evs.foldl (Inflight.stepWith false) ⟨[], 0⟩).files
    (evs.foldl (Inflight.stepWith false) ⟨[], 0⟩).yielded = 16777224 ∧ stale = [(0, 0), (8, 8)] ∧
    chunkDone stale 0 (0, 1000000) = [(1, ⟨1, 8, 8⟩), (0, ⟨1, 0, 0⟩)] ∧
    chunkDone (Inflight.stateAt 4 [5, 40000001] 6).files 0 (0, 1000000) = [(1, ⟨1, 8, 1000000⟩), (0, ⟨1, 0, 5⟩)] ∧
    chunkDone (layout 4 [5, 40000001]) 0 (0, 1000000) = [(1, ⟨1, 8, 1000000⟩), (0, ⟨1, 0, 5⟩)] := by
  decide +kernel

/-- non-vacuity: the same tree cut into four chunks, attributed as early as causality allows (after 6, 6, 7 and 8 events: the
large file's record then ends at 16 777 224, 16 777 224, 33 554 440 and 40 000 009) by workers finishing out of order — the
records are those of the final layout; the view after 6 events is not the layout. -/
example :
    let lens := [1000000, 9000000, 10000000, 20000009]
    let whenOf : Nat → Nat := fun j => [6, 6, 7, 8].getD j 0
    (Inflight.stateAt 4 [5, 40000001] 6).files = [(0, 5), (8, 16777224)] ∧
    layout 4 [5, 40000001] = [(0, 5), (8, 40000009)] ∧
    (List.range 4).all (fun j => decide (((spansFrom 0 lens).getD j (0, 0)).2 ≤ (Inflight.stateAt 4 [5, 40000001] (whenOf j)).yielded)) = true ∧
    Inflight.recordsAt (fun j => (Inflight.stateAt 4 [5, 40000001] (whenOf j)).files) (spansFrom 0 lens) [1, 0, 3, 2]
      = [(1, [⟨2, 0, 9000000⟩, ⟨1, 8, 1000000⟩, ⟨4, 0, 20000009⟩, ⟨3, 0, 10000000⟩]), (0, [⟨1, 0, 5⟩])] ∧
    records (layout 4 [5, 40000001]) (spansFrom 0 lens) [1, 0, 3, 2]
      = [(1, [⟨2, 0, 9000000⟩, ⟨1, 8, 1000000⟩, ⟨4, 0, 20000009⟩, ⟨3, 0, 10000000⟩]), (0, [⟨1, 0, 5⟩])] := by
  decide +kernel

/-! ## History level: what the readers return on the store a whole history produces

`run a ops` is the store after `init` with arguments `a` and the commands `ops` (add-key shared / independent, snapshots by any
key, removals); `taken a ops` lists what every snapshot command captured (`Taken`: the key that wrote it, the plaintext chunks
in stream order, the private data, the two nonces) and `wfHist a ops` says that every snapshot's file list is path-unique with
references inside its chunk table and that no removal takes a chunk of a snapshot it leaves behind (`opOk`; what C02 / C08
establish for `delete` / `clean`).  These are definitions of `ReplicatModel/Sym.lean`, executed by the driver (`sym.run_restore`)
on the histories the real `Repository` is driven through. -/

/-- the key recorded for a snapshot is key number `t.user` of the history -/
theorem taken_by_key_of_history (a : InitArgs) (ops : List Op) (hwf : wfHist a ops = true) (t : Taken) (ht : t ∈ taken a ops) :
    ∃ u, (run a ops).users[t.user]? = some u ∧ t.p = u.props a.encrypted := by
  obtain ⟨⟨u, hu, hp⟩, _⟩ := (ti_run a ops hwf).ok t ht
  rw [run_encrypted] at hp
  exact ⟨u, hu, hp⟩

/-- **Restore after any well-formed history.**  For every snapshot `t` taken in the history whose object is still present in
the final store, `restore` by its name with the key that wrote it returns normally, and returns exactly what was recorded when
it was taken: per file (in recorded order) the path, the captured ranges of the captured chunk plaintexts in counter order
(`recordedFiles` = `honestParts` of the de-duplicated plaintext table) and the metadata record handed to `restore_metadata`.
Whatever else the history did — other keys, other families, de-duplicated or re-uploaded chunks, later removals — is invisible.
(That the ranges tile the file is `records_tile`; that nothing ELSE can be returned from a tampered store is C04.) -/
theorem restore_after_run (a : InitArgs) (ops : List Op) (hwf : wfHist a ops = true) (t : Taken) (ht : t ∈ taken a ops)
    (hpres : lookup (run a ops).store t.loc ≠ none) :
    ∃ out, recordedFiles t.contents t.data.files = some out ∧
      restoreMd t.p (run a ops).store t.name = .ok out ∧
      restore t.p (run a ops).store t.name = .ok (out.map fun w => (w.1, w.2.1)) := by
  obtain ⟨out, h1, h2⟩ := restoreMd_taken (hinv_run a ops) (ti_run a ops hwf) t ht hpres
  refine ⟨out, h1, h2, ?_⟩
  rw [restore_eq_restoreMd, h2]
  rfl

/-- … spelled out per column: the restored paths and metadata records are the recorded ones in recorded order, and every
file's parts are `honestParts` of its references sorted by counter.  The metadata record is what `restore_metadata` receives;
which timestamps it then sets is `legacy_metadata`. -/
theorem restore_after_run_columns (a : InitArgs) (ops : List Op) (hwf : wfHist a ops = true) (t : Taken) (ht : t ∈ taken a ops)
    (hpres : lookup (run a ops).store t.loc ≠ none) :
    ∃ out, restoreMd t.p (run a ops).store t.name = .ok out ∧
      out.map (fun w => (w.1, w.2.2)) = t.data.files.map (fun f => (f.path, f.md)) ∧
      out.map (fun w => some w.2.1) = t.data.files.map (fun f => honestParts t.contents (isort Sym.refLE f.refs)) := by
  obtain ⟨out, h1, h2, _⟩ := restore_after_run a ops hwf t ht hpres
  exact ⟨out, h2, recordedFiles_columns _ _ _ h1⟩

/-- **Another key of the same family** (any key `j ≠ t.user` of the history with the same private section — added with
`--shared`, directly or transitively): `_load_snapshots` by the snapshot's name yields its chunk table and no private data, and
`restore` writes nothing (as `read_written_shared`, here for the whole store). -/
theorem restore_after_run_shared (a : InitArgs) (ops : List Op) (hwf : wfHist a ops = true) (he : a.encrypted = true)
    (t : Taken) (ht : t ∈ taken a ops) (hpres : lookup (run a ops).store t.loc ≠ none)
    (j : Nat) (v : User) (hj : (run a ops).users[j]? = some v) (hne : j ≠ t.user) (hfam : v.sh = t.p.sh) :
    loadBodies (v.props true) t.name (snapEntries (run a ops).store) = .ok [(t.table, none)] ∧
    restoreMd (v.props true) (run a ops).store t.name = .ok [] ∧
    restore (v.props true) (run a ops).store t.name = .ok [] := by
  obtain ⟨u, hu, hp⟩ := taken_by_key_of_history a ops hwf t ht
  have hi := hinv_run a ops
  have hk : (v.props true).userKey ≠ t.p.userKey := by
    rw [hp]
    exact userKey_ne hi.hu hu hj (fun e => hne e.symm) _
  have hte : t.p.encrypted = true := by rw [hp]; exact he
  obtain ⟨h1, h2⟩ := unreadable_taken hi t hpres
    (loadSnapshot_shared t.p (v.props true) hte rfl hfam hk t.n1 t.n2 t.table t.data) (fun _ hb => Option.some.inj hb ▸ rfl)
  refine ⟨h1, h2, ?_⟩
  rw [restore_eq_restoreMd, h2]
  rfl

/-- **A key of another family** (any key of the history whose MAC key differs — added without `--shared`, or shared from
such a key): nothing of the snapshot is visible — the listing skips it (tag check) and `restore` writes nothing. -/
theorem restore_after_run_independent (a : InitArgs) (ops : List Op) (hwf : wfHist a ops = true) (he : a.encrypted = true)
    (t : Taken) (ht : t ∈ taken a ops) (hpres : lookup (run a ops).store t.loc ≠ none)
    (v : User) (hfam : v.sh.macKey ≠ t.p.sh.macKey) :
    loadBodies (v.props true) t.name (snapEntries (run a ops).store) = .ok [] ∧
    restoreMd (v.props true) (run a ops).store t.name = .ok [] ∧
    restore (v.props true) (run a ops).store t.name = .ok [] := by
  obtain ⟨u, _, hp⟩ := taken_by_key_of_history a ops hwf t ht
  have hte : t.p.encrypted = true := by rw [hp]; exact he
  obtain ⟨h1, h2⟩ := unreadable_taken (hinv_run a ops) t hpres
    (loadSnapshot_other_family t.p (v.props true) hte rfl hfam t.name t.stored) (fun _ hb => nomatch hb)
  refine ⟨h1, h2, ?_⟩
  rw [restore_eq_restoreMd, h2]
  rfl

/-- **Two keys of a history are in the same family or have different MAC keys** — so the two theorems above cover every
other key of the history. -/
theorem families_partition (a : InitArgs) (ops : List Op) (u v : User) (hu : u ∈ (run a ops).users) (hv : v ∈ (run a ops).users) :
    u.sh = v.sh ∨ u.sh.macKey ≠ v.sh.macKey := by
  by_cases h : u.sh.macKey = v.sh.macKey
  · exact Or.inl ((hinv_run a ops).hu.fam u hu v hv h)
  · exact Or.inr h

/-- **No name collisions** (EVERY history, no hypothesis): two entries ever emitted under one name — backend uploads and key
files — carry the same content, up to the nonce of a repeated AEAD encryption of the same plaintext under the same key (a chunk
that was removed and uploaded again). -/
theorem names_unique (a : InitArgs) (ops : List Op) (e1 e2 : Term × Term) (h1 : e1 ∈ written a ops) (h2 : e2 ∈ written a ops)
    (hn : e1.1 = e2.1) : e1.2 = e2.2 ∨ ∃ k n n' m, e1.2 = enc k n m ∧ e2.2 = enc k n' m :=
  sameUpToNonce_spec (log_names_unique (hinv_run a ops) e1 e2 h1 h2 hn)

/-- … and in a history without removals the contents are EQUAL: nothing is ever emitted twice under one name with other bytes. -/
theorem names_unique_no_removal (a : InitArgs) (ops : List Op) (hops : ∀ op ∈ ops, op.isRemove = false) (e1 e2 : Term × Term)
    (h1 : e1 ∈ written a ops) (h2 : e2 ∈ written a ops) (hn : e1.1 = e2.1) : e1.2 = e2.2 := by
  have hnr := nr_run a ops hops
  have hi := hinv_run a ops
  rcases hnr e1 h1 with ⟨i, hk⟩ | hl1
  · exact hi.hl.keyUniq e1 h1 e2 h2 i hk (by rw [← hn]; exact hk)
  · rcases hnr e2 h2 with ⟨i, hk⟩ | hl2
    · exact hi.hl.keyUniq e1 h1 e2 h2 i (by rw [hn]; exact hk) hk
    · -- both are stored, and the store is a map
      have l1 := lookup_of_mem_nodup hi.hs.nodup hl1
      rw [hn, lookup_of_mem_nodup hi.hs.nodup hl2] at l1
      exact (Option.some.inj l1).symm

/-- **The store is a map** (EVERY history): no location occurs twice, every stored object was emitted, and `lookup` finds
exactly the stored pairs — which is what makes `run` a function from locations to objects. -/
theorem store_is_map (a : InitArgs) (ops : List Op) :
    ((run a ops).store.map (·.1)).Nodup ∧ (∀ e ∈ (run a ops).store, e ∈ written a ops) ∧
    ∀ loc obj, (loc, obj) ∈ (run a ops).store ↔ lookup (run a ops).store loc = some obj := by
  have hi := hinv_run a ops
  exact ⟨hi.hs.nodup, hi.hs.sub, fun loc obj => ⟨lookup_of_mem_nodup hi.hs.nodup, lookup_some_mem⟩⟩

/-! non-vacuity of the history-level theorems: an encrypted repository with three keys — key 1 shared from key 0, key 2
independent —, four snapshots by keys 0, 1, 2, 0, the first one removed together with the chunk only it uses.  The history is
well formed; the snapshots of keys 1, 2 and the second of key 0 are present; each restores for its owner to what was recorded;
key 0 sees the table of key 1's snapshot without data, key 2 nothing of it.  The last snapshot uploads chunk `sec 1` AGAIN (it
was removed), so `written` holds two different ciphertexts under that chunk's name: the strict form of `names_unique` is false
for histories with removals. -/
private def exA : InitArgs := ⟨true, pub 10, pub 11, pub 12, sec 100⟩
private def exD0 : Data :=
  ⟨1, [⟨sec 50, [⟨1, 2, 0, 3⟩, ⟨0, 1, 0, 4⟩], Term.hash (sec 60), sec 70⟩, ⟨sec 51, [⟨0, 1, 4, 8⟩], Term.hash (sec 61), sec 71⟩], sec 80⟩
private def exD1 : Data := ⟨2, [⟨sec 50, [⟨1, 2, 0, 2⟩, ⟨0, 1, 0, 5⟩], Term.hash (sec 62), sec 72⟩], nil⟩
private def exOps0 : List Op :=
  [.addKey 0 true (pub 11) (pub 12) (sec 101), .addKey 0 false (pub 11) (pub 13) (sec 102),
   .snapshot 0 [sec 1, sec 2, sec 1] exD0, .snapshot 1 [sec 2, sec 3] exD1]
private def exRemove : Op :=
  match taken exA exOps0 with
  | t0 :: _ => .remove [t0.loc, chunkLoc t0.p (digest (sec 1))]
  | _ => .remove []
private def exOps : List Op :=
  exOps0 ++ [exRemove, .snapshot 2 [sec 1] ⟨3, [⟨sec 52, [⟨0, 1, 0, 1⟩], nil, sec 73⟩], nil⟩, .snapshot 0 [sec 1] ⟨4, [], nil⟩]
private def exStore : Store := (run exA exOps).store
private def exProps (i : Nat) : Props := ((run exA exOps).users.getD i default).props true

example :
    wfHist exA exOps = true ∧
    (taken exA exOps).map (fun t => (t.user, (lookup exStore t.loc).isSome)) = [(0, false), (1, true), (2, true), (0, true)] := by
  decide +kernel

set_option synthInstance.maxSize 1024 in
example :
    (taken exA exOps).map (fun t => restoreMd t.p exStore t.name) =
      [.ok [], .ok [(sec 50, [(sec 2, 0, 5), (sec 3, 0, 2)], sec 72)], .ok [(sec 52, [(sec 1, 0, 1)], sec 73)], .ok []] ∧
    (taken exA exOps).map (fun t => restoreMd (exProps 2) exStore t.name) =
      [.ok [], .ok [], .ok [(sec 52, [(sec 1, 0, 1)], sec 73)], .ok []] := by
  decide +kernel

set_option synthInstance.maxSize 1024 in
example :
    (taken exA exOps).map (fun t => loadBodies (exProps 0) t.name (snapEntries exStore)) =
      [.ok [], .ok [([digest (sec 2), digest (sec 3)], none)], .ok [], .ok [([digest (sec 1)], some ⟨4, [], nil⟩)]] := by
  decide +kernel

/-- **The strict form of `names_unique` is false once chunks are removed and uploaded again** (model and code: the second
upload is a fresh encryption): in the history above two entries of `written` have the same name and different contents. -/
theorem reupload_changes_ciphertext :
    ∃ e1 ∈ written exA exOps, ∃ e2 ∈ written exA exOps, e1.1 = e2.1 ∧ e1.2 ≠ e2.2 := by
  -- chunk `sec 1`, uploaded by the first snapshot of key 0 and again, after its removal, by the last one
  have h : (chunkLoc (exProps 0) (digest (sec 1)), chunkObject (exProps 0) (nonce 14) (sec 1)) ∈ written exA exOps ∧
      (chunkLoc (exProps 0) (digest (sec 1)), chunkObject (exProps 0) (nonce 26) (sec 1)) ∈ written exA exOps := by
    decide +kernel
  refine ⟨_, h.1, _, h.2, rfl, fun e => ?_⟩
  injection e with _ e _
  cases e

/-- non-vacuity: concrete base64 texts (`"Zm9v"`, `"Zm8="`, `"Zg=="`), a legacy and a modern metadata record -/
example :
    B64.encode [102, 111, 111] = [90, 109, 57, 118] ∧ B64.encode [102, 111] = [90, 109, 56, 61] ∧
    B64.encode [102] = [90, 103, 61, 61] ∧ B64.decode [90, 109, 56, 61] = some [102, 111] ∧
    restoreTimes [("st_mode", 1), ("st_atime", 5), ("st_mtime", 6)] = .times 5 6 ∧
    restoreTimes [("st_atime_ns", 7), ("st_mtime_ns", 8), ("st_atime", 5), ("st_mtime", 6)] = .ns 7 8 ∧
    restoreTimes [("st_atime_ns", 7), ("st_mtime", 6)] = .keyError := by
  decide +kernel

end Replicat.C14
