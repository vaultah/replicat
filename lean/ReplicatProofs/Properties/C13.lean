import ReplicatProofs.Lemmas.Store
import ReplicatProofs.Lemmas.Paging
import ReplicatProofs.Lemmas.LocalSpec
import ReplicatProofs.Lemmas.ObjCmd
import ReplicatProofs.Lemmas.StoreLocation
import ReplicatProofs.Lemmas.LocalConc
/-!
# C13 — all backends behave as the same simple object store

Specification: `Store.Spec = Name → Option Bytes` with `Store.SpecStep` (what every operation must return and do).
Property theorems only; helper lemmas live in `Lemmas/` (`Store`, `Paging`, `StoreLocation`, `LocalFS`, `LocalSpec`, `LocalList`,
`LocalUpload`, `ObjCmd`, `LocalConc`).
-/
namespace Replicat.C13
open Replicat Replicat.Store Replicat.Paging Replicat.LocalFS

/-- side conditions every adapter shares: the streamed variants are called with a chunk size ≥ 1 -/
def ChunkOk : Op → Prop
  | .uploadStream _ _ c => 1 ≤ c
  | .downloadStream _ c _ => 1 ≤ c
  | _ => True

/-- the name an operation addresses satisfies `P` (listings: no condition) -/
def NameOk (P : Name → Prop) (op : Op) : Prop :=
  match op.name? with
  | some n => P n
  | none => True

/-- **S3 pagination is complete.** Against every protocol-conformant service (any split of the matching keys into pages,
any order of the XML elements inside a page) the `IsTruncated` / `NextContinuationToken` loop returns exactly the keys the
service holds, in order, each as often as served, sends exactly one request per page, and terminates: any fuel ≥ the number
of pages gives the same result. -/
theorem s3_paging_complete (respond : Option Name → List Elem) (ks : List Name) (n : Nat)
    (hc : S3Conf respond none ks n) (fuel : Nat) (hf : n ≤ fuel) :
    s3List respond fuel = some ks ∧ s3Requests respond fuel ⟨Gen.s3LoopStartsTruncated, none⟩ = n := by
  unfold s3List
  rw [gen_startsTruncated]
  exact s3Loop_conf respond none ks n hc fuel hf

/-- **B2 pagination is complete** (`nextFileName` loop), same statement. -/
theorem b2_paging_complete (respond : Option Name → B2Page) (ks : List Name) (n : Nat)
    (hc : B2Conf respond none ks n) (fuel : Nat) (hf : n ≤ fuel) :
    b2List respond fuel = some ks ∧ b2Requests respond fuel none = n :=
  b2Loop_conf respond none ks n hc fuel hf

/-- **Every page size ≥ 1.** The services that cut the listing into pages of `ps` names are protocol-conformant, so both
loops return exactly the names the service holds, each once, however many pages that takes. -/
theorem paging_complete (ps : Nat) (hps : 1 ≤ ps) (names : List Name) (hnd : names.Nodup) :
    s3List (s3Serve ps names) (names.length + 1) = some names ∧
    b2List (b2Serve ps names) (names.length + 1) = some names :=
  ⟨s3List_serve ps hps names, b2List_serve ps hps names hnd⟩

/-- the flag test and the sticky token are what the loop really depends on: a page that says `IsTruncated = true` and
carries no token makes the loop ask for the same page again (so the conformance hypothesis is not vacuous) -/
theorem s3_nonconformant_witness :
    s3List (fun _ => [(tagIsTruncated, "true".toList), (tagKey, "k".toList)]) 5 = none := by decide +kernel

/-- **Streamed transfers are lossless** for every chunk size ≥ 1: the bytes that reach the service are the payload, and a
sink with arbitrary previous content holds exactly the object afterwards. -/
theorem stream_lossless (c : Nat) (hc : 1 ≤ c) (d sink : Bytes) : streamed c d = d ∧ sinkAfter sink c d = d :=
  ⟨streamed_eq c hc d, sinkAfter_eq sink c hc d⟩

/-- the association-list store run by the driver is the specification -/
theorem map_refines (s : MapStore) (hinv : s.Inv) (op : Op) :
    (s.step op).1.Inv ∧ SpecStep s.abs op (s.step op).1.abs (s.step op).2 := by
  cases op with
  | upload n d | uploadStream n d c => exact ⟨MapStore.inv_put s n d hinv, MapStore.abs_put s n d, rfl⟩
  | delete n => exact ⟨MapStore.inv_erase s n hinv, MapStore.abs_erase s n, rfl⟩
  | exists_ n | download n | downloadStream n c sink => exact ⟨hinv, rfl, rfl⟩
  | list pfx =>
    obtain ⟨h1, h2⟩ := MapStore.list_ok s hinv pfx
    exact ⟨hinv, rfl, _, rfl, h1, h2⟩

/-- **The S3 adapter refines the map**, for every page size ≥ 1, on names without `.`/`..` segments: every operation
returns what the map returns and commutes with the abstraction (PUT replaces, DELETE is idempotent, HEAD/GET agree with the
map, listing = the live names with the prefix, each once). -/
theorem s3_refines (ps : Nat) (hps : 1 ≤ ps) (s : S3) (hinv : MapStore.Inv s) (op : Op)
    (hn : NameOk (fun n => hasDotSegment n = false) op) (hc : ChunkOk op) :
    MapStore.Inv (S3.step ps s op).1 ∧ SpecStep (MapStore.abs s) op (MapStore.abs (S3.step ps s op).1) (S3.step ps s op).2 := by
  have h := map_refines s hinv op
  cases op with
  | upload n d | delete n | exists_ n | download n => rwa [S3.step, s3Guard_ok hn]
  | uploadStream n d c => rwa [S3.step, s3Guard_ok hn, streamed_eq c hc d]
  | downloadStream n c sink =>
    rw [S3.step, s3Guard_ok hn]
    simp only [sinkAfter_eq sink c hc]
    exact h
  | list pfx =>
    rw [S3.step]
    simp only [s3List_serve ps hps]
    exact h

/-- forced hypothesis (D8): for a name with a dot segment the S3 adapter does not behave like the map — the signed path and
the path httpx sends differ, the service answers 403 and nothing is stored -/
theorem s3_dot_segment_witness :
    hasDotSegment "a/../b".toList = true ∧
    (S3.step 1000 [] (.upload "a/../b".toList [1])).2 = .error .forbidden ∧
    ¬ SpecStep (MapStore.abs []) (.upload "a/../b".toList [1]) (MapStore.abs (S3.step 1000 [] (.upload "a/../b".toList [1])).1)
      (S3.step 1000 [] (.upload "a/../b".toList [1])).2 := by
  refine ⟨by decide +kernel, by decide +kernel, ?_⟩
  intro h
  have : (S3.step 1000 [] (.upload "a/../b".toList [1])).2 = .unit := h.2
  exact absurd this (by decide)

/-- **The B2 adapter refines the map**, for every page size ≥ 1, on names that survive being put unquoted into a URL
(`b2Addr n = some n`): uploads push a version, `delete` hides (idempotent because `already_hidden` / `no_such_file` are
tolerated — read from the source), download / exists see the newest version iff it is an upload, and listing returns the
names whose newest version is an upload, each once, whatever versions and hide markers lie below. -/
theorem b2_refines (ps : Nat) (hps : 1 ≤ ps) (s : B2) (hinv : s.Inv) (op : Op)
    (hn : NameOk (fun n => b2Addr n = some n) op) (hc : ChunkOk op) :
    (B2.step ps s op).1.Inv ∧ SpecStep s.abs op (B2.step ps s op).1.abs (B2.step ps s op).2 := by
  cases op with
  | upload n d => exact ⟨B2.inv_setVersions s n _ hinv, B2.abs_upload s n d _, rfl⟩
  | uploadStream n d c =>
    rw [B2.step, streamed_eq c hc d]
    exact ⟨B2.inv_setVersions s n _ hinv, B2.abs_upload s n d _, rfl⟩
  | delete n =>
    have htol1 : (400 = Gen.b2ToleratedHideStatus ∧ "no_such_file" ∈ Gen.b2ToleratedHideCodes) := by decide
    have htol2 : (400 = Gen.b2ToleratedHideStatus ∧ "already_hidden" ∈ Gen.b2ToleratedHideCodes) := by decide
    have hidden : ∀ vs, s.versions n = vs → headUp vs = none → s.abs = s.abs.del n := fun vs hv hh =>
      (B2.abs_del_of_not_visible s n (by rw [B2.visible, hv, hh])).symm
    rw [B2.step, B2.hideFile]
    cases hv : s.versions n with
    | nil =>
      simp only [if_pos htol1]
      exact ⟨hinv, hidden _ hv rfl, rfl⟩
    | cons v vs =>
      cases v with
      | hide =>
        simp only [if_pos htol2]
        exact ⟨hinv, hidden _ hv rfl, rfl⟩
      | up d => exact ⟨B2.inv_setVersions s n _ hinv, B2.abs_hide s n _, rfl⟩
  | exists_ n | download n =>
    rw [B2.step, show b2Addr n = some n from hn]
    exact ⟨hinv, rfl, rfl⟩
  | downloadStream n c sink =>
    rw [B2.step, show b2Addr n = some n from hn]
    simp only [sinkAfter_eq sink c hc]
    exact ⟨hinv, rfl, rfl⟩
  | list pfx =>
    have h1 := (B2.nodup_liveNames s hinv).filter (fun k => pfx.isPrefixOf k)
    rw [B2.step]
    simp only [b2List_serve ps hps _ h1]
    refine ⟨hinv, rfl, _, rfl, h1, fun n => ?_⟩
    simp only [List.mem_filter, B2.mem_liveNames s hinv, List.isPrefixOf_iff_prefix, B2.abs]

/-- the hypothesis of `b2_refines` in terms of characters: names without `.`/`..` segments and without `? # % +` qualify -/
theorem b2_safe_names (n : Name) (hdot : hasDotSegment n = false)
    (hchars : ∀ c ∈ n, c ≠ '?' ∧ c ≠ '#' ∧ c ≠ '%' ∧ c ≠ '+') : b2Addr n = some n :=
  b2Addr_safe n hdot hchars

/-- forced hypothesis (D8): B2 object names are put into the download URL unquoted; `?` ends the path, so `exists` looks at
another object — after uploading `a?b` the adapter reports it missing -/
theorem b2_url_metachar_witness :
    b2Addr "a?b".toList = some "a".toList ∧
    (B2.step 1000 (B2.step 1000 [] (.upload "a?b".toList [1])).1 (.exists_ "a?b".toList)).2 = .bool false ∧
    ((B2.step 1000 [] (.upload "a?b".toList [1])).1.abs "a?b".toList).isSome = true := by
  decide +kernel

/-- **The local adapter refines the map** (every operation except listing, which has its own theorems below), for every
spelling `root` of the repository location, over a name universe `U` of canonical names none of which is a directory prefix
of another: the temp-file-and-rename upload replaces the object, `unlink(missing_ok=True)` makes delete idempotent,
`os.path.exists` / `read_bytes` agree with the map; the invariant `Inv U` (used by the listing theorems) is preserved. -/
theorem local_refines (U : Path → Prop) (hU : Universe U) (root : List Char) (fs : FS) (hinv : Inv U fs) (op : Op)
    (hn : NameOk (fun n => validName n = true ∧ U (splitSlash n)) op) (hc : ChunkOk op) (hop : op.name?.isSome = true) :
    Inv U (LocalFS.step root fs op).1 ∧
    SpecStep fs.abs op (LocalFS.step root fs op).1.abs (LocalFS.step root fs op).2 := by
  have hmiss : Gen.localUnlinkMissingOk = true := by decide
  cases op with
  | list pfx => cases hop
  | upload n d =>
    simp only [LocalFS.step, relPath_valid hn.1, splitSlash_ne_nil n, not_blocked hU hinv hn.2, not_isDir hU hinv hn.2, false_or,
      Bool.false_eq_true, if_false]
    exact ⟨inv_upload hinv hn.2 d, abs_upload fs hn.1 d, rfl⟩
  | uploadStream n d c =>
    simp only [LocalFS.step, relPath_valid hn.1, splitSlash_ne_nil n, not_blocked hU hinv hn.2, not_isDir hU hinv hn.2, false_or,
      Bool.false_eq_true, if_false, streamed_eq c hc d]
    exact ⟨inv_upload hinv hn.2 d, abs_upload fs hn.1 d, rfl⟩
  | delete n =>
    simp only [LocalFS.step, relPath_valid hn.1, kind_of_U hU hinv hn.2]
    cases hf : fs.isFile (splitSlash n) with
    | true => exact ⟨inv_erase hinv _, abs_erase fs hn.1, rfl⟩
    | false =>
      have hnone : fs.abs n = none := by
        rw [FS.abs, if_pos hn.1]
        simpa [FS.isFile] using hf
      simp only [Bool.false_eq_true, if_false, not_blocked hU hinv hn.2, hmiss, if_true]
      exact ⟨hinv, (abs_del_of_none fs n hnone).symm, rfl⟩
  | exists_ n =>
    simp only [LocalFS.step, relPath_valid hn.1, kind_of_U hU hinv hn.2]
    refine ⟨hinv, rfl, ?_⟩
    rw [FS.abs, if_pos hn.1]
    show _ = Ret.bool (fs.isFile (splitSlash n))
    cases fs.isFile (splitSlash n) <;> rfl
  | download n =>
    rw [step_download hU hinv root hn.1 hn.2]
    exact ⟨hinv, rfl, rfl⟩
  | downloadStream n c sink =>
    rw [step_downloadStream hU hinv root hn.1 hn.2]
    simp only [sinkAfter_eq sink c hc]
    exact ⟨hinv, rfl, rfl⟩

/-- **Local listing, as the code computes it.**  For a repository location with at least one pathlib part and a prefix whose
directory part is normal, `list_files` (split the prefix, scan, recurse, drop `*.tmp`, slice by the root string) returns
exactly the live names that start with the prefix *and do not end in `.tmp`*, each once. -/
theorem local_list_spec (U : Path → Prop) (hU : Universe U) (fs : FS) (hinv : Inv U fs)
    (root : List Char) (hroot : goodRoot root = true) (pfx : Name) (hp : normalPrefix pfx = true) :
    ∃ l, LocalFS.list root fs pfx = .names l ∧ l.Nodup ∧
      ∀ n, n ∈ l ↔ (fs.abs n).isSome = true ∧ pfx <+: n ∧ tmpName n = false := by
  obtain ⟨ds, bn, hds, hbn, rfl⟩ := normalPrefix_split pfx hp
  have hroot' : (pparse root).parts ≠ [] := by simpa [goodRoot] using hroot
  refine ⟨_, list_normal_form hU hinv root hroot' ds hds bn hbn, (nodup_listNF hU hinv ds bn).filter _, ?_⟩
  intro n
  simp only [List.mem_filter, mem_listNF hU hinv ds hds bn hbn, abs_isSome_iff hU hinv, tmpName, Bool.not_eq_true']
  constructor
  · rintro ⟨⟨q, hq, rfl, hpre⟩, ht⟩; exact ⟨⟨q, hq, rfl⟩, hpre, ht⟩
  · rintro ⟨⟨q, hq, rfl⟩, hpre, ht⟩; exact ⟨⟨q, hq, rfl, hpre⟩, ht⟩

/-- **Local listing refines the map** — `_partial`: besides the universe of the property it needs (i) a repository location
with at least one pathlib part (fails for `.`, `''`, `./`: D6), (ii) a prefix whose directory part is a normal relative
path, (iii) no object name ending in `.tmp` (D7).  Missing for the full statement: (i) is what a backend that slices by the
root string as spelled gets wrong (the source makes the root absolute, `Gen.localRootMadeAbsolute`), (iii) is a defect of the
code (witnesses below for both), (ii) is where `os.path.split` / pathlib normalisation and plain string prefixes part ways. -/
theorem local_list_refines_partial (U : Path → Prop) (hU : Universe U) (fs : FS) (hinv : Inv U fs)
    (root : List Char) (hroot : goodRoot root = true) (pfx : Name) (hp : normalPrefix pfx = true)
    (hnotmp : ∀ p, U p → tmpName (joinSlash p) = false) :
    Inv U (LocalFS.step root fs (.list pfx)).1 ∧
    SpecStep fs.abs (.list pfx) (LocalFS.step root fs (.list pfx)).1.abs (LocalFS.step root fs (.list pfx)).2 := by
  obtain ⟨l, hl, hnd, hmem⟩ := local_list_spec U hU fs hinv root hroot pfx hp
  -- unfolded first: unifying `hl` with the projection of `step` is slow
  simp only [LocalFS.step]
  refine ⟨hinv, rfl, l, hl, hnd, fun n => ?_⟩
  rw [hmem]
  refine ⟨fun h => ⟨h.1, h.2.1⟩, fun h => ⟨h.1, h.2, ?_⟩⟩
  obtain ⟨q, hq, rfl⟩ := (abs_isSome_iff hU hinv n).mp h.1
  exact hnotmp q (hinv.filesU q hq)

/-- **The spelling of the repository location does not matter**: two locations with at least one pathlib part give the same
listing (same list, not only the same set) for every prefix with a normal directory part, and every other operation does
not look at the spelling at all. -/
theorem root_spelling (U : Path → Prop) (hU : Universe U) (fs : FS) (hinv : Inv U fs)
    (r1 r2 : List Char) (h1 : goodRoot r1 = true) (h2 : goodRoot r2 = true) (op : Op)
    (hop : ∀ pfx, op = .list pfx → normalPrefix pfx = true) :
    LocalFS.step r1 fs op = LocalFS.step r2 fs op := by
  cases op with
  | list pfx =>
    obtain ⟨ds, bn, hds, hbn, rfl⟩ := normalPrefix_split pfx (hop pfx rfl)
    have h1' : (pparse r1).parts ≠ [] := by simpa [goodRoot] using h1
    have h2' : (pparse r2).parts ≠ [] := by simpa [goodRoot] using h2
    simp only [LocalFS.step, list_normal_form hU hinv r1 h1' ds hds bn hbn, list_normal_form hU hinv r2 h2' ds hds bn hbn]
  | _ => rfl

/-- D6 (witness for a backend that slices by the root string as spelled): with the root `.` and a prefix that has a directory part,
every returned name of the model has lost its first two characters (`Path('.') / 'data'` is `data`, not `./data`, but
`len('.') + 1` characters are cut).  The source makes the root absolute (`Gen.localRootMadeAbsolute`); the harness rewrites the root
before it reaches the model. -/
theorem d6_root_dot_witness :
    goodRoot ".".toList = false ∧
    LocalFS.list ".".toList (FS.empty.upload ["data".toList, "ab".toList] [1]) "data/".toList = .names ["ta/ab".toList] ∧
    LocalFS.list "repo".toList (FS.empty.upload ["data".toList, "ab".toList] [1]) "data/".toList = .names ["data/ab".toList] := by
  decide +kernel

/-- D7, forced hypothesis (iii): an object whose name ends in `.tmp` exists, can be downloaded, and is never listed -/
theorem d7_tmp_hidden_witness :
    ((FS.empty.upload ["a".toList, "x.tmp".toList] [1]).abs "a/x.tmp".toList).isSome = true ∧
    LocalFS.list "repo".toList (FS.empty.upload ["a".toList, "x.tmp".toList] [1]) "a/".toList = .names [] := by
  decide +kernel

/-- hypothesis (ii) is needed: for the prefix `a//` the code lists `a/b`, which does not start with `a//` -/
theorem abnormal_prefix_witness :
    normalPrefix "a//".toList = false ∧
    LocalFS.list "repo".toList (FS.empty.upload ["a".toList, "b".toList] [1]) "a//".toList = .names ["a/b".toList] ∧
    ¬ ("a//".toList <+: "a/b".toList) := by
  decide +kernel

/-- **An upload replaces the object atomically**: after each of the file-system steps of an upload (create the parent
directories, create the temporary, write it, rename it over the destination) every name that does not end in `.tmp` reads —
through `exists`, `download` and listings, i.e. through the abstraction — either as before the upload or as after it; the
switch happens at the rename.  (A failed attempt's cleanup and power-loss durability are not modelled here.) -/
theorem local_upload_atomic (fs : FS) (n : Name) (rnd : List Char) (d : Bytes) (k : Nat) :
    (∀ m, tmpName m = false → (uploadState fs (splitSlash n) rnd d k).abs m = fs.abs m) ∨
    (∀ m, tmpName m = false → (uploadState fs (splitSlash n) rnd d k).abs m = (fs.upload (splitSlash n) d).abs m) := by
  have key : ∀ m, tmpName m = false → splitSlash m ≠ tempPath (splitSlash n) rnd := fun m hm => ne_tempPath m hm _ _
  match k with
  | 0 => left; intro m _; rfl
  | 1 => left; intro m _; rfl
  | 2 =>
    left; intro m hm
    simp only [FS.abs, FS.get, uploadState_2, alookup_ainsert, if_neg (key m hm)]
  | 3 =>
    left; intro m hm
    simp only [FS.abs, FS.get, uploadState_3, alookup_ainsert, if_neg (key m hm)]
  | k + 4 =>
    right; intro m hm
    simp only [uploadState_final, FS.abs, FS.get, FS.upload, FS.write, FS.mkdirs, alookup_ainsert, alookup_aerase_ne _ _ _ (key m hm),
      if_neg (key m hm)]

/-- what the models assume about the source beyond the constants they use (read from the current source by the extractor):
the B2 loop stops exactly when `nextFileName` is null, B2 uploads send the quoted name, `exists` maps exactly a 404 to False -/
theorem model_assumptions_hold :
    Gen.b2LoopStopsOnNullNext = true ∧ Gen.b2UploadNameQuoted = true ∧
    Gen.s3ExistsFalseStatus = 404 ∧ Gen.b2ExistsFalseStatus = 404 ∧ Gen.storeSectionOk = true := by decide

/-- **Refinement lifts to histories**: if every step of an adapter model refines the specification (under an invariant and a
side condition on the operations), every history returns what the map returns, operation by operation. -/
theorem history_refines {σ : Type} (step : σ → Op → σ × Ret) (abs : σ → Spec) (inv : σ → Prop) (ok : Op → Prop)
    (hstep : ∀ s op, inv s → ok op → inv (step s op).1 ∧ SpecStep (abs s) op (abs (step s op).1) (step s op).2)
    (s : σ) (hs : inv s) (ops : List Op) (hok : ∀ op ∈ ops, ok op) :
    inv (runHistory step s ops).1 ∧ SpecRun (abs s) ops (abs (runHistory step s ops).1) (runHistory step s ops).2 :=
  ObjCmd.StoreModel.run_spec ⟨step, abs, inv, ok, hstep⟩ hs ops hok

/-- what a history over the local adapter may contain (the region of the theorems above) -/
def LocalOk (U : Path → Prop) (op : Op) : Prop :=
  ChunkOk op ∧ match op with
    | .list pfx => normalPrefix pfx = true
    | op => NameOk (fun n => validName n = true ∧ U (splitSlash n)) op

section models
open Replicat.ObjCmd

/-- the executable specification as a store model (no restriction on operations) -/
def specModel : StoreModel MapStore :=
  ⟨MapStore.step, MapStore.abs, MapStore.Inv, fun _ => True, fun s op hi _ => map_refines s hi op⟩

/-- the S3 adapter model, any page size ≥ 1 -/
def s3Model (ps : Nat) (hps : 1 ≤ ps) : StoreModel S3 :=
  ⟨S3.step ps, MapStore.abs, MapStore.Inv, fun op => NameOk (fun n => hasDotSegment n = false) op ∧ ChunkOk op,
    fun s op hi ho => s3_refines ps hps s hi op ho.1 ho.2⟩

/-- the B2 adapter model, any page size ≥ 1 -/
def b2Model (ps : Nat) (hps : 1 ≤ ps) : StoreModel B2 :=
  ⟨B2.step ps, B2.abs, B2.Inv, fun op => NameOk (fun n => b2Addr n = some n) op ∧ ChunkOk op,
    fun s op hi ho => b2_refines ps hps s hi op ho.1 ho.2⟩

/-- the local adapter model over a name universe without `*.tmp` names, any good spelling of the location -/
def localModel (U : Path → Prop) (hU : Universe U) (hnotmp : ∀ p, U p → tmpName (joinSlash p) = false) (root : List Char)
    (hroot : goodRoot root = true) : StoreModel FS :=
  ⟨LocalFS.step root, FS.abs, Inv U, LocalOk U, fun fs op hi ho => by
    cases op with
    | list pfx => exact local_list_refines_partial U hU fs hi root hroot pfx ho.2 hnotmp
    | upload n d => exact local_refines U hU root fs hi _ ho.2 ho.1 rfl
    | uploadStream n d c => exact local_refines U hU root fs hi _ ho.2 ho.1 rfl
    | delete n => exact local_refines U hU root fs hi _ ho.2 ho.1 rfl
    | exists_ n => exact local_refines U hU root fs hi _ ho.2 ho.1 rfl
    | download n => exact local_refines U hU root fs hi _ ho.2 ho.1 rfl
    | downloadStream n c sink => exact local_refines U hU root fs hi _ ho.2 ho.1 rfl⟩

end models

/-- **All three adapters, every history** (`_partial` through the hypotheses of the step theorems): starting empty, the S3
model (any page size ≥ 1), the B2 model (any page size ≥ 1) and the local model (any good spelling of the location) each
return, operation by operation, what the name-to-bytes map returns. -/
theorem all_adapters_history_partial (ps : Nat) (hps : 1 ≤ ps) (U : Path → Prop) (hU : Universe U)
    (hnotmp : ∀ p, U p → tmpName (joinSlash p) = false) (root : List Char) (hroot : goodRoot root = true)
    (ops : List Op)
    (hs3 : ∀ op ∈ ops, NameOk (fun n => hasDotSegment n = false) op ∧ ChunkOk op)
    (hb2 : ∀ op ∈ ops, NameOk (fun n => b2Addr n = some n) op ∧ ChunkOk op)
    (hloc : ∀ op ∈ ops, LocalOk U op) :
    SpecRun Spec.empty ops (MapStore.abs (runHistory (S3.step ps) [] ops).1) (runHistory (S3.step ps) [] ops).2 ∧
    SpecRun Spec.empty ops (B2.abs (runHistory (B2.step ps) [] ops).1) (runHistory (B2.step ps) [] ops).2 ∧
    SpecRun Spec.empty ops (FS.abs (runHistory (LocalFS.step root) FS.empty ops).1) (runHistory (LocalFS.step root) FS.empty ops).2 := by
  have he : FS.empty.abs = Spec.empty := by
    funext n
    unfold FS.abs Spec.empty
    exact ite_self _
  exact ⟨((s3Model ps hps).run_spec (s := []) List.nodup_nil ops hs3).2, ((b2Model ps hps).run_spec (s := []) List.nodup_nil ops hb2).2,
    he ▸ ((localModel U hU hnotmp root hroot).run_spec (Inv.empty U) ops hloc).2⟩

/-! ## the S3 adapter and the wall clock -/

/-- the clocks of the adapter and of the service agree up to the service's window when the call is made -/
abbrev ClockOk (skew : Nat) (t : Timed) : Prop := withinSkew skew t.client t.server = true

/-- **Every request the adapter prepares is accepted as far as time goes**, at every clock reading (any date, any time of
day): `x-amz-date`, the credential-scope date and the date of the signing key come from one reading of the clock, so the only
thing the service can object to is the distance between the two clocks. -/
theorem s3_stamp_accepted (skew : Nat) (client server : Time) (h : withinSkew skew client server = true) :
    s3Accepts skew server (s3Stamp client) = true := by
  rw [s3Accepts_stamp]; exact h

/-- **What an S3 call returns does not depend on when it is made**: for every state, operation and pair of clock readings
inside the window, the timed adapter model does what the untimed one does. -/
theorem s3_clock_independent (skew ps : Nat) (s : S3) (t : Timed) (h : ClockOk skew t) :
    S3.stepT skew ps s t = S3.step ps s t.op :=
  S3.stepT_of_within skew ps s t h

/-- **One long-lived S3 adapter object, every clock schedule**: however the wall clock moves between (and during) the calls
of a history — standing still, crossing any number of UTC date changes, stepping back — as long as the two clocks agree up to
the service's window at every call, the history returns, operation by operation, what the name-to-bytes map returns. -/
theorem s3_timed_history_refines (skew ps : Nat) (hps : 1 ≤ ps) (ts : List Timed)
    (hclock : ∀ t ∈ ts, ClockOk skew t)
    (hs3 : ∀ t ∈ ts, NameOk (fun n => hasDotSegment n = false) t.op ∧ ChunkOk t.op) :
    SpecRun Spec.empty (ts.map (·.op)) (MapStore.abs (S3.runT skew ps [] ts).1) (S3.runT skew ps [] ts).2 := by
  rw [S3.runT_eq skew ps [] ts hclock]
  refine ((s3Model ps hps).run_spec (s := []) List.nodup_nil (ts.map (·.op)) fun op hop => ?_).2
  obtain ⟨t, ht, rfl⟩ := List.mem_map.mp hop
  exact hs3 t ht

/-- forced hypothesis (environment, not a defect): a client whose clock is an hour ahead of the service's has every request
rejected (403 `RequestTimeTooSkewed`), so nothing is stored -/
theorem s3_clock_skew_witness :
    withinSkew 900 (1000000 + 3600) 1000000 = false ∧
    (S3.stepT 900 1000 [] ⟨1000000 + 3600, 1000000, .upload "a".toList [1]⟩).2 = .error .forbidden ∧
    (S3.stepT 900 1000 [] ⟨1000000 + 3600, 1000000, .upload "a".toList [1]⟩).1 = [] := by
  decide +kernel

/-- why `s3_stamp_accepted` rests on the ONE reading: a request whose signing key was derived on an earlier day than its
credential scope says is rejected by the service even when both clocks agree exactly (so the acceptance theorem is not vacuous) -/
theorem s3_stale_key_rejected (skew : Nat) (now : Time) (keyDay : Nat) (h : keyDay ≠ utcDay now) :
    s3Accepts skew now { amz := now, scopeDay := utcDay now, keyDay := keyDay } = false := by
  simp [s3Accepts, h]

/-- non-vacuity: one adapter object, a history that starts at 23:59:58 UTC of day 19 791 and ends on day 19 793 (the client's
clock 5 s ahead of the service's, a second date change inside the history, one step back across midnight): inside the hypotheses
of `s3_timed_history_refines`, and what the timed model returns -/
example :
    let ts : List Timed := [⟨1710028798 + 5, 1710028798, .upload "a/b".toList [1]⟩, ⟨1710028801 + 5, 1710028801, .upload "a/c".toList [2]⟩,
      ⟨1710028799, 1710028802, .delete "a/b".toList⟩, ⟨1710115300, 1710115300, .list "a/".toList⟩]
    (∀ t ∈ ts, ClockOk 900 t) ∧ utcDay 1710028798 + 1 = utcDay 1710028806 ∧ utcDay 1710028799 + 2 = utcDay 1710115300 ∧
    (S3.runT 900 1 [] ts).2 = [.unit, .unit, .unit, .names ["a/c".toList]] := by
  decide +kernel

/-- non-vacuity: a concrete universe, a concrete history inside every hypothesis above, and what the three models return -/
example :
    (runHistory (S3.step 1) [] [.upload "a/b".toList [1], .upload "a/c".toList [2], .delete "a/b".toList, .list "a/".toList]).2
      = [.unit, .unit, .unit, .names ["a/c".toList]] ∧
    (runHistory (B2.step 1) [] [.upload "a/b".toList [1], .upload "a/c".toList [2], .delete "a/b".toList, .list "a/".toList]).2
      = [.unit, .unit, .unit, .names ["a/c".toList]] ∧
    (runHistory (LocalFS.step "x/../repo/".toList) FS.empty
        [.upload "a/b".toList [1], .upload "a/c".toList [2], .delete "a/b".toList, .list "a/".toList]).2
      = [.unit, .unit, .unit, .names ["a/c".toList]] ∧
    goodRoot "x/../repo/".toList = true ∧ normalPrefix "a/".toList = true ∧ b2Addr "a/b".toList = some "a/b".toList := by
  decide +kernel

/-- non-vacuity: a name universe with a shared directory satisfies `Universe`, the empty tree satisfies `Inv` -/
example : Universe (fun p => p = ["a".toList, "b".toList] ∨ p = ["a".toList, "c".toList]) ∧
    Inv (fun p => p = ["a".toList, "b".toList] ∨ p = ["a".toList, "c".toList]) FS.empty := by
  refine ⟨⟨?_, ?_⟩, Inv.empty _⟩
  · rintro p (rfl | rfl) <;> decide
  · rintro p q (rfl | rfl) (rfl | rfl) <;> decide

/-! ## the B2 repository location: bucket name or bucket id

The README allows `-r b2:<bucket name>` and `-r b2:<bucket id>`.  The service takes only the NAME in download-by-name URLs and
only the ID in the JSON API calls; `B2Location.lean` puts `B2.step` behind that addressing (`B2.stepAt`), with the strings the
current source fills the two kinds of slot with (`Gen.b2DownloadBucketRef`, `Gen.b2ApiBucketRef`) and the fields it matches the
connection string against (`Gen.b2ListMatchFields`, `Gen.b2AllowedMatchFields`), all regenerated from `backends/b2.py`. -/

/-- what the location theorems use of the source (read by `tools/sections/13_b2loc.py` on every run): every `/file/<bucket>/`
URL carries the NAME of the looked-up bucket record, every `bucketId` its ID, the connection string is compared with both the
id and the name of a reported bucket (listing and restricted key alike), and the record is `(id, name)` as reported -/
theorem b2_location_assumptions_hold :
    Gen.b2DownloadBucketRef = "resolved.name" ∧ Gen.b2ApiBucketRef = "resolved.id" ∧
    Gen.b2ListMatchFields = ["bucketId", "bucketName"] ∧ Gen.b2AllowedMatchFields = ["bucketId", "bucketName"] ∧
    Gen.b2BucketRecordOk = true ∧ Gen.b2locSectionOk = true := by decide

/-- **The spelling of a B2 location does not matter.**  For every account (any buckets, in any order), with a master key or a
key restricted to our bucket, whether the connection string is our bucket's id or its name — provided it names no other bucket of
the account (`LocOk`) — every adapter call does exactly what the location-free model `B2.step` does: same return value, same
new state of the bucket. -/
theorem b2_location_spelling (l : B2Loc) (h : LocOk l) (ps : Nat) (s : B2) (op : Op) :
    B2.stepAt l ps s op = B2.step ps s op := by
  obtain ⟨h1, h2, h3, h4, _, _⟩ := b2_location_assumptions_hold
  unfold B2.stepAt
  rw [h1, h2]
  exact B2.stepAtWith_resolved l (B2Loc.resolve_of_ok l h h3 h4) ps s op

/-- **By id and by name are the same repository**: the two documented spellings of one bucket (each with any kind of key) give
the same result for every state and operation. -/
theorem b2_by_id_equals_by_name (buckets : List Bucket) (own : Bucket) (r1 r2 : Bool)
    (h1 : LocOk ⟨buckets, own, r1, own.id⟩) (h2 : LocOk ⟨buckets, own, r2, own.name⟩) (ps : Nat) (s : B2) (op : Op) :
    B2.stepAt ⟨buckets, own, r1, own.id⟩ ps s op = B2.stepAt ⟨buckets, own, r2, own.name⟩ ps s op := by
  rw [b2_location_spelling _ h1, b2_location_spelling _ h2]

/-- **One adapter object at a location, every history**: under either spelling the history returns, operation by operation,
what the name-to-bytes map returns (same region of names as `b2_refines`). -/
theorem b2_located_history_refines (l : B2Loc) (h : LocOk l) (ps : Nat) (hps : 1 ≤ ps) (ops : List Op)
    (hb2 : ∀ op ∈ ops, NameOk (fun n => b2Addr n = some n) op ∧ ChunkOk op) :
    SpecRun Spec.empty ops (B2.abs (runHistory (B2.stepAt l ps) [] ops).1) (runHistory (B2.stepAt l ps) [] ops).2 := by
  rw [runHistory_congr (B2.stepAt l ps) (B2.step ps) (fun s op => b2_location_spelling l h ps s op)]
  exact ((b2Model ps hps).run_spec (s := []) List.nodup_nil ops hb2).2

/-- why the download URLs must carry the record's NAME (so `b2_location_assumptions_hold` is not decoration): an adapter that
put the connection string as given into `/file/<…>/` would work for the name spelling and, for the id spelling, report a
freshly uploaded object as missing and fail to download it — while upload, listing and delete (addressed by id) still work -/
theorem b2_download_by_identifier_witness :
    let own : Bucket := ⟨"4a48fe88".toList, "my-backups".toList⟩
    let byId : B2Loc := ⟨[own], own, false, own.id⟩
    let byName : B2Loc := ⟨[own], own, false, own.name⟩
    let step := B2.stepAtWith "identifier" "resolved.id"
    (step byName 1000 (step byName 1000 [] (.upload "a".toList [1])).1 (.exists_ "a".toList)).2 = .bool true ∧
    (step byId 1000 [] (.upload "a".toList [1])).2 = .unit ∧
    (step byId 1000 (step byId 1000 [] (.upload "a".toList [1])).1 (.list [])).2 = .names ["a".toList] ∧
    (step byId 1000 (step byId 1000 [] (.upload "a".toList [1])).1 (.exists_ "a".toList)).2 = .bool false ∧
    (step byId 1000 (step byId 1000 [] (.upload "a".toList [1])).1 (.download "a".toList)).2 = .error .notFound := by
  decide +kernel

/-- forced hypothesis `LocOk.unambiguous` (a limit of the documented format, not of the adapter): bucket names may look like
ids, so when another bucket of the account, listed first, is NAMED like our bucket's id, the id spelling reaches that other bucket
and every API call is made against it -/
theorem b2_ambiguous_location_witness :
    let own : Bucket := ⟨"4a48fe88".toList, "my-backups".toList⟩
    let other : Bucket := ⟨"ffff0000".toList, "4a48fe88".toList⟩
    let l : B2Loc := ⟨[other, own], own, false, own.id⟩
    l.resolve = some other ∧ (B2.stepAt l 1000 [] (.upload "a".toList [1])).2 = .error (.http 400 "bad_bucket_id") ∧
    (B2.stepAt ⟨[own, other], own, false, own.id⟩ 1000 [] (.upload "a".toList [1])).2 = .unit := by
  decide +kernel

/-- non-vacuity: an account with three buckets, ours in the middle, a neighbour whose name extends ours; both spellings are
good locations (with a master key and with a restricted one), and a history under the id spelling returns what the map returns -/
example :
    let own : Bucket := ⟨"4a48fe88".toList, "my-backups".toList⟩
    let acct : List Bucket := [⟨"00aa".toList, "my-backups-2".toList⟩, own, ⟨"4a48fe89".toList, "zz".toList⟩]
    LocOk ⟨acct, own, false, own.id⟩ ∧ LocOk ⟨acct, own, true, own.name⟩ ∧
    (runHistory (B2.stepAt ⟨acct, own, false, own.id⟩ 1) []
        [.upload "a/b".toList [1], .upload "a/c".toList [2], .exists_ "a/b".toList, .delete "a/b".toList, .download "a/c".toList, .list "a/".toList]).2
      = [.unit, .unit, .bool true, .unit, .bytes [2], .names ["a/c".toList]] := by
  exact ⟨⟨Or.inl rfl, .tail _ (.head _), by decide +kernel⟩, ⟨Or.inr rfl, .tail _ (.head _), by decide +kernel⟩, by decide +kernel⟩

/-! ## the object-level commands: `upload_objects`, `download_objects`, `list_objects`, `delete_objects`

Model: `ObjCmd.lean` — every command is a program over the step function of a store model and records the backend calls it
makes.  The theorems below are stated for **any** `StoreModel` (step function + abstraction + invariant + region of operations +
proof that every step in the region refines `SpecStep`); `specModel`, `s3Model`, `b2Model`, `localModel` package the refinement
theorems above, so everything proved here holds for the map and for the three adapter models alike.  `U` is the name universe of
the property (canonical names, none a directory prefix of another); besides the objects it contains the files already present
in a download / cache directory. -/
section objcmd
open Replicat.ObjCmd

/-- **Every object-level command is a composition of backend steps, hence of `SpecStep`s.**  For any step function, the calls a
command records, replayed as a history, lead from the state before the command to the state after it and return what the
command saw (so a command does nothing to the backend that is not in its record); and over a store model whose region contains
the recorded calls, the invariant is kept and the record is a run of the specification — everything proved about the three
adapters (`s3_refines`, `b2_refines`, `local_refines`, the listing and paging theorems) carries over to the commands. -/
theorem objcmd_refine_store {σ : Type} (M : StoreModel σ) (concurrent : Nat) (c : Cmd) (s : σ) (hinv : M.inv s) (loc : Tree)
    (hok : ∀ e ∈ (c.run M.step concurrent s loc).tr, M.ok e.1) :
    runHistory M.step s ((c.run M.step concurrent s loc).tr.map (·.1))
      = ((c.run M.step concurrent s loc).st, (c.run M.step concurrent s loc).tr.map (·.2)) ∧
    M.inv (c.run M.step concurrent s loc).st ∧
    SpecRun (M.abs s) ((c.run M.step concurrent s loc).tr.map (·.1)) (M.abs (c.run M.step concurrent s loc).st)
      ((c.run M.step concurrent s loc).tr.map (·.2)) := by
  have hch := cmd_chain M.step concurrent c s loc
  exact ⟨hch.runHistory, Chain.specRun M hinv hok hch⟩

/-- **`upload_objects`, `skip_existing`.**  For every list of path arguments that exist (`flatten … = ok fl`), every working
directory, rate limit and number of slots: the command succeeds and returns the files (`None` if there are none); with
`skip_existing` no object that existed before is changed — whatever the names of the files; objects whose name is not the name
of an uploaded file are untouched; and if the names are distinct, each uploaded file's object holds exactly the file's bytes,
unless `skip_existing` was given and the object existed. -/
theorem upload_skip_existing_preserves {σ : Type} (M : StoreModel σ) (concurrent : Nat) (hconc : 1 ≤ concurrent) (cwd : Path)
    (dirs paths : List Path) (rl : Option Nat) (hrl : rl ≠ some 0) (skip : Bool) (s : σ) (hinv : M.inv s) (t : Tree)
    (fl : List Path) (hfl : flatten t dirs paths = .ok fl) (hok : ∀ f ∈ fl, M.OkName (objectName cwd f)) :
    (uploadObjects M.step concurrent cwd dirs paths rl skip s t).res
        = .ok (if dedupFirst fl = [] then .none else .files (dedupFirst fl)) ∧
    M.inv (uploadObjects M.step concurrent cwd dirs paths rl skip s t).st ∧
    (skip = true → ∀ n, (M.abs s n).isSome = true →
        M.abs (uploadObjects M.step concurrent cwd dirs paths rl skip s t).st n = M.abs s n) ∧
    (∀ n, n ∉ fl.map (objectName cwd) → M.abs (uploadObjects M.step concurrent cwd dirs paths rl skip s t).st n = M.abs s n) ∧
    (((dedupFirst fl).map (objectName cwd)).Nodup → ∀ f ∈ fl, (skip = false ∨ M.abs s (objectName cwd f) = none) →
        M.abs (uploadObjects M.step concurrent cwd dirs paths rl skip s t).st (objectName cwd f) = t.get f) := by
  obtain ⟨st, tr, e, h2, h4⟩ := uploadObjects_spec M concurrent hconc cwd dirs paths rl hrl skip s hinv t fl hfl hok
  have hsome : ∀ f ∈ dedupFirst fl, (t.get f).isSome = true := fun f hf => flatten_mem hfl f ((mem_dedupFirst fl f).mp hf)
  rw [e, h4]
  refine ⟨rfl, h2, ?_, ?_, ?_⟩
  · intro hs n hn
    rw [hs]
    exact upSpec_skip_keeps _ _ n hn
  · intro n hn
    refine upSpec_not_mem _ _ _ _ fun hm => hn ?_
    rw [items_names hsome] at hm
    obtain ⟨f, hf, rfl⟩ := List.mem_map.mp hm
    exact List.mem_map_of_mem ((mem_dedupFirst fl f).mp hf)
  · intro hnd f hf hc
    obtain ⟨d, hd⟩ := Option.isSome_iff_exists.mp (flatten_mem hfl f hf)
    rw [hd]
    apply upSpec_mem skip _ _ (by rw [items_names hsome]; exact hnd) _ d _ hc
    exact items_mem.mpr ⟨f, (mem_dedupFirst fl f).mpr hf, hd, rfl⟩

/-- forced hypothesis of the last clause (and of the round trip): names are derived relative to the *common* path with the
working directory, so a file under it and a file outside it can get the same object name — with the working directory `/a/b`,
the files `/a/b/c/f` and `/a/c/f` are both called `c/f`, and one upload silently replaces the other -/
theorem upload_name_collision_witness :
    objectName ["a".toList, "b".toList] ["a".toList, "b".toList, "c".toList, "f".toList] = "c/f".toList ∧
    objectName ["a".toList, "b".toList] ["a".toList, "c".toList, "f".toList] = "c/f".toList ∧
    (uploadObjects MapStore.step 2 ["a".toList, "b".toList] [] [["a".toList, "b".toList, "c".toList, "f".toList], ["a".toList, "c".toList, "f".toList]]
        none false [] [(["a".toList, "b".toList, "c".toList, "f".toList], [1]), (["a".toList, "c".toList, "f".toList], [2])]).st
      = [("c/f".toList, [2])] := by
  decide +kernel

/-- **`download_objects`, `skip_existing`.**  Over a store whose selected objects (prefix + predicate) and the files already in
the target directory lie in the name universe: the command succeeds and leaves the store as it was; with `skip_existing` no
file that existed before is changed; the file of every selected object holds exactly the object's bytes unless `skip_existing`
was given and the file existed; every path that is not the path of a selected object is as before (nothing else is created). -/
theorem download_skip_existing_preserves {σ : Type} (M : StoreModel σ) (U : Path → Prop) (hU : Universe U) (concurrent : Nat)
    (hconc : 1 ≤ concurrent) (pfx : Name) (keep : Name → Bool) (rl : Option Nat) (hrl : rl ≠ some 0) (skip : Bool) (s : σ)
    (hinv : M.inv s) (dir : Tree) (hdir : ∀ q ∈ dir.keys, U q) (hlist : M.ok (.list pfx))
    (hsel : ∀ n, (M.abs s n).isSome = true → pfx <+: n → keep n = true → validName n = true ∧ U (splitSlash n) ∧ M.OkName n) :
    (∃ l : List Name, l.Nodup ∧ (∀ n, n ∈ l ↔ (M.abs s n).isSome = true ∧ pfx <+: n ∧ keep n = true) ∧
      (downloadObjects M.step concurrent pfx keep rl skip s dir).res = .ok (if l = [] then .none else .names l)) ∧
    M.inv (downloadObjects M.step concurrent pfx keep rl skip s dir).st ∧
    M.abs (downloadObjects M.step concurrent pfx keep rl skip s dir).st = M.abs s ∧
    (skip = true → ∀ q, (dir.get q).isSome = true →
        (downloadObjects M.step concurrent pfx keep rl skip s dir).loc.get q = dir.get q) ∧
    (∀ n, (M.abs s n).isSome = true → pfx <+: n → keep n = true → (skip = false ∨ dir.get (splitSlash n) = none) →
        (downloadObjects M.step concurrent pfx keep rl skip s dir).loc.get (splitSlash n) = M.abs s n) ∧
    (∀ q, (¬ ∃ n, (M.abs s n).isSome = true ∧ pfx <+: n ∧ keep n = true ∧ splitSlash n = q) →
        (downloadObjects M.step concurrent pfx keep rl skip s dir).loc.get q = dir.get q) := by
  obtain ⟨l, st, tr, hnd, hmem, e, hi, ha⟩ :=
    downloadObjects_spec M hU concurrent hconc pfx keep rl hrl skip s hinv dir hdir hlist hsel
  have hget := downSpec_get skip (M.abs s) l (fun n hn => ((hmem n).mp hn).1) dir
  rw [e]
  refine ⟨⟨l, hnd, hmem, rfl⟩, hi, ha, ?_, ?_, ?_⟩
  · intro hs q hq
    rw [hget, hs]
    simp only [hq, and_self, if_true, ite_self]
  · intro n h1 h2 h3 hc
    have hin : splitSlash n ∈ l.map splitSlash := List.mem_map_of_mem ((hmem n).mpr ⟨h1, h2, h3⟩)
    rw [hget, if_pos hin, joinSlash_splitSlash]
    rcases hc with hc | hc
    · simp [hc]
    · simp [hc]
  · intro q hq
    rw [hget, if_neg]
    intro hm
    obtain ⟨n, hn, rfl⟩ := List.mem_map.mp hm
    obtain ⟨h1, h2, h3⟩ := (hmem n).mp hn
    exact hq ⟨n, h1, h2, h3, rfl⟩

/-- **`list_objects`** returns exactly the names of the live objects that start with the prefix and satisfy the predicate (the
regular expression is an arbitrary predicate), each once, and changes nothing. -/
theorem list_objects_spec {σ : Type} (M : StoreModel σ) (pfx : Name) (keep : Name → Bool) (s : σ) (hinv : M.inv s) (loc : Tree)
    (hlist : M.ok (.list pfx)) :
    ∃ l : List Name, (listObjects M.step pfx keep s loc).res = .ok (.names l) ∧ l.Nodup ∧
      (∀ n, n ∈ l ↔ (M.abs s n).isSome = true ∧ pfx <+: n ∧ keep n = true) ∧
      M.inv (listObjects M.step pfx keep s loc).st ∧ M.abs (listObjects M.step pfx keep s loc).st = M.abs s ∧
      (listObjects M.step pfx keep s loc).loc = loc := by
  obtain ⟨l, st, tr, h1, h2, e, h4, h5⟩ := listObjects_spec M pfx keep s hinv loc hlist
  rw [e]
  exact ⟨l, rfl, h1, h2, h4, h5, rfl⟩

/-- **`delete_objects`.**  If the command proceeds (`confirm` off, or the answer is `y` / `Y`), exactly the given names are gone
and every other object is untouched; the cached copies of the given names — and nothing else — are removed from the cache
directory when one is configured; if it does not proceed, nothing changes.  The command is idempotent: run again on its own
result it succeeds and changes neither the store nor the cache (names that do not exist are no error). -/
theorem delete_objects_spec {σ : Type} (M : StoreModel σ) (U : Path → Prop) (hU : Universe U) (names : List Name) (confirm : Bool)
    (answer : List Char) (useCache : Bool) (s : σ) (hinv : M.inv s) (cache : Tree) (hok : ∀ n ∈ names, M.ok (.delete n))
    (hn : useCache = true → ∀ n ∈ names, validName n = true ∧ U (splitSlash n))
    (hc : useCache = true → ∀ q ∈ cache.keys, U q) :
    (deleteObjects M.step names confirm answer useCache s cache).res = .ok .none ∧
    M.inv (deleteObjects M.step names confirm answer useCache s cache).st ∧
    (∀ n, M.abs (deleteObjects M.step names confirm answer useCache s cache).st n =
      if proceeds confirm answer = true ∧ n ∈ names then none else M.abs s n) ∧
    (∀ q, (deleteObjects M.step names confirm answer useCache s cache).loc.get q =
      if proceeds confirm answer = true ∧ useCache = true ∧ q ∈ names.map splitSlash then none else cache.get q) ∧
    (deleteObjects M.step names confirm answer useCache (deleteObjects M.step names confirm answer useCache s cache).st
        (deleteObjects M.step names confirm answer useCache s cache).loc).res = .ok .none ∧
    M.abs (deleteObjects M.step names confirm answer useCache (deleteObjects M.step names confirm answer useCache s cache).st
        (deleteObjects M.step names confirm answer useCache s cache).loc).st
      = M.abs (deleteObjects M.step names confirm answer useCache s cache).st ∧
    (∀ q, (deleteObjects M.step names confirm answer useCache (deleteObjects M.step names confirm answer useCache s cache).st
        (deleteObjects M.step names confirm answer useCache s cache).loc).loc.get q
      = (deleteObjects M.step names confirm answer useCache s cache).loc.get q) := by
  obtain ⟨st, loc, tr, e, a2, a3, a4, a5⟩ := deleteObjects_spec M hU names confirm answer useCache s hinv cache hok hn hc
  obtain ⟨st', loc', tr', e', _, b3, b4, _⟩ := deleteObjects_spec M hU names confirm answer useCache st a2 loc hok hn
    (fun hu q hq => hc hu q (a5 q hq))
  simp only [e, e']
  refine ⟨trivial, a2, a3, a4, trivial, ?_, ?_⟩
  · funext n
    rw [b3, a3]
    split <;> rfl
  · intro q
    rw [b4, a4]
    split <;> rfl

/-- **Round trip.**  For every tree of local files, every list of path arguments whose files lie under the working directory
(relative paths in the name universe), every store, filter, rate limits and flags: after `upload_objects` and then
`download_objects` into an empty directory, the directory holds — under the same relative path, byte for byte — exactly the
uploaded files the filter selects, each once, and nothing else.  Needed: an uploaded name that already exists is overwritten
(no `skip_existing` on upload, or the names are fresh), and no *other* object of the store passes the filter (with an empty
store, or the empty prefix and no regular expression on a store holding nothing else, the directory equals the uploaded tree). -/
theorem upload_then_download_roundtrip {σ : Type} (M : StoreModel σ) (U : Path → Prop) (hU : Universe U)
    (hnames : ∀ n, validName n = true → U (splitSlash n) → M.OkName n)
    (concurrent : Nat) (hconc : 1 ≤ concurrent) (cwd : Path) (dirs paths : List Path) (t : Tree) (fl : List Path)
    (hfl : flatten t dirs paths = .ok fl) (hunder : ∀ f ∈ fl, ∃ rel, f = cwd ++ rel ∧ U rel)
    (rlUp rlDown : Option Nat) (hr1 : rlUp ≠ some 0) (hr2 : rlDown ≠ some 0) (skipUp skipDown : Bool)
    (pfx : Name) (keep : Name → Bool) (hlist : M.ok (.list pfx)) (s : σ) (hinv : M.inv s)
    (hfresh : skipUp = true → ∀ f ∈ fl, M.abs s (objectName cwd f) = none)
    (hothers : ∀ n, (M.abs s n).isSome = true → pfx <+: n → keep n = true → ∃ f ∈ fl, n = objectName cwd f) :
    (uploadObjects M.step concurrent cwd dirs paths rlUp skipUp s t).res
        = .ok (if dedupFirst fl = [] then .none else .files (dedupFirst fl)) ∧
    (∃ l : List Name, l.Nodup ∧ (∀ n, n ∈ l ↔ (∃ f ∈ fl, n = objectName cwd f) ∧ pfx <+: n ∧ keep n = true) ∧
      (downloadObjects M.step concurrent pfx keep rlDown skipDown
        (uploadObjects M.step concurrent cwd dirs paths rlUp skipUp s t).st []).res = .ok (if l = [] then .none else .names l)) ∧
    (downloadObjects M.step concurrent pfx keep rlDown skipDown
        (uploadObjects M.step concurrent cwd dirs paths rlUp skipUp s t).st []).loc.keys.Nodup ∧
    ∀ rel, (downloadObjects M.step concurrent pfx keep rlDown skipDown
        (uploadObjects M.step concurrent cwd dirs paths rlUp skipUp s t).st []).loc.get rel
      = if cwd ++ rel ∈ fl ∧ pfx <+: joinSlash rel ∧ keep (joinSlash rel) = true then t.get (cwd ++ rel) else none := by
  have hrel : ∀ f ∈ fl, validName (objectName cwd f) = true ∧ U (splitSlash (objectName cwd f)) ∧
      f = cwd ++ splitSlash (objectName cwd f) := by
    intro f hf
    obtain ⟨rel, rfl, hu⟩ := hunder f hf
    have hv := hU.valid rel hu
    rw [objectName_under cwd rel ((validPath_iff rel).mp hv).1, split_join_valid hv]
    exact ⟨validName_joinSlash hv, hu, rfl⟩
  have hcanon : ∀ f ∈ fl, validName (objectName cwd f) = true ∧ U (splitSlash (objectName cwd f)) ∧
      M.OkName (objectName cwd f) :=
    fun f hf => ⟨(hrel f hf).1, (hrel f hf).2.1, hnames _ (hrel f hf).1 (hrel f hf).2.1⟩
  have hnd : ((dedupFirst fl).map (objectName cwd)).Nodup := by
    refine (List.nodup_map_iff_inj_on (nodup_dedupFirst fl)).mpr ?_
    intro f hf g hg he
    rw [(hrel f ((mem_dedupFirst fl f).mp hf)).2.2, (hrel g ((mem_dedupFirst fl g).mp hg)).2.2, he]
  obtain ⟨u1, u2, _, u4, u5⟩ := upload_skip_existing_preserves M concurrent hconc cwd dirs paths rlUp hr1 skipUp s hinv t fl hfl
    (fun f hf => (hcanon f hf).2.2)
  have hup : ∀ f ∈ fl, M.abs (uploadObjects M.step concurrent cwd dirs paths rlUp skipUp s t).st (objectName cwd f) = t.get f := by
    intro f hf
    exact u5 hnd f hf ((Bool.eq_false_or_eq_true skipUp).symm.imp_right fun h => hfresh h f hf)
  have hget : ∀ f ∈ fl, (t.get f).isSome = true := flatten_mem hfl
  -- what the store holds afterwards, as far as the filter sees it
  have hlive : ∀ n, (M.abs (uploadObjects M.step concurrent cwd dirs paths rlUp skipUp s t).st n).isSome = true → pfx <+: n →
      keep n = true → ∃ f ∈ fl, n = objectName cwd f := by
    intro n h1 h2 h3
    by_cases hm : n ∈ fl.map (objectName cwd)
    · obtain ⟨f, hf, rfl⟩ := List.mem_map.mp hm
      exact ⟨f, hf, rfl⟩
    · rw [u4 n hm] at h1
      exact hothers n h1 h2 h3
  obtain ⟨l, st, tr, lnd, lmem, e, _, _⟩ := downloadObjects_spec M hU concurrent hconc pfx keep rlDown hr2 skipDown _ u2 []
    (fun q hq => nomatch hq) hlist (fun n h1 h2 h3 => by
      obtain ⟨f, hf, rfl⟩ := hlive n h1 h2 h3
      exact hcanon f hf)
  have hsel : ∀ n, n ∈ l ↔ (∃ f ∈ fl, n = objectName cwd f) ∧ pfx <+: n ∧ keep n = true := by
    intro n
    rw [lmem]
    constructor
    · rintro ⟨h1, h2, h3⟩
      exact ⟨hlive n h1 h2 h3, h2, h3⟩
    · rintro ⟨⟨f, hf, rfl⟩, h2, h3⟩
      exact ⟨by rw [hup f hf]; exact hget f hf, h2, h3⟩
  rw [e]
  refine ⟨u1, ⟨l, lnd, hsel, rfl⟩, downSpec_nodup _ _ _ _ List.nodup_nil, fun rel => ?_⟩
  · show (downSpec skipDown _ [] l).get rel = _
    rw [downSpec_get skipDown _ l (fun n hn => ((lmem n).mp hn).1)]
    by_cases hc : cwd ++ rel ∈ fl ∧ pfx <+: joinSlash rel ∧ keep (joinSlash rel) = true
    · have hr : splitSlash (objectName cwd (cwd ++ rel)) = rel := (List.append_cancel_left (hrel _ hc.1).2.2).symm
      have hn : objectName cwd (cwd ++ rel) = joinSlash rel := (joinSlash_splitSlash _).symm.trans (congrArg joinSlash hr)
      have hin : rel ∈ l.map splitSlash := List.mem_map.mpr ⟨_, (hsel _).mpr ⟨⟨_, hc.1, hn.symm⟩, hc.2⟩, hn ▸ hr⟩
      rw [if_pos hin, if_pos hc, ← hn, hup _ hc.1]
      exact if_neg fun h => nomatch h.2
    · rw [if_neg hc, if_neg]
      · rfl
      · intro hin
        obtain ⟨n, hn, rfl⟩ := List.mem_map.mp hin
        obtain ⟨⟨f, hf, rfl⟩, h2, h3⟩ := (hsel n).mp hn
        rw [joinSlash_splitSlash, ← (hrel f hf).2.2] at hc
        exact hc ⟨hf, h2, h3⟩

/-- **The order in which the `asyncio.gather` tasks run does not matter** when the names are distinct: the loops of the three
mutating commands, taken at the level of the map / directory, give the same result for every permutation of the files /
objects / names (the model runs them in list order; the real tasks interleave). -/
theorem gather_order_irrelevant (skip : Bool) (m : Spec) :
    (∀ l1 l2 : List (Name × Bytes), l1.Perm l2 → (l1.map (·.1)).Nodup → upSpec skip m l1 = upSpec skip m l2) ∧
    (∀ (dir : Tree) (l1 l2 : List Name), l1.Perm l2 → (∀ n ∈ l1, (m n).isSome = true) →
        ∀ q, (downSpec skip m dir l1).get q = (downSpec skip m dir l2).get q) ∧
    (∀ l1 l2 : List Name, l1.Perm l2 → delAll m l1 = delAll m l2) := by
  refine ⟨?_, ?_, ?_⟩
  · intro l1 l2 hp hnd
    have hnd2 : (l2.map (·.1)).Nodup := (hp.map _).nodup_iff.mp hnd
    funext n
    by_cases hm : n ∈ l1.map (·.1)
    · obtain ⟨⟨k, d⟩, he, rfl⟩ := List.mem_map.mp hm
      rw [upSpec_apply_mem skip m hnd he, upSpec_apply_mem skip m hnd2 (hp.mem_iff.mp he)]
    · rw [upSpec_not_mem _ _ _ _ hm, upSpec_not_mem _ _ _ _ (mt (hp.map _).mem_iff.mpr hm)]
  · intro dir l1 l2 hp hl q
    rw [downSpec_get skip m l1 hl, downSpec_get skip m l2 fun n hn => hl n (hp.mem_iff.mpr hn)]
    exact ite_cond_congr (propext (hp.map _).mem_iff)
  · intro l1 l2 hp
    funext n
    rw [delAll_apply, delAll_apply]
    exact ite_cond_congr (propext hp.mem_iff)

/-- **Every interleaving of the upload tasks gives the same store.**  With `skip_existing` each gathered task makes up to two
backend calls (`exists`, then `upload_stream` if the answer was `False`) and the calls of different tasks interleave (`runSchedule`:
every pick is the next backend call of the picked task).  For distinct names and
every schedule (any order, any repetition of picks, picks of finished or unknown tasks allowed) after which all tasks are done,
the map is the one the sequential model computes: no task's `exists` answer can be invalidated by another task, because the
others write to other names.  (For `download_objects` and `delete_objects` a task makes one backend call, so the task-level
permutations of `gather_order_irrelevant` are all the interleavings there are.) -/
theorem upload_interleaving_irrelevant (skip : Bool) (m0 : Spec) (items : List (Name × Bytes)) (hnd : (items.map (·.1)).Nodup)
    (sched : List Name) (hdone : ∀ t ∈ (runSchedule skip m0 (initTasks items) sched).2, t.phase = .done) :
    (runSchedule skip m0 (initTasks items) sched).1 = upSpec skip m0 items := by
  have hg := good_run skip m0 items sched m0 _ (good_init skip m0 items)
  funext n
  by_cases hn : n ∈ items.map (·.1)
  · rw [← hg.names] at hn
    obtain ⟨t, ht, rfl⟩ := List.mem_map.mp hn
    have hp := hg.phase t ht
    rw [hdone t ht] at hp
    exact hp.trans (upSpec_apply_mem skip m0 hnd (hg.mem t ht)).symm
  · rw [hg.other n hn, upSpec_not_mem _ _ _ _ hn]

/-- non-vacuity: three tasks whose calls interleave (`exists c`, `exists a` — it exists, skipped —, `exists b`, `upload b`, a pick
of the finished `b`, `upload c`): the schedule completes and the store is the sequential one -/
example :
    let m0 : Spec := MapStore.abs [("a".toList, [7])]
    let r := runSchedule true m0 (initTasks [("a".toList, [1]), ("b".toList, [2]), ("c".toList, [3])])
      ["c".toList, "a".toList, "b".toList, "b".toList, "b".toList, "c".toList]
    r.2.map (·.phase) = [.done, .done, .done] ∧ r.1 "a".toList = some [7] ∧ r.1 "b".toList = some [2] ∧ r.1 "c".toList = some [3] := by
  decide +kernel

/-- what `ObjCmd.lean` assumes about the source of the four commands, read from the current source by the extractor
(`tools/sections/13_objcmd.py`): the name is the path relative to the common path with the working directory in POSIX form;
`skip_existing and await self._exists(name)` guards the upload; the chunk size under a rate limit has floor 1 and the default is
`DEFAULT_STREAM_CHUNK_SIZE`; the download opens with `'xb'` iff `skip_existing` and swallows `FileExistsError`; the selection is
`list_files(object_prefix)` filtered by `re.search`; `delete_objects` evicts the cached copy after the backend delete iff a cache
directory is configured, with `missing_ok=True` -/
theorem objcmd_model_assumptions_hold :
    Gen.objcmdNameIsRelativeToCommonPath = true ∧ Gen.objcmdUploadSkipChecksExists = true ∧ Gen.objcmdChunkFloor = 1 ∧
    Gen.objcmdDefaultChunkIsStreamChunk = true ∧ Gen.objcmdDownloadModeExclusiveIffSkip = true ∧
    Gen.objcmdDownloadSkipsOnFileExists = true ∧ Gen.objcmdFilterIsPrefixThenSearch = true ∧
    Gen.objcmdDeleteEvictsCache = true ∧ Gen.objcmdEvictMissingOk = true ∧ Gen.objcmdSectionOk = true := by decide

/-- the theorems above apply to the three adapter models: over the local model every canonical name of the universe is in the
region (`OkName`), over the S3 model every canonical name (no `.`/`..` segment), over the B2 model every canonical name without
`? # % +` -/
example (U : Path → Prop) (hU : Universe U) (hnotmp : ∀ p, U p → tmpName (joinSlash p) = false) (root : List Char)
    (hroot : goodRoot root = true) (n : Name) (hv : validName n = true) (hu : U (splitSlash n)) :
    (localModel U hU hnotmp root hroot).OkName n :=
  ⟨⟨trivial, hv, hu⟩, ⟨trivial, hv, hu⟩, fun _ _ hc => ⟨hc, hv, hu⟩, fun _ _ hc => ⟨hc, hv, hu⟩⟩

example (ps : Nat) (hps : 1 ≤ ps) (n : Name) (hv : validName n = true) : (s3Model ps hps).OkName n := by
  have hd := hasDotSegment_of_validName hv
  exact ⟨⟨hd, trivial⟩, ⟨hd, trivial⟩, fun _ _ hc => ⟨hd, hc⟩, fun _ _ hc => ⟨hd, hc⟩⟩

example (ps : Nat) (hps : 1 ≤ ps) (n : Name) (hv : validName n = true)
    (hchars : ∀ c ∈ n, c ≠ '?' ∧ c ≠ '#' ∧ c ≠ '%' ∧ c ≠ '+') : (b2Model ps hps).OkName n := by
  have hd := hasDotSegment_of_validName hv
  have ha := b2_safe_names n hd hchars
  exact ⟨⟨ha, trivial⟩, ⟨ha, trivial⟩, fun _ _ hc => ⟨ha, hc⟩, fun _ _ hc => ⟨ha, hc⟩⟩

/-- non-vacuity (round trip, both `skip_existing` theorems): a tree under `/w/cwd`, the path arguments "the directory" and "one of
its files again", a rate limit, a store that already holds `c` (skipped: not overwritten) and another object `x` (filtered out by
the predicate), a target directory that already holds `a/b` (skipped on download) — inside the hypotheses, and what the model
returns -/
example :
    let cwd : Path := ["w".toList, "cwd".toList]
    let t : Tree := [(cwd ++ ["a".toList, "b".toList], [1, 2]), (cwd ++ ["c".toList], [3])]
    let up := uploadObjects MapStore.step 2 cwd [] [cwd, cwd ++ ["c".toList]] (some 100) true [("x".toList, [9]), ("c".toList, [7])] t
    let down := downloadObjects MapStore.step 2 [] (fun n => n != "x".toList) none true up.st [(["a".toList, "b".toList], [0])]
    flatten t [] [cwd, cwd ++ ["c".toList]] = .ok [cwd ++ ["a".toList, "b".toList], cwd ++ ["c".toList], cwd ++ ["c".toList]] ∧
    up.res = .ok (.files [cwd ++ ["a".toList, "b".toList], cwd ++ ["c".toList]]) ∧
    up.tr.map (·.1) = [.exists_ "a/b".toList, .uploadStream "a/b".toList [1, 2] 3, .exists_ "c".toList] ∧
    MapStore.abs up.st "a/b".toList = some [1, 2] ∧ MapStore.abs up.st "c".toList = some [7] ∧
    down.res = .ok (.names ["a/b".toList, "c".toList]) ∧
    down.tr.map (·.1) = [.list [], .downloadStream "c".toList 128000 []] ∧
    down.loc.get ["a".toList, "b".toList] = some [0] ∧ down.loc.get ["c".toList] = some [7] ∧ down.loc.get ["x".toList] = none := by
  decide +kernel

/-- non-vacuity (`list_objects_spec`, `delete_objects_spec`): prefix `a/`, a predicate, a confirmation answered `Y`, a cache that holds a
copy of one deleted object; a second run changes nothing; an answer other than `y` leaves everything as it was -/
example :
    let s0 : MapStore := [("a/b".toList, [1]), ("a/c".toList, [2]), ("d".toList, [3])]
    let cache : Tree := [(["a".toList, "b".toList], [1]), (["k".toList], [5])]
    let del := deleteObjects MapStore.step ["a/b".toList, "zz".toList, "a/b".toList] true ['Y'] true s0 cache
    (listObjects MapStore.step "a/".toList (fun n => n != "a/c".toList) s0 []).res = .ok (.names ["a/b".toList]) ∧
    del.res = .ok .none ∧ del.st = [("a/c".toList, [2]), ("d".toList, [3])] ∧ del.loc = [(["k".toList], [5])] ∧
    (deleteObjects MapStore.step ["a/b".toList, "zz".toList, "a/b".toList] true ['Y'] true del.st del.loc).st = del.st ∧
    (deleteObjects MapStore.step ["a/b".toList] true "yes".toList true s0 cache).st = s0 ∧ proceeds true "yes".toList = false := by
  decide +kernel

/-- non-vacuity of the name universe used above -/
example : Universe (fun p => p = ["a".toList, "b".toList] ∨ p = ["c".toList] ∨ p = ["k".toList]) := by
  refine ⟨?_, ?_⟩
  · rintro p (rfl | rfl | rfl) <;> decide
  · rintro p q (rfl | rfl | rfl) (rfl | rfl | rfl) <;> decide

end objcmd

/-! ## overlapping calls on one local backend object: uploads in flight at the same time (the Repository's thread pool)

`LocalConc.lean`: every call of `upload` / `upload_stream` is its plan of file-system steps (`LocalUpload.uploadSteps`: mkdir -p, create
the temporary, one write per piece read from the input stream, rename over the destination); a schedule picks which call moves next
and may put deletes in between.  The specification is the log of map operations in the order of their linearisation points (the rename
of an upload, the unlink of a delete).  What other operations read (`exists`, `download`, `list_files`: names that do not end in the
temporary suffix) is `LocalUpload.vget`. -/
section overlap
open Replicat.LocalConc

/-- what the theorems of this section use of the source (read by `tools/sections/13_localtemp.py` on every run): in both upload
methods the path that is renamed over the destination comes from a generator of fresh names — it has a per-call component -/
theorem local_temp_assumptions_hold :
    Gen.localTempUniquePerCall = true ∧ Gen.localtempSectionOk = true := by decide

/-- **The temporaries of overlapping calls are private.**  The calls the source makes of any requests (same name, different names,
any directories), when the name generator hands out names that do not exist yet — which is what exclusive creation gives it while
the other temporaries are still there —, use pairwise different temporaries.  (With a temporary that is a function of the
destination alone this is false: `shared_temp_witness`, `long_siblings_share_a_deterministic_temp`.) -/
theorem source_temps_private (l : List (Req × String))
    (hfresh : ∀ (i j : Nat) (x y : Req × String), l[i]? = some x → l[j]? = some y → i ≠ j →
      tempName x.1.dirSlash x.1.base x.2 ≠ tempName y.1.dirSlash y.1.base y.2) :
    privateTemps (sourceCalls l) := by
  have hflag : Gen.localTempUniquePerCall = true := local_temp_assumptions_hold.1
  intro i j a b ha hb hij
  simp only [sourceCalls, List.getElem?_map, Option.map_eq_some_iff] at ha hb
  obtain ⟨x, hx, rfl⟩ := ha
  obtain ⟨y, hy, rfl⟩ := hb
  simp only [callOf, hflag, if_true]
  exact hfresh i j x y hx hy hij

/-- **Overlapping uploads are linearisable** (every schedule, any number of calls, same or different destinations): if the
temporaries are temporaries (`isTmp`), the destinations are not, the temporaries of the calls are private and deletes address
objects, then after EVERY prefix of every schedule each name reads exactly as in the plain map after the operations whose
linearisation point has passed, in that order — an upload takes effect at its rename, all at once, with its whole payload. -/
theorem concurrent_uploads_linearizable (calls : List Call) (fs0 : LocalUpload.FS)
    (htmp : ∀ (i : Nat) (c : Call), calls[i]? = some c → LocalUpload.isTmp c.tmp = true)
    (hdst : ∀ (i : Nat) (c : Call), calls[i]? = some c → LocalUpload.isTmp c.dst = false)
    (hpriv : privateTemps calls) (evs : List Ev) (hdel : deletesOk evs) (n : LocalUpload.Path) :
    LocalUpload.vget (run calls (init fs0) evs).fs n = LocalUpload.vget (spec fs0 (run calls (init fs0) evs).log) n :=
  (inv_run calls fs0 htmp hdst hpriv evs (init fs0) (inv_init calls fs0) hdel).obs n

/-- **Never a mixture or a prefix.**  Under the same hypotheses, at every moment of every schedule an object reads as it did before
the calls started, or not at all (deleted), or as the COMPLETE payload of one of the calls to that very name. -/
theorem overlapped_object_is_one_payload (calls : List Call) (fs0 : LocalUpload.FS)
    (htmp : ∀ (i : Nat) (c : Call), calls[i]? = some c → LocalUpload.isTmp c.tmp = true)
    (hdst : ∀ (i : Nat) (c : Call), calls[i]? = some c → LocalUpload.isTmp c.dst = false)
    (hpriv : privateTemps calls) (evs : List Ev) (hdel : deletesOk evs) (n : LocalUpload.Path)
    (hn : LocalUpload.isTmp n = false) :
    let now := LocalUpload.vget (run calls (init fs0) evs).fs n
    now = LocalUpload.vget fs0 n ∨ now = none ∨ ∃ c ∈ calls, c.dst = n ∧ now = some c.data := by
  intro now
  have hlin : now = LocalUpload.vget (spec fs0 (run calls (init fs0) evs).log) n :=
    concurrent_uploads_linearizable calls fs0 htmp hdst hpriv evs hdel n
  have hlog := log_run calls evs (init fs0) (fun _ _ h => by simp [init] at h)
  rw [hlin]
  simp only [LocalUpload.vget, hn, Bool.false_eq_true, if_false]
  rcases spec_lookup fs0 (run calls (init fs0) evs).log n with h | h | ⟨d, hd, h⟩
  · exact Or.inl h
  · exact Or.inr (Or.inl h)
  · obtain ⟨c, hc, hcn, hcd⟩ := hlog n d hd
    exact Or.inr (Or.inr ⟨c, hc, hcn, by rw [h, hcd]⟩)

/-- forced hypothesis `privateTemps`: two calls to ONE name that share their temporary.  Call 0 writes its payload `[1, 1]`; call 1
starts, re-creates (truncates) the temporary and writes the first of its two pieces; call 0 renames and returns — and the object
reads `[2]`: not the payload of the call that returned, not the other payload `[2, 2]`, not the old value. -/
theorem shared_temp_witness :
    let calls : List Call := [⟨"d", "d/a", "d/a_.tmp", [[1, 1]]⟩, ⟨"d", "d/a", "d/a_.tmp", [[2], [2]]⟩]
    let cf := run calls (init ⟨[], []⟩) [.step 0, .step 0, .step 0, .step 1, .step 1, .step 1, .step 0]
    ¬ privateTemps calls ∧ cf.pc 0 = (calls[0]?.map (·.plan.length)).getD 0 ∧
    LocalUpload.lookup cf.fs.files "d/a" = some [2] ∧ LocalUpload.lookup (spec ⟨[], []⟩ cf.log).files "d/a" = some [1, 1] := by
  refine ⟨?_, by decide +kernel⟩
  intro h
  exact h 0 1 _ _ rfl rfl (by decide) rfl

/-- … and two DIFFERENT names of one directory share it as well when the temporary is named after the destination's first
`Gen.localTempStemLen` characters without a per-call component: base names that agree on that many characters get the same
temporary.  (Why the per-call component, not the shortened base name, is what keeps overlapping uploads apart.) -/
theorem long_siblings_share_a_deterministic_temp (stem x y fixed : List Char) (h : stem.length = Gen.localTempStemLen) :
    tempBase (stem ++ x) fixed = tempBase (stem ++ y) fixed := by
  unfold tempBase
  rw [← h, List.take_left, List.take_left]

/-- **The temporary's name fits wherever the destination's does**: the shortened base name, the separator, the characters the
name generator adds and the suffix stay within `NAME_MAX`, for every base name and every drawn name of the generator's length. -/
theorem temp_name_fits (base rnd : List Char) (hr : rnd.length = Gen.localTempRandomLen) :
    (tempBase base rnd).length ≤ nameMax := by
  have hk : Gen.localTempStemLen + 1 + Gen.localTempRandomLen + Gen.localTempSuffix.toList.length ≤ nameMax := by decide
  unfold tempBase
  simp only [List.length_append, List.length_cons, List.length_take, hr]
  have := Nat.min_le_left Gen.localTempStemLen base.length
  omega

/-- non-vacuity: three calls with private temporaries — two to ONE name, one to a sibling — and a delete, interleaved piece by
piece; both uploads of `d/a` are in flight when the first one is renamed.  The executable form of the hypothesis (`privateTempsB`)
evaluates to `true`, and the object reads as the second payload at the end, the sibling as its own. -/
example :
    let calls : List Call := [⟨"d", "d/a", "d/a_k1.tmp", [[1], [1]]⟩, ⟨"d", "d/a", "d/a_k2.tmp", [[2], [2]]⟩, ⟨"d", "d/b", "d/b_k3.tmp", [[3]]⟩]
    let evs : List Ev := [.step 0, .step 1, .step 0, .step 1, .step 2, .step 0, .step 1, .step 0, .step 2, .step 0, .delete "d/z", .step 1, .step 1,
      .step 2, .step 2]
    let cf := run calls (init ⟨[("d/z", [9])], []⟩) evs
    privateTempsB calls = true ∧
    LocalUpload.lookup cf.fs.files "d/a" = some [2, 2] ∧ LocalUpload.lookup cf.fs.files "d/b" = some [3] ∧
    LocalUpload.lookup cf.fs.files "d/z" = none ∧ cf.log = [.put "d/b" [3], .put "d/a" [2, 2], .del "d/z", .put "d/a" [1, 1]] := by
  decide +kernel

end overlap

end Replicat.C13
