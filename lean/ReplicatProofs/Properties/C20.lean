import ReplicatProofs.Lemmas.RateLimit
import ReplicatProofs.Lemmas.RateLimitMulti
import ReplicatProofs.Lemmas.RateLimitStamps
import ReplicatProofs.Lemmas.SizeLit
import ReplicatProofs.Lemmas.IOStack
/-!
# C20 — the bandwidth limit is respected and transparent to the data

Model: `ReplicatModel/RateLimit.lean` (`step` = one call through `_RateLimitedFileWrapper` followed by
`RateLimitedIO.pause_*`; events in the order in which the pause sections run under the lock; exact `Rat`).
Constants `Gen.pauseThreshold`, `Gen.pauseLimit`, `Gen.rateDivisor` are regenerated from the source; the facts the
proofs need about them (`0 ≤ threshold`, `threshold + 1/4 ≤ limit`, `4 ≤ divisor`) are re-proved on every build.

`EvOk L eps dmax e` is what the property quantifies over: a request moves at most `L/4` bytes (and at most
`dmax`), underlying calls and idle periods take no negative time, `time.sleep` oversleeps by at most `eps`.

Full statement vs. what holds:
* `window_bound_partial` is the property's bound for **one thread, or any number of threads whose underlying calls take no
  time** (`_partial` in the sense of DESIGN §6: the extra hypothesis is spelled out as `OneThreadOrZeroLatency`);
  `window_bound_at_underlying_partial` (one thread) and `window_bound_at_underlying_threads_partial` (no latency) are
  its two halves for time stamps taken at the underlying stream.
* `multi_stream_counterexample` / `no_fixed_burst` prove that without that hypothesis the statement is false of the
  model (and, replayed by the harness, of the code): defect candidate D16.
* `window_bound_general` is what does hold for every history.
-/
namespace Replicat.C20
open Replicat Replicat.RateLimit

/-- the extra hypothesis of the partial form: all events belong to one thread, or no underlying call takes time -/
def OneThreadOrZeroLatency (evs : List Ev) : Prop :=
  (∃ i, ∀ e ∈ evs, e.stream = i) ∨ (∀ e ∈ evs, e.lat = 0)

/-- **No forgiveness.** If every request moves at most a quarter of the limit, the `PAUSE_LIMIT` cap never removes
debt, in any history from any state at rest. -/
theorem no_forgiveness (L : Rat) (hL : 0 < L) (eps : Rat) (dmax : Nat) (s : St) (evs : List Ev)
    (hev : ∀ e ∈ evs, EvOk L eps dmax e) (hs : Inv eps s) :
    ∀ o ∈ (run L s evs).2, o.forgiven = 0 :=
  good_forall (run_good hL evs s hev hs).1 Good.forgiven

/-- the debt at rest stays within `[-eps, threshold]`, sleeps are never negative, time stamps are ordered -/
theorem debt_bounded (L : Rat) (hL : 0 < L) (eps : Rat) (dmax : Nat) (s : St) (evs : List Ev)
    (hev : ∀ e ∈ evs, EvOk L eps dmax e) (hs : Inv eps s) :
    Inv eps (run L s evs).1 ∧
    ∀ o ∈ (run L s evs).2, -eps ≤ o.debt ∧ o.debt ≤ Gen.pauseThreshold ∧ 0 ≤ o.slept ∧ o.tPre ≤ o.tAcq ∧ o.tAcq ≤ o.tRel := by
  have h := run_good hL evs s hev hs
  exact ⟨h.2, good_forall h.1 fun g => ⟨g.debt_lo, g.debt_hi, g.slept_nonneg, g.pre, g.acq_le_rel⟩⟩

/-- the commands' chunk size `max(rate_limit // (concurrent * 16), 1)` is a request of at most a quarter of the limit
as soon as the limit is at least 4 bytes per second (uses the extracted divisor) -/
theorem chunk_within_quarter (rateLimit concurrent : Nat) (h4 : 4 ≤ rateLimit) (hc : 1 ≤ concurrent) :
    4 * chunkSize rateLimit concurrent ≤ rateLimit := by
  unfold chunkSize
  have hD : 4 ≤ concurrent * Gen.rateDivisor := Nat.le_trans divisor_ge_four (Nat.le_mul_of_pos_left _ hc)
  have h2 : max (rateLimit / (concurrent * Gen.rateDivisor)) 1 ≤ rateLimit / 4 :=
    Nat.max_le.mpr ⟨Nat.div_le_div_left hD (by decide), by omega⟩
  omega

/-- …and below 4 bytes per second it is not: with `rate_limit = 1` the single-byte chunk owes a full second, the cap
forgives half of it (negation witness for `no_forgiveness` without its hypothesis; outside C20's quantifier) -/
theorem low_limit_forgives :
    chunkSize 1 1 = 1 ∧ ((run 1 (St.init 0) [.io 0 (chunkSize 1 1) 0 0]).2.map (·.forgiven)) = [1 / 2] := by
  decide +kernel

/-- **General bound (every history, any number of threads, any latencies).** The bytes of any stretch of
consecutive calls are at most `L · (their latencies + their sleeps) + L · (threshold + eps)`. -/
theorem window_bound_general (L : Rat) (hL : 0 < L) (eps : Rat) (dmax : Nat) (s : St) (before stretch : List Ev)
    (hev : ∀ e ∈ before ++ stretch, EvOk L eps dmax e) (hs : Inv eps s) :
    let obs := (run L (run L s before).1 stretch).2
    sumBytes obs ≤ L * (sumLat obs + sumSlept obs) + L * (Gen.pauseThreshold + eps) := by
  intro obs
  obtain ⟨hevb, hevs⟩ := List.forall_mem_append.mp hev
  have hb := run_good hL before s hevb hs
  have hst := run_good hL stretch (run L s before).1 hevs hb.2
  refine Rat.le_trans (general_sum hL hst.1 hb.2.2) (Rat.add_le_add_left.mpr ?_)
  rw [Rat.sub_eq_add_neg]
  exact Rat.mul_le_mul_of_nonneg_left (Rat.add_le_add_left.mpr (Rat.neg_le_iff.mp hb.2.1)) (Rat.le_of_lt hL)

/-- **Window bound** (the property's statement; time stamp = the moment the wrapper call returns, i.e. the bytes are
handed on).  One thread or zero underlying latency: in every window `[a, b]` at most `L · (b − a) + burst` bytes pass,
`burst = L · (threshold + eps) + dmax`. -/
theorem window_bound_partial (L : Rat) (hL : 0 < L) (eps : Rat) (dmax : Nat) (t0 : Rat) (evs : List Ev)
    (hev : ∀ e ∈ evs, EvOk L eps dmax e) (heps : 0 ≤ eps) (hyp : OneThreadOrZeroLatency evs)
    (a b : Rat) (hab : a ≤ b) :
    winBytes (·.tRel) a b (run L (St.init t0) evs).2 ≤ L * (b - a) + burst L eps dmax := by
  have hg := (run_good hL evs (St.init t0) hev (inv_init eps heps t0)).1
  have ht : Tight (St.init t0).lockFree (run L (St.init t0) evs).2 := by
    rcases hyp with ⟨i, h1⟩ | h0
    · exact (run_tight_single i evs (St.init t0) h1 hev Rat.le_refl).1
    · exact run_tight_zero_lat L evs (St.init t0) h0
  exact window_rel_of_good hL hg ht heps hab

/-- **Window bound, time stamp = the moment the bytes cross the underlying stream** (one thread):
at most `L · (b − a) + L · (threshold + eps) + 2 · dmax` bytes in every window. -/
theorem window_bound_at_underlying_partial (L : Rat) (hL : 0 < L) (eps : Rat) (dmax : Nat) (t0 : Rat) (evs : List Ev) (i : Nat)
    (hev : ∀ e ∈ evs, EvOk L eps dmax e) (heps : 0 ≤ eps) (h1 : ∀ e ∈ evs, e.stream = i)
    (a b : Rat) (hab : a ≤ b) :
    winBytes (·.tPre) a b (run L (St.init t0) evs).2 ≤ L * (b - a) + burstPre L eps dmax := by
  have hg := (run_good hL evs (St.init t0) hev (inv_init eps heps t0)).1
  obtain ⟨ht, hpre⟩ := run_tight_single i evs (St.init t0) h1 hev Rat.le_refl
  exact Rat.le_trans (winBytes_le_winBytes _ _ _ _ _ _ _ fun o ho ha hb => hpre o ho ▸ ⟨ha, hb⟩)
    (window_acq_of_good hL hg ht heps hab)

/-- **Window bound at the underlying stream, `N` threads, no underlying latency**: every thread may have one request
in flight (bytes moved, call waiting for the limiter's lock), hence `N · dmax` more than `window_bound_partial`. -/
theorem window_bound_at_underlying_threads_partial (L : Rat) (hL : 0 < L) (eps : Rat) (dmax : Nat) (t0 : Rat) (evs : List Ev)
    (N : Nat) (hev : ∀ e ∈ evs, EvOk L eps dmax e) (heps : 0 ≤ eps) (h0 : ∀ e ∈ evs, e.lat = 0)
    (hN : ∀ e ∈ evs, e.stream < N) (a b : Rat) (hab : a ≤ b) :
    winBytes (·.tPre) a b (run L (St.init t0) evs).2 ≤ L * (b - a) + burst L eps dmax + N * dmax := by
  exact Rat.le_trans (winBytes_pre_le_rel evs _ hev N hN a b)
    (Rat.add_le_add_right.mpr (window_bound_partial L hL eps dmax t0 evs hev heps (Or.inr h0) a b hab))

/-! ## the full statement is false for several threads with latency (D16) -/

/-- **Counterexample.** `N` threads taking turns, every underlying call of `d ≤ L/4` bytes taking exactly `d / L`
seconds: no debt is ever recorded, nobody sleeps, and the window `[t0, t0 + K·d/L]` carries `N · K · d` bytes —
`N` times what the limit allows. -/
theorem multi_stream_counterexample (L : Rat) (hL : 0 < L) (N d K : Nat) (hd : 4 * (d : Rat) ≤ L) (t0 : Rat) :
    let evs := rounds N d ((d : Rat) / L) K
    let obs := (run L (St.init t0) evs).2
    (∀ e ∈ evs, EvOk L 0 d e) ∧
    (∀ o ∈ obs, o.slept = 0 ∧ o.debt = 0) ∧
    winBytes (·.tRel) t0 (t0 + K * ((d : Rat) / L)) obs = N * (L * (K * ((d : Rat) / L))) := by
  intro evs obs
  have hlat : 0 ≤ (d : Rat) / L := div_nonneg' Rat.natCast_nonneg hL
  have hok := rounds_ok L N d ((d : Rat) / L) hd hlat K
  have hspec := rounds_spec L N d ((d : Rat) / L) hlat (owed_exact L d) K t0 (St.init t0) rfl Rat.le_refl
    (fun _ => Rat.le_refl)
  have hge : ∀ o ∈ (run L (St.init t0) evs).2, t0 ≤ o.tRel := fun o ho =>
    have h := (run_stream_order evs (St.init t0) hok).1 o ho
    Rat.le_trans h.1 h.2.1
  refine ⟨hok, fun o ho => (hspec o ho).2, ?_⟩
  show winBytes (·.tRel) t0 (t0 + K * ((d : Rat) / L)) (run L (St.init t0) evs).2 = _
  rw [winBytes_all _ _ _ _ (fun o ho => ⟨hge o ho, (hspec o ho).1⟩), sumBytes_rounds, Lean.Grind.CommSemiring.mul_left_comm L,
    mul_div_cancel' L hL, Lean.Grind.CommSemiring.mul_left_comm]

/-- **No fixed burst allowance exists** once two threads have latency: for every `B` there is an admissible history
and a window in which more than `L · T + B` bytes pass. -/
theorem no_fixed_burst (L : Rat) (hL : 0 < L) (d : Nat) (hd1 : 1 ≤ d) (hd : 4 * (d : Rat) ≤ L) (B : Rat) :
    ∃ (evs : List Ev) (a b : Rat), a ≤ b ∧ (∀ e ∈ evs, EvOk L 0 d e) ∧
      L * (b - a) + B < winBytes (·.tRel) a b (run L (St.init 0) evs).2 := by
  let K := B.ceil.toNat + 1
  obtain ⟨hok, -, hw⟩ := multi_stream_counterexample L hL 2 d K hd 0
  have hlat : 0 ≤ (d : Rat) / L := div_nonneg' Rat.natCast_nonneg hL
  have hK0 : (0 : Rat) ≤ K := Rat.natCast_nonneg
  refine ⟨rounds 2 d ((d : Rat) / L) K, 0, 0 + K * ((d : Rat) / L), ?_, hok, ?_⟩
  · exact le_add_of_nonneg 0 (Rat.mul_nonneg hK0 hlat)
  · -- the window carries `2 · K · d` bytes, the limit allows `K · d`, and `B < K ≤ K · d`
    have hB : B < K * (d : Rat) := by
      have h1 : (B.ceil.toNat : Rat) < K := Rat.natCast_lt_natCast.mpr (Nat.lt_succ_self _)
      have h2 := Rat.mul_le_mul_of_nonneg_left (Rat.natCast_le_natCast.mpr hd1) hK0
      rw [Rat.natCast_ofNat, Rat.mul_one] at h2
      exact Std.lt_of_le_of_lt (le_ceil_toNat B) (Std.lt_of_lt_of_le h1 h2)
    rw [hw, Rat.zero_add, Rat.sub_eq_add_neg, Rat.neg_zero, Rat.add_zero, Lean.Grind.CommSemiring.mul_left_comm L, mul_div_cancel' L hL,
      Rat.natCast_ofNat, show (2 : Rat) = 1 + 1 by decide +kernel, Rat.add_mul, Rat.one_mul]
    exact Rat.add_lt_add_left.mpr hB

/-- **Reads and writes are limited independently.** What direction `d` observes in a mixed history is exactly a
one-direction history in which the calls of the other direction are idle time of their thread — so every theorem
above applies to each direction of a mixed history. -/
theorem directions_independent (Lr Lw : Rat) (d : Dir) (t0 : Rat) (evs : List Ev2) :
    obsOf d (run2 Lr Lw (St2.init t0) evs).2 = (run (limitOf Lr Lw d) (St.init t0) (proj Lr Lw d (St2.init t0) evs)).2 := by
  have hv : (St2.init t0).view d = St.init t0 := by cases d <;> rfl
  exact hv ▸ (proj_sim Lr Lw d evs (St2.init t0)).1

/-- **Transparent.** Over any underlying stream `u`, the results returned through the wrapper and the final state of
the underlying stream are those of applying the same operations to the stream directly — nothing is altered,
dropped, duplicated or reordered, whatever the limiter state, latencies and oversleeps. -/
theorem transparent {F : Type} (u : F → FOp → F × FRes) (Lr Lw : Rat) (i : Nat) (f : F) (s : St2)
    (ops : List (FOp × Rat × Rat)) :
    ((wrapRun u Lr Lw i f s ops).1, (wrapRun u Lr Lw i f s ops).2.1) = plainRun u f (ops.map (·.1)) := by
  induction ops generalizing f s with
  | nil => rfl
  | cons op rest ih =>
    obtain ⟨o, lat, ov⟩ := op
    have h := wrapStep_fst u Lr Lw i f s o lat ov
    simp only [wrapRun, List.map_cons, plainRun]
    rw [← h.1, ← ih, h.2]

/-- `seek`, `tell`, `truncate` (and a call in which the underlying stream raises) act on the underlying stream only:
the limiter state is untouched and nothing is accounted. -/
theorem seek_tell_truncate_delegate {F : Type} (u : F → FOp → F × FRes) (Lr Lw : Rat) (i : Nat) (f : F) (s : St2)
    (op : FOp) (lat ov : Rat) (h : accounted op (u f op).2 = none) :
    wrapStep u Lr Lw i f s op lat ov = ((u f op).1, (u f op).2, s, none) := by
  rw [wrapStep_eq, h]

/-- the limiter is charged exactly the number of bytes each `read` returned / each `write` reported, in call order -/
theorem accounted_bytes_exact {F : Type} (u : F → FOp → F × FRes) (Lr Lw : Rat) (i : Nat) (f : F) (s : St2)
    (ops : List (FOp × Rat × Rat)) :
    (wrapRun u Lr Lw i f s ops).2.2.2.map (fun p => (p.1, p.2.bytes)) =
      (List.zip (ops.map (·.1)) (plainRun u f (ops.map (·.1))).2).filterMap (fun p => accounted p.1 p.2) := by
  induction ops generalizing f s with
  | nil => rfl
  | cons op rest ih =>
    obtain ⟨o, lat, ov⟩ := op
    have h := wrapStep_fst u Lr Lw i f s o lat ov
    have ho := wrapStep_obs u Lr Lw i f s o lat ov
    have := ih (wrapStep u Lr Lw i f s o lat ov).1 (wrapStep u Lr Lw i f s o lat ov).2.2.1
    simp only [wrapRun, List.map_cons, plainRun, List.zip_cons_cons, List.map_append, List.filterMap_cons]
    rw [this, h.1]
    rw [← ho]
    cases (wrapStep u Lr Lw i f s o lat ov).2.2.2 <;> rfl

/-- on the in-memory file, a sequence of reads through the wrapper delivers the stored bytes from the current
position in order, each once: what was delivered followed by what is still unread is what was there -/
theorem reads_in_order (Lr Lw : Rat) (i : Nat) (s : St2) (reads : List (Option Nat × Rat × Rat)) (f : MemFile) :
    let r := wrapRun MemFile.apply Lr Lw i f s (reads.map (fun q => (FOp.read q.1, q.2)))
    ∃ outs : List Bytes, r.2.1 = outs.map FRes.data ∧ r.1.data = f.data ∧
      outs.flatten ++ r.1.data.drop r.1.pos = f.data.drop f.pos := by
  induction reads generalizing f s with
  | nil => exact ⟨[], rfl, rfl, by simp [wrapRun]⟩
  | cons q rest ih =>
    obtain ⟨size, lat, ov⟩ := q
    obtain ⟨out, hout, hcat⟩ := memfile_read f size
    have h := wrapStep_fst MemFile.apply Lr Lw i f s (.read size) lat ov
    rw [hout] at h
    obtain ⟨outs, h1, h2, h3⟩ := ih (wrapStep MemFile.apply Lr Lw i f s (.read size) lat ov).2.2.1 ⟨f.data, f.pos + out.length⟩
    simp only [List.map_cons, wrapRun]
    rw [h.1]
    refine ⟨out :: outs, ?_, h2, ?_⟩
    · simp only [List.map_cons, List.cons.injEq]; exact ⟨h.2, h1⟩
    · simp only [List.flatten_cons, List.append_assoc]
      rw [h3]; exact hcat

/-! ## non-vacuity -/
example : EvOk 1024 0 256 (.io 0 256 0 0) := by
  unfold EvOk
  decide +kernel
example : (run 1024 (St.init 0) [.io 0 256 0 0, .io 0 256 0 0]).2.map (·.slept) = [0, 1 / 2] := by decide +kernel
example : OneThreadOrZeroLatency [.io 0 256 0 0, .io 1 256 0 0] := Or.inr (by decide +kernel)

/-! # The limit as the user writes it, and the piece sizes derived from it

Model: `ReplicatModel/SizeLit.lean` (character-level `parse` following `HUMAN_SIZE_REGEX` under `re.fullmatch`,
`bytesDec` = the `Decimal` arithmetic of `human_to_bytes` step by step, `bytes` = the exact floor, `rateLimit` =
`_rate_limit`, `evalPiece` on the extracted piece-size expressions).

* `parse` covers EVERY string: digits and white space are the Unicode classes of the interpreter (`Gen.decimalZeros`,
  `Gen.spaceChars`), `size_literal_grammar` says that `parse` is exactly the declarative grammar `Spells`.
* `bytesDec` is what the code computes for every literal; it equals the exact value under `exactGuard`
  (coefficient · prefix · unit-coefficient < 10^28, or nothing multiplied): `size_literal_value`.  Beyond the guard the
  28-digit context rounds, `size_literal_guard_needed` is a kernel-checked witness (the harness replays it on the real code):
  that is why `rate_limit_option_accepts_iff_partial` carries the guard, while `rate_limit_option_accepts_iff` and
  `rate_limit_never_below_one` hold for every string.
-/
section SizeLiteral
open Replicat.SizeLit

/-- **The parser is the grammar.**  A string is matched with groups `l` iff `l` is a literal (`WF`) and the string spells
it: digits of any script, optionally `.` and at least one digit, white space, a key of `PREFIXES_TABLE`, a key of
`UNITS_TABLE` — in this order, nothing before, nothing after (`fullmatch`). -/
theorem size_literal_grammar (s : List Char) (l : Lit) : parse s = some l ↔ l.WF ∧ Spells s l :=
  ⟨parse_sound, fun h => parse_complete h.1 h.2⟩

/-- **Round trip.**  The canonical rendering of every literal is parsed back to exactly that literal. -/
theorem size_literal_roundtrip (l : Lit) (h : l.WF) : parse (render l) = some l :=
  parse_complete h (spells_render h)

/-- **Value.**  Under the guard the number `human_to_bytes` returns is ⌊mantissa · prefix · unit⌋: no multiplication of
the 28-digit context rounds, and the truncation of `int()` is the floor of the exact rational value. -/
theorem size_literal_value (l : Lit) (hwf : l.WF) (g : exactGuard l) :
    bytesDec l = bytes l ∧ ((bytes l : Nat) : Int) = (ratValue l).floor :=
  ⟨bytesDec_eq_bytes hwf g, bytes_floor l⟩

/-- the exact value by itself, for every literal (no guard): `bytes` is the floor of mantissa · prefix · unit -/
theorem size_literal_exact_floor (l : Lit) :
    ((bytes l : Nat) : Rat) ≤ ratValue l ∧ ratValue l < ((bytes l : Nat) : Rat) + 1 := by
  have h1 := Rat.floor_le (ratValue l)
  have h2 := Rat.lt_floor_add_one (ratValue l)
  simp only [← bytes_floor l, Rat.intCast_add, Rat.intCast_natCast] at h1 h2
  exact ⟨h1, h2⟩

/-- **Beyond the guard the arithmetic is not exact** (kernel-checked witness, replayed on the real code by the harness):
`0.9999999999999999999999999999999B` (31 nines) is less than one byte per second, its exact floor is 0, but
`Decimal * 1` rounds it to 28 digits = 1 and the option is accepted with limit 1; the same digits without the `B`
are not multiplied at all and are rejected. -/
theorem size_literal_guard_needed :
    let nines := List.replicate 31 '9'
    ∃ l, parse ('0' :: '.' :: nines ++ ['B']) = some l ∧ l.WF ∧ ¬ exactGuard l ∧ bytes l = 0 ∧ bytesDec l = 1 ∧
      rateLimit ('0' :: '.' :: nines ++ ['B']) = .ok 1 ∧ rateLimit ('0' :: '.' :: nines) = .error .notNatural := by
  refine ⟨⟨[0], some (List.replicate 31 9), 0, none, some ('B', 1, 0)⟩, ?_⟩
  decide +kernel

/-- **Monotone.**  A literal whose exact value is not smaller never yields a smaller limit — for the exact value always,
and for the value the code computes under the guard. -/
theorem size_literal_monotone (l1 l2 : Lit) (h : ratValue l1 ≤ ratValue l2) :
    bytes l1 ≤ bytes l2 ∧
    (l1.WF → l2.WF → exactGuard l1 → exactGuard l2 → bytesDec l1 ≤ bytesDec l2) := by
  refine ⟨bytes_mono h, fun w1 w2 g1 g2 => ?_⟩
  rw [bytesDec_eq_bytes w1 g1, bytesDec_eq_bytes w2 g2]
  exact bytes_mono h

/-- **Acceptance (every string).**  `_rate_limit` returns `n` iff the string spells a literal whose computed value is `n`
and `n ≥ 1`. -/
theorem rate_limit_option_accepts_iff (s : List Char) (n : Nat) :
    rateLimit s = .ok n ↔ ∃ l, l.WF ∧ Spells s l ∧ bytesDec l = n ∧ 1 ≤ n := by
  rw [rateLimit_ok_iff]
  exact ⟨fun ⟨l, hp, h⟩ => ⟨l, (parse_sound hp).1, (parse_sound hp).2, h⟩,
    fun ⟨l, w, sp, h⟩ => ⟨l, parse_complete w sp, h⟩⟩

/-- **Acceptance in terms of the written value** — accepted ⇔ well-formed ∧ value ≥ 1 byte/s, and then the limit is the
floor of the value.  `_partial`: needs `exactGuard` (spelled out; `size_literal_guard_needed` shows that beyond it a value
below one byte per second can be accepted). -/
theorem rate_limit_option_accepts_iff_partial (s : List Char) (l : Lit) (hp : parse s = some l) (g : exactGuard l) :
    ((∃ n, rateLimit s = .ok n) ↔ 1 ≤ ratValue l) ∧
    (∀ n, rateLimit s = .ok n → (n : Int) = (ratValue l).floor) := by
  have hf : ∀ n, rateLimit s = .ok n ↔ bytes l = n ∧ 1 ≤ n := fun n => by
    simp only [rateLimit_ok_iff, hp, Option.some.injEq, exists_eq_left', bytesDec_eq_bytes (parse_sound hp).1 g]
  have h1 : 1 ≤ ratValue l ↔ 1 ≤ bytes l := by
    rw [← Int.ofNat_le, bytes_floor, Rat.le_floor_iff]
    rfl
  simp only [hf, exists_eq_left', h1, true_and]
  exact fun n h => h.1 ▸ bytes_floor l

/-- **A zero or negative limit never reaches `RateLimitedIO`.**  Whatever text the option's type function is handed, the limit
a command gets is absent or at least 1; a sign is never part of a literal.  (argparse, which hands the text over, is trusted
base — see `limitOfCommand` for the one quirk observed.) -/
theorem rate_limit_never_below_one :
    (∀ s n, rateLimit s = .ok n → 1 ≤ n) ∧
    (∀ cli n, limitOfCommand cli = .ok (some n) → 1 ≤ n) ∧
    (∀ s, rateLimit ('-' :: s) = .error .noMatch ∧ rateLimit ('+' :: s) = .error .noMatch) := by
  have h1 : ∀ s n, rateLimit s = .ok n → 1 ≤ n := fun s n h =>
    let ⟨_, _, _, hn⟩ := (rateLimit_ok_iff s n).mp h
    hn
  refine ⟨h1, fun cli n h => ?_, fun s => ?_⟩
  · obtain ⟨s, -, hs⟩ := limitOfCommand_ok_some.mp h
    exact h1 s n hs
  · exact ⟨rateLimit_nonDigit_head s (by decide +kernel) (by decide), rateLimit_nonDigit_head s (by decide +kernel) (by decide)⟩

/-- the documented prefixes: decimal `k M g` = 10^3, 10^6, 10^9; binary `Ki Mi Gi` = 2^10, 2^20, 2^30; either case -/
def documentedPrefixes : List (List Char × Nat) :=
  [(['k'], 1000), (['K'], 1000), (['K', 'i'], 1024), (['k', 'i'], 1024),
   (['M'], 1000 ^ 2), (['m'], 1000 ^ 2), (['M', 'i'], 1024 ^ 2), (['m', 'i'], 1024 ^ 2),
   (['g'], 1000 ^ 3), (['G'], 1000 ^ 3), (['g', 'i'], 1024 ^ 3), (['G', 'i'], 1024 ^ 3)]

/-- **Facts about the source the theorems above stand on** — regenerated by the extractor on every build and discharged
here by `decide`: the prefix table is the documented one (as a set: the alternation of the regex is built from the table in
whatever order it has, and `matchTail_table_all` re-proves for that order that every row is found again), the unit table (`B` = 1, `b` = 0.125), the regex has the shape `parse` was
written from (built from those tables) and is used with `fullmatch` on a Unicode `str` pattern, the arithmetic context is the untouched default one (28 digits, half-even), the option is
`-L` / `--limit-rate` with `type=_rate_limit` on the four commands, nothing but the command line supplies the limit, and the
piece size is `max(rate_limit // (self._concurrent * 16), 1)` at all four call sites. -/
theorem size_literal_source_facts :
    (Gen.sizePrefixes.length = documentedPrefixes.length ∧
      Gen.sizePrefixes.all (fun p => documentedPrefixes.contains p) = true ∧
      documentedPrefixes.all (fun p => Gen.sizePrefixes.contains p) = true) ∧
    Gen.sizeUnits = [('B', 1, 0), ('b', 125, 3)] ∧
    Gen.sizeRegex = expectedRegex (Gen.sizePrefixes.map (·.1)) (Gen.sizeUnits.map (·.1)) ∧
    Gen.sizeRegexGroups = (1, 3, 4) ∧ Gen.sizeRegexGroupCount = 3 ∧
    Gen.sizeRegexUnicode = true ∧ Gen.sizeRegexFullmatch = true ∧ Gen.sizeNamesRebound = false ∧
    Gen.decimalPrec = 28 ∧ Gen.decimalHalfEven = true ∧ Gen.decimalContextTouched = false ∧
    Gen.rateLimitOptions = List.replicate 4 (["-L", "--limit-rate"], "_rate_limit", []) ∧
    Gen.rateLimitFromFile = false ∧ Gen.rateLimitFromEnv = false ∧
    Gen.pieceSites =
      [("snapshot", expectedPiece), ("restore", expectedPiece),
       ("upload_objects", expectedPiece), ("download_objects", expectedPiece)] ∧
    Gen.sizelitSectionOk = true := by
  decide +kernel

/-- **Piece sizes.**  At each of the four call sites, for every limit and every `concurrent ≥ 1`, the piece handed to
`upload_stream` / `download_stream` is the chunk size of the limiter theorems (`RateLimit.chunkSize`), is at least one byte,
at most the limit (at most 1 for a zero limit), and `16 · concurrent` pieces fit into one second's allowance unless the
piece is the one-byte floor; with `concurrent = 0` the expression raises `ZeroDivisionError`. -/
theorem transfer_piece_bounds (site : String × List Gen.PieceTok) (hs : site ∈ Gen.pieceSites) (limit conc : Nat) :
    (1 ≤ conc → ∃ p, evalPiece site.2 limit conc = .ok p ∧ p = RateLimit.chunkSize limit conc ∧
        1 ≤ p ∧ p ≤ max limit 1 ∧ p * 16 * conc ≤ max limit (16 * conc)) ∧
    (conc = 0 → evalPiece site.2 limit conc = .error .zeroDivision) := by
  rw [(by decide +kernel : ∀ s ∈ Gen.pieceSites, s.2 = expectedPiece) site hs, evalPiece_expected]
  refine ⟨fun hc => ?_, fun hc => by simp [hc]⟩
  obtain ⟨h1, h2, h3⟩ := piece_bounds limit (conc * 16)
  refine ⟨_, if_neg (by omega), rfl, h1, h2, ?_⟩
  rwa [Nat.mul_assoc, Nat.mul_comm 16 conc]

/-! ## non-vacuity (size literals) -/
example : (⟨[1], some [5], 0, some (['M', 'i'], 1024 ^ 2), none⟩ : Lit).WF := by decide +kernel
example : parse ['1', '.', '5', 'M', 'i'] = some ⟨[1], some [5], 0, some (['M', 'i'], 1024 ^ 2), none⟩ := by decide +kernel
example : rateLimit ['1', '.', '5', 'M', 'i'] = .ok 1572864 := by decide +kernel
example : exactGuard ⟨[1], some [5], 0, some (['M', 'i'], 1024 ^ 2), none⟩ := by decide +kernel
example : rateLimit ['1', 'K', 'i', 'b'] = .ok 128 ∧ rateLimit ['7', 'b'] = .error .notNatural ∧ rateLimit ['8', 'b'] = .ok 1 := by decide +kernel
example : rateLimit ['1', '.'] = .error .noMatch ∧ rateLimit ['1', ' ', 'k', ' ', 'b'] = .error .noMatch ∧ rateLimit [] = .error .noMatch := by decide +kernel
example : ratValue ⟨[0], some [5], 0, none, none⟩ ≤ ratValue ⟨[1], none, 0, none, none⟩ := by decide +kernel
example : ("snapshot", expectedPiece) ∈ Gen.pieceSites := by decide +kernel
example : evalPiece expectedPiece 1000 5 = .ok 12 ∧ evalPiece expectedPiece 3 5 = .ok 1 := by decide +kernel

end SizeLiteral

/-! ## the wrapper stack of the commands and the loop that drains it (`ReplicatModel/IOStack.lean`)

Transparency clause of C20 for the WHOLE stack TQDMIOReader/Writer → CallbackIOWrapper → _RateLimitedFileWrapper → stream.
`Gen.ioWrapperTable` (probed from the classes), `Gen.ioStackSites` (order of wrapping at the four call sites) and
`Gen.ioIterChunksShape` are regenerated on every run; `iostack_source_facts` compares them with the model's own tables. -/
section IOStackSection
open Replicat.IOStack

/-- the source still has the shape the model was written from (per class and method: which method of the wrapped object gets
    the arguments, what is told to tracker / limiter / callback afterwards; the four stacks; the read loop) -/
theorem iostack_source_facts :
    Gen.ioWrapperTable = specTable ∧ Gen.ioStackSites = siteTable ∧ Gen.ioIterChunksShape = "read-until-empty" := by
  decide +kernel

/-- REFINEMENT, every stack (any layers in any order), every file, every sequence of operations: the results returned through
    the stack and the final underlying file are those of the bare file (a method the wrappers do not have raises, touches nothing) -/
theorem iostack_transparent (ls : List Layer) (f : File) (ops : List Op) :
    (runStack ls f ops).1 = (runBare ls f ops).1 ∧ (runStack ls f ops).2.1 = (runBare ls f ops).2 :=
  runStack_refines ls ops f

/-- … and when every operation is one the stack has, that is literally the plain file -/
theorem iostack_transparent_offered (ls : List Layer) (f : File) (ops : List Op)
    (h : ∀ op ∈ ops, offers ls op.meth = true) :
    (runStack ls f ops).1 = (runFile f ops).1 ∧ (runStack ls f ops).2.1 = (runFile f ops).2 := by
  exact runBare_eq_runFile ls ops f h ▸ runStack_refines ls ops f

/-- what the four stacks offer: seek and truncate always, read on the upload side, write on the download side, never tell -/
theorem iostack_command_stacks_offer (c : Cmd) (limited : Bool) :
    offers (commandStack c limited) .seek = true ∧ offers (commandStack c limited) .truncate = true ∧
    offers (commandStack c limited) .tell = false ∧
    offers (commandStack c limited) .read = decide (c = .snapshot ∨ c = .uploadObjects) ∧
    offers (commandStack c limited) .write = decide (c = .restore ∨ c = .downloadObjects) := by
  cases c <;> cases limited <;> decide +kernel

/-- `truncate` through a command's stack: the tracker is RESET — count 0, total = the new size — although the position of the
    stream does not move (mirrors `TQDMIOBase.truncate`; cosmetic: the bar restarts from 0 after b2/s3c/local `truncate(length)`) -/
theorem iostack_truncate_resets_tracker (c : Cmd) (limited : Bool) (f : File) (n : Option Int) (s : Nat)
    (h : (f.truncate n).2 = .num s) (n0 : Nat) (t0 : Option Nat) :
    (stackStep (commandStack c limited) f (.truncate n)).2.2 = [.reset (some s)] ∧
    trackerN n0 (stackStep (commandStack c limited) f (.truncate n)).2.2 = 0 ∧
    trackerTotal t0 (stackStep (commandStack c limited) f (.truncate n)).2.2 = some s ∧
    (stackStep (commandStack c limited) f (.truncate n)).1.pos = f.pos := by
  rw [stackStep_commandStack_truncate, h]
  exact ⟨rfl, rfl, rfl, truncate_pos f n⟩

/-- so "the tracker shows the position" is FALSE after a truncate (kernel-checked witness; snapshot stack, 3 bytes read, truncate()) -/
theorem iostack_tracker_not_position_after_truncate :
    ∃ (f : File) (ops : List Op),
      trackerN 0 (runStack (commandStack .snapshot true) f ops).2.2 ≠ (runStack (commandStack .snapshot true) f ops).1.pos :=
  ⟨⟨.bytesio, [1, 2, 3, 4, 5], 0, 0⟩, [.read (some 3), .truncate none], by decide +kernel⟩

/-- `iter_chunks(stack, cs)`, cs ≥ 1, any stack that has `read`, any file INCLUDING a short-reading one: non-empty pieces of at
    most cs bytes (at most `cap` for a short-reading stream — more pieces, same bytes), concatenation = the content from the
    current position, the loop stops at the first empty read (which only the end of the stream produces), content untouched -/
theorem iostack_iter_chunks_delivers (ls : List Layer) (cs : Int) (f : File) (hoff : offers ls .read = true) (hcs : 1 ≤ cs) :
    (drain ls cs f).pieces.flatten = f.content.drop f.pos ∧ (drain ls cs f).ended = true ∧
    (∀ p ∈ (drain ls cs f).pieces, 0 < p.length ∧ (p.length : Int) ≤ cs ∧ (f.cap ≠ 0 → p.length ≤ f.cap)) ∧
    (drain ls cs f).file.content = f.content ∧ (drain ls cs f).file.pos = f.pos + f.avail :=
  iterChunks_delivers hoff cs hcs (drainFuel f) f (Nat.lt_succ_self _)

/-- chunk size 0: `read(0)` is empty, so the loop delivers NOTHING and reports a normal end (mirrors `iter(…, b'')`) -/
theorem iostack_iter_chunks_zero (ls : List Layer) (f : File) (hoff : offers ls .read = true) :
    (drain ls 0 f).pieces = [] ∧ (drain ls 0 f).ended = true ∧ (drain ls 0 f).file = f := by
  have hk : f.readLen (some 0) = 0 := by
    have := (readLen_some f (Int.le_refl 0)).1
    omega
  unfold drain drainFuel
  rw [iterChunks_succ hoff, if_pos hk, hk]
  exact ⟨rfl, rfl, rfl⟩

/-- a stack without `read` (the download side): the first call raises, nothing is delivered, nothing is touched -/
theorem iostack_iter_chunks_no_read (ls : List Layer) (cs : Int) (f : File) (hoff : offers ls .read = false) :
    (drain ls cs f).pieces = [] ∧ (drain ls cs f).ended = false ∧ (drain ls cs f).file = f := by
  have h := stackStep_refines_bareStep ls f (.read (some cs))
  simp [bareStep, Op.meth, hoff] at h
  simp [drain, drainFuel, iterChunks, h.1, h.2]

/-- RETRY: `seek(0)` through the whole stack, then a full drain, re-delivers exactly the content — whatever the position was
    (e.g. after an attempt that failed half way) — and leaves the content as it was, so every further retry delivers the same -/
theorem iostack_rewind_redelivers (ls : List Layer) (cs : Int) (f : File)
    (hr : offers ls .read = true) (hs : offers ls .seek = true) (hcs : 1 ≤ cs) :
    (rewindDrain ls cs f).pieces.flatten = f.content ∧ (rewindDrain ls cs f).ended = true ∧
    (rewindDrain ls cs f).file.content = f.content ∧
    (rewindDrain ls cs (rewindDrain ls cs f).file).pieces.flatten = (rewindDrain ls cs f).pieces.flatten := by
  have key : ∀ g : File, (rewindDrain ls cs g).pieces.flatten = g.content ∧ (rewindDrain ls cs g).ended = true ∧
      (rewindDrain ls cs g).file.content = g.content := by
    intro g
    have h : (stackStep ls g (.seek 0 0)).1 = { g with pos := 0 } := by
      rw [(stackStep_refines_bareStep ls g (.seek 0 0)).1, bareStep_offered (op := .seek 0 0) hs]
      rfl
    have d := iostack_iter_chunks_delivers ls cs { g with pos := 0 } hr hcs
    unfold rewindDrain
    rw [h]
    exact ⟨by simpa using d.1, d.2.1, d.2.2.2.1⟩
  have k1 := key f
  have k2 := key (rewindDrain ls cs f).file
  exact ⟨k1.1, k1.2.1, k1.2.2, by rw [k2.1, k1.2.2, k1.1]⟩

/-! non-vacuity -/
example : (runStack (commandStack .uploadObjects true) ⟨.bytesio, [1, 2, 3, 4, 5], 1, 0⟩ [.read (some 2), .seek 0 0, .read none]).2
    = ([.bytes [2, 3], .num 0, .bytes [1, 2, 3, 4, 5]],
       [.pause false 2, .callback 2, .update 2, .reset none, .update 0, .pause false 5, .callback 5, .update 5]) := by decide +kernel
example : (drain (commandStack .snapshot true) 2 ⟨.bytesio, [1, 2, 3, 4, 5], 0, 0⟩).pieces = [[1, 2], [3, 4], [5]] := by decide +kernel
example : (drain (commandStack .snapshot false) 4 ⟨.bytesio, [1, 2, 3, 4, 5], 0, 3⟩).pieces = [[1, 2, 3], [4, 5]] := by decide +kernel
example : (runStack (commandStack .restore true) ⟨.osfile, [1, 2], 4, 0⟩ [.write [9], .truncate (some 7)]).1.content = [1, 2, 0, 0, 9, 0, 0] := by decide +kernel

end IOStackSection

end Replicat.C20
