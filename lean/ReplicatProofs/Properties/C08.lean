import ReplicatProofs.Lemmas.RepoExact
import ReplicatProofs.Lemmas.RepoAccess
import ReplicatProofs.Lemmas.Format
import ReplicatProofs.Lemmas.LocalClean
/-!
# C08 — garbage collection is complete and confined to the caller's own data

Property theorems and the predicate `foreign` they are stated with.  `delete_snapshots` and `clean` of `ReplicatModel/Repo.lean` on ANY well-formed object map (orphaned
chunks from interrupted commands, several key families, encrypted or not), and the location format of
`ReplicatModel/Format.lean` (what lets `clean` recognise its own chunks from the listing).

An unencrypted repository has one family, number 0 (`UserOk` / `FamOk`, see C02): without keys there is no tag check and every
object under `data/` is "own".
-/
namespace Replicat.C08
open Replicat.Repo Replicat.Format List

/-- **delete is complete.**  After a successful `delete_snapshots(sids)` by `u`: every requested snapshot object is gone, and
every chunk referenced by a deleted snapshot and by no remaining snapshot of the family is gone. -/
theorem delete_complete (enc : Bool) (u : User) (sids : List Nat) (s s' : Store) (hwf : WF s) (hfam : FamOk enc s) (hu : UserOk enc u)
    (hd : deleteSnapshots enc u sids s = .ok s') :
    (∀ sid ∈ sids, get s' (.snap u.fam sid) = none) ∧
    ∀ sid ∈ sids, ∀ b, get s (.snap u.fam sid) = some (.snap u.fam sid b) → ∀ c ∈ b.chunks,
      (∀ sid' b', get s' (.snap u.fam sid') = some (.snap u.fam sid' b') → c ∉ b'.chunks) →
      get s' (.chunk u.fam c) = none := by
  have sp := delete_spec hwf hd
  refine ⟨fun sid hs => sp.snap_gone u.fam sid hs (visible_own enc u), ?_⟩
  intro sid hs b hg c hc honly
  apply sp.chunk_gone c ⟨u.fam, sid, b, hg, visible_own enc u, hs, hc⟩
  rintro ⟨f1, sid1, b1, hg1, hv1, hs1, hc1⟩
  have hf1 := visible_fam hu hfam hg1 hv1
  subst hf1
  refine honly sid1 b1 ?_ hc1
  rw [sp.snap_keep _ sid1 (fun hh => hs1 hh.1)]
  exact hg1

/-- **delete removes nothing that is still needed, and nothing else**: a chunk object that disappears was referenced by a
deleted snapshot; snapshot objects that disappear were requested. -/
theorem delete_only_requested (enc : Bool) (u : User) (sids : List Nat) (s s' : Store) (hwf : WF s)
    (hd : deleteSnapshots enc u sids s = .ok s') :
    (∀ f sid, get s (.snap f sid) ≠ none → get s' (.snap f sid) = none → sid ∈ sids ∧ visible enc u f = true) ∧
    (∀ f c, get s (.chunk f c) ≠ none → get s' (.chunk f c) = none → f = u.fam ∧ RefBy enc u s (· ∈ sids) c ∧ ¬ RefBy enc u s (· ∉ sids) c) := by
  have sp := delete_spec hwf hd
  constructor
  · intro f sid h1 h2
    by_cases hc : sid ∈ sids ∧ visible enc u f = true
    · exact hc
    · rw [sp.snap_keep f sid hc] at h2
      exact absurd h2 h1
  · intro f c h1 h2
    by_cases hc : f = u.fam ∧ RefBy enc u s (· ∈ sids) c ∧ ¬ RefBy enc u s (· ∉ sids) c
    · exact hc
    · rw [Classical.not_and_iff_not_or_not, Classical.not_and_iff_not_or_not, Classical.not_not] at hc
      rw [sp.chunk_keep f c hc] at h2
      exact absurd h2 h1

/-- **clean from ANY well-formed state** (orphans of interrupted commands, even missing chunks): it succeeds, and afterwards an
own-family chunk object exists iff it existed before and a remaining snapshot of the family references it — no orphan survives,
nothing referenced is removed. -/
theorem clean_no_orphans (enc : Bool) (u : User) (s : Store) (hwf : WF s) (hfam : FamOk enc s) (hu : UserOk enc u) :
    ∃ s', clean enc u s = .ok s' ∧ ∀ c,
      ((get s' (.chunk u.fam c)).isSome ↔
        (get s (.chunk u.fam c)).isSome ∧ ∃ sid b, get s' (.snap u.fam sid) = some (.snap u.fam sid b) ∧ c ∈ b.chunks) := by
  obtain ⟨s', hs', _⟩ := clean_spec (enc := enc) (u := u) hwf
  exact ⟨s', hs', clean_own_chunks hwf hfam hu hs'⟩

/-- **clean is exact.**  From any consistent state — arbitrary orphans allowed — after `clean` by `u` the chunk objects of the
caller's family are exactly the chunks referenced by the remaining snapshots of the family. -/
theorem clean_exact (enc : Bool) (u : User) (s : Store) (h : Consistent enc s) (hu : UserOk enc u) :
    ∃ s', clean enc u s = .ok s' ∧ Exact u.fam s' := by
  obtain ⟨s', hs', _⟩ := clean_spec (enc := enc) (u := u) h.1
  exact ⟨s', hs', clean_exact_own h hu hs'⟩

/-- names that are not the caller's: the config, everything outside the two areas, and — in an encrypted repository — the
chunk and snapshot objects of every other key family -/
def foreign (enc : Bool) (u : User) : Repo.Name → Bool
  | .config => true
  | .other _ => true
  | .chunk f _ => enc && f != u.fam
  | .snap f _ => enc && f != u.fam

/-- **Frame.**  delete and clean (successful or refused) leave every foreign object exactly as it was. -/
theorem gc_frame (enc : Bool) (u : User) (s : Store) (op : Op) (hop : (∃ sids, op = .delete u sids) ∨ op = .clean u)
    (hwf : WF s) (n : Repo.Name) (hn : foreign enc u n = true) : get (step enc s op) n = get s n := by
  have hf : ∀ f, nameFam n = some f → enc = true ∧ f ≠ u.fam := by
    intro f hf
    cases n with
    | chunk f' _ | snap f' _ =>
      cases hf
      exact ⟨(Bool.and_eq_true _ _ ▸ hn).1, bne_iff_ne.mp (Bool.and_eq_true _ _ ▸ hn).2⟩
    | _ => cases hf
  rcases hop with ⟨sids, rfl⟩ | rfl
  · exact step_frame hwf _ hf
  · exact step_frame hwf _ hf

/-- clean never removes a snapshot object (of any family, encrypted or not) -/
theorem clean_keeps_snapshots (enc : Bool) (u : User) (s : Store) (hwf : WF s) (f : Fam) (sid : Nat) :
    get (step enc s (.clean u)) (.snap f sid) = get s (.snap f sid) := by
  show get (match clean enc u s with | .ok s' => s' | .error _ => s) (.snap f sid) = get s (.snap f sid)
  cases hd : clean enc u s with
  | ok s' => exact (clean_spec_of_ok hwf hd).snap_keep f sid
  | error e => rfl

/-- **Location round trip (chunks)**: `parse_chunk_location(get_chunk_location(name, tag)) = (name, tag)` for hex strings with a
tag of at least 4 characters — with the prefix, slice points, separators, `maxsplit` and part indices of the extracted source. -/
theorem location_roundtrip (name tag : Str) (hname : name.all isHex = true) (htag : tag.all isHex = true) (hlen : 4 ≤ tag.length) :
    parseChunkLocation (getChunkLocation name tag) = .ok (name, tag) := by
  have hn : ∀ ch ∈ name, ch ≠ '-' := fun ch h => (isHex_ne ch (all_eq_true.mp hname ch h)).1
  have ht : ∀ ch ∈ tag, ch ≠ '/' := fun ch h => (isHex_ne ch (all_eq_true.mp htag ch h)).2
  have hpre : Gen.chunkPrefix.toList = Gen.chunkPrefix.toList.dropLast ++ ['/'] := by decide
  have hk : 0 < Gen.chunkLocSplit.1 ∧ Gen.chunkLocSplit.1 < Gen.chunkLocSplit.2 ∧ Gen.chunkLocSplit.1 < 4 := by decide
  unfold parseChunkLocation getChunkLocation
  rw [show Gen.chunkParseNameSep = '-' by decide, show Gen.chunkParseDirSep = '/' by decide,
    show Gen.chunkParseSplits = 3 by decide, show Gen.chunkParseIdx = [1, 2, 3] by decide,
    show Gen.chunkBuildNameSep = '-' by decide, hpre]
  refine roundtrip _ name _ [slice tag Gen.chunkLocSplit.1 Gen.chunkLocSplit.2] _ tag _
    ⟨slice_ne_nil tag 0 _ hk.1 (by omega), fun ch h => ht ch (mem_slice h)⟩ ?_ (fun ch h => ht ch (mem_of_mem_drop h)) hn ?_
  · intro q hq
    rw [mem_singleton.mp hq]
    exact ⟨slice_ne_nil tag _ _ hk.2.1 (by omega), fun ch h => ht ch (mem_slice h)⟩
  · exact congrArg some ((congrArg _ (congrArg _ (append_nil _))).trans (slice_parts tag _ _ (Nat.le_of_lt hk.2.1)))

/-- **Location round trip (snapshots)**, tag of at least 2 characters. -/
theorem snapshot_location_roundtrip (name tag : Str) (hname : name.all isHex = true) (htag : tag.all isHex = true) (hlen : 2 ≤ tag.length) :
    parseSnapshotLocation (getSnapshotLocation name tag) = .ok (name, tag) := by
  have hn : ∀ ch ∈ name, ch ≠ '-' := fun ch h => (isHex_ne ch (all_eq_true.mp hname ch h)).1
  have ht : ∀ ch ∈ tag, ch ≠ '/' := fun ch h => (isHex_ne ch (all_eq_true.mp htag ch h)).2
  have hpre : Gen.snapshotPrefix.toList = Gen.snapshotPrefix.toList.dropLast ++ ['/'] := by decide
  have hk : 0 < Gen.snapLocSplit := by decide
  unfold parseSnapshotLocation getSnapshotLocation
  rw [show Gen.snapParseNameSep = '-' by decide, show Gen.snapParseDirSep = '/' by decide,
    show Gen.snapParseSplits = 2 by decide, show Gen.snapParseIdx = [1, 2] by decide,
    show Gen.snapBuildNameSep = '-' by decide, hpre]
  refine roundtrip _ name _ [] _ tag _ ⟨slice_ne_nil tag 0 _ hk (by omega), fun ch h => ht ch (mem_slice h)⟩
    (fun _ hq => nomatch hq) (fun ch h => ht ch (mem_of_mem_drop h)) hn ?_
  exact congrArg some ((congrArg _ (append_nil _)).trans (take_append_drop _ tag))

/-- two different (name, tag) pairs never share a location -/
theorem location_injective (name tag name' tag' : Str) (h1 : name.all isHex = true) (h2 : tag.all isHex = true) (h3 : 4 ≤ tag.length)
    (h1' : name'.all isHex = true) (h2' : tag'.all isHex = true) (h3' : 4 ≤ tag'.length)
    (heq : getChunkLocation name tag = getChunkLocation name' tag') : name = name' ∧ tag = tag' := by
  have a := location_roundtrip name tag h1 h2 h3
  have b := location_roundtrip name' tag' h1' h2' h3'
  rw [heq, b] at a
  injection a with a
  injection a with a1 a2
  exact ⟨a1.symm, a2.symm⟩

/-! ## the local backend: its post-deletion clean-up walks the WHOLE repository directory

`gc_frame` speaks about the object map.  On `replicat.backends.local.Local` a successful `clean` that deleted something also runs
`Local.clean()`, a walk over everything below the repository directory — the user's own files next to `data/` and `snapshots/`
included.  `ReplicatModel/LocalClean.lean` models the walk (`_find_deletable` flags, one `rmdir` per flagged entry, `rmdir` of a
non-empty directory fails); the three facts it relies on — nothing reachable from `Local.clean` can remove or rewrite a file, a
non-directory is only ever reported `False` — are read from the source on every run (`Gen.localCleanFileRemovers`,
`Gen.localCleanDirRemovers`, `Gen.localCleanNonDirFlags`) and discharged here by `decide`. -/
section localBackend
open Replicat.LocalFS Replicat.LocalClean

/-- **The clean-up never removes or changes a file**: for the extracted source, `Local.clean()` succeeds on every directory
tree (no `ENOTEMPTY`: children are removed before their parents), the table of files is the same afterwards, hence so is the
object map the directory denotes (`FS.abs`) — in both areas and outside them, whatever the names look like. -/
theorem local_clean_keeps_files (fs : FS) :
    ∃ fs', LocalClean.clean fs = .ok fs' ∧ fs'.files = fs.files ∧ ∀ n, fs'.abs n = fs.abs n := by
  refine ⟨_, clean_eq fs (by decide), rfl, fun n => rfl⟩

/-- **It removes exactly the directories without a file below them** (that is its purpose: the fan-out directories emptied by
the deletions; empty directories of the user go too — a directory is not an object), never the repository directory itself. -/
theorem local_clean_removes_exactly_fileless_dirs (fs fs' : FS) (h : LocalClean.clean fs = .ok fs') (d : LocalFS.Path) :
    d ∈ fs'.dirs ↔ d ∈ fs.dirs ∧ (d = [] ∨ hasFileBelow fs d = true) := by
  rw [clean_eq fs (by decide)] at h
  injection h with h
  subst h
  simp only [List.mem_filter, decide_eq_true_eq, mem_plan, not_and, Bool.not_eq_false]
  constructor
  · rintro ⟨h1, h2⟩
    refine ⟨h1, ?_⟩
    by_cases e : d = []
    · exact Or.inl e
    · exact Or.inr (h2 h1 e)
  · rintro ⟨h1, h2⟩
    refine ⟨h1, fun _ hne => ?_⟩
    rcases h2 with e | e
    · exact absurd e hne
    · exact e

/-- every directory on the way to a file stays: a foreign object remains reachable under its name -/
theorem local_clean_keeps_ancestors (fs fs' : FS) (h : LocalClean.clean fs = .ok fs') (p : LocalFS.Path) (hp : fs.isFile p = true)
    (a : LocalFS.Path) (ha : a ∈ ancestors p) (hd : a ∈ fs.dirs) : a ∈ fs'.dirs := by
  rw [local_clean_removes_exactly_fileless_dirs fs fs' h a]
  refine ⟨hd, Or.inr ?_⟩
  obtain ⟨_, hpre, hne⟩ := (mem_ancestors a p).mp ha
  have hlen : a.length < p.length := by
    rcases Nat.lt_or_ge a.length p.length with hl | hl
    · exact hl
    · exact absurd (hpre.eq_of_length_le hl) hne
  simp only [FS.isFile, FS.get, Option.isSome_iff_exists] at hp
  obtain ⟨b, hb⟩ := hp
  simp only [hasFileBelow, List.any_eq_true]
  refine ⟨(p, b), alookup_mem _ _ _ hb, ?_⟩
  simp only [below, Bool.and_eq_true, decide_eq_true_eq]
  exact ⟨List.isPrefixOf_iff_prefix.mpr hpre, hlen⟩

/-- a second clean-up finds nothing to do -/
theorem local_clean_idempotent (fs fs' : FS) (h : LocalClean.clean fs = .ok fs') : LocalClean.clean fs' = .ok fs' := by
  have hfiles : fs'.files = fs.files := by
    rw [clean_eq fs (by decide)] at h
    injection h with h
    subst h
    rfl
  rw [clean_eq fs' (by decide)]
  congr 1
  have : fs'.dirs.filter (fun p => p ∉ plan fs') = fs'.dirs := by
    apply List.filter_eq_self.mpr
    intro d hd
    simp only [decide_eq_true_eq, mem_plan, not_and, Bool.not_eq_false]
    intro _ hne
    have := (local_clean_removes_exactly_fileless_dirs fs fs' h d).mp hd
    rcases this.2 with e | e
    · exact absurd e hne
    · unfold hasFileBelow
      rw [hfiles]
      exact e
  cases fs' with
  | mk f d =>
    simp only at this ⊢
    rw [this]

/-- **The order in which `os.scandir` reports entries does not matter**: every order of the file-less directories in which no
directory precedes one below it — all the recursive generator can produce — has the result of the model's own order. -/
theorem local_clean_scan_order_irrelevant (fs : FS) (l : List LocalFS.Path) (hpo : PostOrder fs l) (hall : ∀ d, d ∈ l ↔ d ∈ plan fs) :
    runPlan fs l = runPlan fs (plan fs) := by
  rw [runPlan_postorder l fs hpo, runPlan_postorder _ fs (plan_postorder fs)]
  congr 2
  apply List.filter_congr
  intro d _
  simp [hall d]

/-- **Frame on the directory.**  A destructive command on the local backend = `Local.delete` of the objects it chose (all of
them inside the two areas, by `gc_frame` / `delete_only_requested`), then — only if there was one — the clean-up.  It succeeds, and
every path it did not delete holds the same bytes afterwards: `exports/2024/report.tmp`, `data2/x`, `snapshots.bak/y`, `.tmp`. -/
theorem local_gc_frame (fs : FS) (dels : List LocalFS.Path) (q : LocalFS.Path) (hq : q ∉ dels) :
    ∃ fs', gcOnLocal fs dels = .ok fs' ∧ fs'.get q = fs.get q := by
  unfold gcOnLocal
  split
  · exact ⟨fs, rfl, rfl⟩
  · refine ⟨_, clean_eq _ (by decide), ?_⟩
    exact get_foldl_erase dels fs q hq

end localBackend

/-! ## non-vacuity and boundary witnesses -/

/-- orphans (chunk 1/77, left by an interrupted snapshot), two families, a stray object: clean by family 1 removes exactly the
orphan of family 1; family 2's orphan, the config and the stray object stay -/
example :
    let s : Store := [(.config, .config), (.other 1, .blob 1), (.snap 1 5, .snap 1 5 ⟨1, 1, [7], []⟩), (.chunk 1 7, .chunk 1 7),
      (.chunk 1 77, .chunk 1 77), (.chunk 2 88, .chunk 2 88)]
    (step true s (.clean ⟨1, 1⟩)).map (·.1) = [.config, .other 1, .snap 1 5, .chunk 1 7, .chunk 2 88] := by
  decide +kernel

/-- the length bound of the round trip is needed: with a 2-character tag the code builds a location with only two directory levels, which its own parser
rejects (IndexError) — model and code agree on that (tied in the harness); replicat's tags are MAC/digest outputs ≥ 16 bytes -/
example : (match parseChunkLocation (getChunkLocation "00ff".toList "ab".toList) with | .error .index => true | _ => false) = true := by
  decide +kernel

example : (parseChunkLocation (getChunkLocation "00ff".toList "abcdef".toList)).toOption = some ("00ff".toList, "abcdef".toList) := by
  decide +kernel

/-- the walk on a small directory: `data/ab/cd` lost its last chunk and goes with `data/ab`; `data/ef` still holds one;
the user's `exports/r.tmp`, the dot-file `.tmp` and `data2/x` stay, the user's empty `old` directory goes -/
example :
    let fs : LocalFS.FS := ⟨[(["data".toList, "ef".toList, "c1".toList], [1]), (["exports".toList, "r.tmp".toList], [2]), ([".tmp".toList], []),
        (["data2".toList, "x".toList], [3])],
      [["data".toList], ["data".toList, "ab".toList], ["data".toList, "ab".toList, "cd".toList], ["data".toList, "ef".toList], ["exports".toList],
        ["data2".toList], ["old".toList]]⟩
    (match LocalClean.clean fs with
      | .ok fs' => decide (fs'.files = fs.files ∧ fs'.dirs = [["data".toList], ["data".toList, "ef".toList], ["exports".toList], ["data2".toList]])
      | _ => false) = true := by
  decide +kernel

/-- `rmdir` in the wrong order fails (ENOTEMPTY): the post-order of the walk is needed -/
example :
    let fs : LocalFS.FS := ⟨[], [["a".toList], ["a".toList, "b".toList]]⟩
    LocalClean.runPlan fs [["a".toList], ["a".toList, "b".toList]] = .error .notEmpty ∧
    LocalClean.runPlan fs [["a".toList, "b".toList], ["a".toList]] = .ok ⟨[], []⟩ := by
  decide +kernel

end Replicat.C08
