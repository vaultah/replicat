import ReplicatProofs.Lemmas.SymMulti
/-!
# C04 — damaged or substituted repository objects are never restored silently

Property theorems only.  Object: the reader side of `ReplicatModel/Sym.lean` — `verifyChunk` (`restore._download_chunk`),
`loadSnapshot` (`_load_snapshots._download_snapshot` + `_download_snapshot_threadsafe` + `_decrypt_snapshot_body`), `restore`
(selection by snapshot name, newest-first file selection, reference plan) — run against an ARBITRARY object map: the adversary
chooses every `(location, object)` pair of the store, so bit flips / truncations / extensions (= some term that is not the
original), swaps, replays under other names, removals and any combination of them are all instances.

Assumption (DESIGN.md §4): ideal hash and AEAD — `Term.hash` and `enc` are free constructors.  Which guards the code contains
(`Gen.chunkDigestVerified`, `Gen.snapDigestVerified`, `Gen.snapTagChecked`, key-from-digest flags) is regenerated from the
source on every run; the proofs discharge them by `decide`, so they stop compiling when a guard disappears.

Sessions (`ReplicatModel/SymSession.lean`): the same reader as performed by ONE long-lived `Repository` object that issues many
commands while the adversary changes the object map between them.  `Gen.chunkDigestCheckDominates` (the digest comparison is on
every path to the writers) is what makes the object's state irrelevant; the `session_*` theorems discharge it by `decide`.

Several snapshots (`ReplicatModel/SymMulti.lean`): the commands that SELECT among the loaded snapshots — restore without a filter
(newest version of every path), restore / list-files / list-snapshots with or without a name filter.  For them "the damaged object
was left out" is silent corruption, not an error path.  `Gen.snapLoadNeverSkipsListedOwn` (no path of the loader returns `None`
for a listed object of the own family once it is read) is what excludes it; the theorems of the last section discharge it by
`decide`.
-/
namespace Replicat.C04
open Replicat Replicat.Sym
open Term (pub sec nonce key nil pair mac kdf enc)

/-- **A verified chunk is the captured chunk.**  Whatever object sits at the location (garbage, another chunk of the
repository, a snapshot object, a truncation …), in encrypted and unencrypted repositories: if `verifyChunk` accepts it for the
digest recorded in the snapshot, the accepted plaintext is the plaintext that digest was computed from. -/
theorem verify_chunk_sound (p : Props) (c obj m : Term) (h : verifyChunk p (digest c) obj = .ok m) : m = c :=
  digest_inj (verifyChunk_ok_digest h)

/-- **A swapped ciphertext fails authentication.**  In an encrypted repository the valid object of chunk `c` placed where a
chunk with another digest `d` is expected is rejected by the AEAD itself (the key is derived from the expected digest),
before the digest comparison is even reached. -/
theorem swapped_chunk_fails_authentication (p : Props) (hp : p.encrypted = true) (n c d : Term) (hne : digest c ≠ d) :
    verifyChunk p d (chunkObject p n c) = .error .decryption := by
  have h1 : Gen.chunkReadKeyFromDigest = true := by decide
  have h2 : Gen.chunkWriteKeyFromDigest = true := by decide
  have hk : subKey p (digest c) ≠ subKey p d := by
    intro h
    unfold subKey at h
    injection h with _ _ h3
    exact hne h3
  simp [verifyChunk, chunkObject, hp, h1, h2, dec_enc_ne hk]

/-- **Anything that is not a ciphertext under the expected key is rejected** in an encrypted repository (garbage, a plaintext
chunk, a snapshot object …). -/
theorem non_ciphertext_fails_authentication (p : Props) (hp : p.encrypted = true) (d obj : Term)
    (hobj : ∀ n m, obj ≠ enc (subKey p d) n m) : verifyChunk p d obj = .error .decryption := by
  have h1 : Gen.chunkReadKeyFromDigest = true := by decide
  unfold verifyChunk
  simp only [hp, h1, if_true]
  cases hd : dec (subKey p d) obj with
  | none => rfl
  | some m =>
    obtain ⟨n, hn⟩ := dec_eq_some hd
    exact absurd hn (hobj n m)

/-- **Unencrypted repositories: the re-hash is the whole defence** — every object other than the captured plaintext is
reported as corrupted. -/
theorem plain_chunk_mismatch_is_corrupted (p : Props) (hp : p.encrypted = false) (c obj : Term) (hne : obj ≠ c) :
    verifyChunk p (digest c) obj = .error .corrupted := by
  have hv : Gen.chunkDigestVerified = true := by decide
  have : digest obj ≠ digest c := fun h => hne (digest_inj h)
  simp [verifyChunk, hp, hv, this]

/-- **A missing chunk is an error**, never an empty write. -/
theorem missing_chunk_is_error (p : Props) (s : Store) (d : Term) (h : lookup s (chunkLoc p d) = none) :
    fetchChunk p s d = .error .missing := by
  simp [fetchChunk, h]

/-- **A snapshot body is accepted only if the stored bytes are the original bytes.**  For the name the snapshot was stored
under (= digest of what was uploaded), any object the adversary puts at any location carrying that name either is skipped
(tag check, `none`), raises, or is the original object — and then the reader gets the original body. -/
theorem load_snapshot_sound (p : Props) (stored0 tag obj : Term) (r : List Term × Option Data)
    (h : loadSnapshot p tag (snapshotName stored0) obj = .ok (some r)) :
    obj = stored0 ∧ decryptBody p stored0 = .ok r := by
  obtain ⟨hh, hd⟩ := loadSnapshot_some h
  have : obj = stored0 := Term.hash.inj hh
  subst this
  exact ⟨rfl, hd⟩

/-- **Tag first.**  In an encrypted repository an object filed under a tag that is not the MAC of its name is skipped without
being looked at (an adversary without the MAC key cannot make a foreign object appear under a chosen name). -/
theorem load_snapshot_bad_tag_skipped (p : Props) (hp : p.encrypted = true) (tag name obj : Term)
    (ht : tag ≠ snapshotTag p name) : loadSnapshot p tag name obj = .ok none :=
  loadSnapshot_bad_tag p hp tag name obj ht

/-- **A damaged snapshot object is reported**: any other content under the snapshot's own location raises `corrupted`. -/
theorem load_snapshot_mismatch_is_corrupted (p : Props) (stored0 obj : Term) (hne : obj ≠ stored0) :
    loadSnapshot p (snapshotTag p (snapshotName stored0)) (snapshotName stored0) obj = .error .corrupted :=
  loadSnapshot_own_damaged p stored0 obj hne

/-- **Restore never succeeds with different content.**  Let a snapshot with chunk plaintexts `contents` (table = their
digests) and private data `data` have been written by the holder of `p` (any nonces).  For EVERY object map `A` — arbitrary
corruption, substitution, replay and removal of chunk and snapshot objects, singly or combined —: if `restore` of that snapshot
(selected by its name) returns normally, every file it wrote is a file of the captured snapshot and consists of exactly the
captured ranges of the captured chunk plaintexts (`honestParts`; that these ranges tile the file is `C01.refs_tile`). -/
theorem restore_ok_implies_identical (p : Props) (A : Store) (n1 n2 : Term) (contents : List Term) (data : Data)
    (out : List (Term × List Part))
    (h : restore p A (snapshotName (snapshotStored p n1 n2 (encTable (contents.map digest)) (encData data))) = .ok out) :
    ∀ w ∈ out, ∃ f ∈ data.files, w.1 = f.path ∧ honestParts contents (isort refLE f.refs) = some w.2 := by
  unfold restore at h
  split at h
  · cases h
  · rename_i bodies hload
    intro w hw
    obtain ⟨x, hx, hpath, hparts⟩ := restoreFiles_mem _ _ out h w hw
    obtain ⟨b, hb, hb1, hb2⟩ := selectFiles_mem _ [] x hx
    -- the body was loaded under the snapshot's name: it is the body that was written
    obtain ⟨tag, obj, hl⟩ := loadAll_mem hload b ((mem_isort newestFirst b bodies).mp hb)
    obtain ⟨hobj, hd⟩ := loadSnapshot_some hl
    rw [Term.hash.inj hobj, decryptBody_stored] at hd
    obtain ⟨b1, b2⟩ := b
    cases hd
    exact ⟨x.2, hb2, hpath, restoreParts_sound _ (fun d m hm => fetchChunk_ok_digest hm) contents _ _ (hb1 ▸ hparts)⟩

/-- **The digest comparison is what protects unencrypted repositories** (so the theorems above are not vacuous): with the
comparison removed, chunk `sec 2` stored where chunk `sec 1` is expected is accepted. -/
theorem without_digest_check_swap_accepted :
    verifyChunkNoDigest ⟨false, nil, noShared⟩ (digest (sec 1)) (sec 2) = .ok (sec 2) ∧
    verifyChunk ⟨false, nil, noShared⟩ (digest (sec 1)) (sec 2) = .error .corrupted := by
  decide

/-! ## sessions of one long-lived client object -/

/-- **A long-lived client is a sequence of fresh clients.**  Whatever the `Repository` object has accepted in earlier commands
(`cl`), and whatever object map each command meets (the adversary damages, heals and damages again between commands): the
outcomes of a session are the outcomes the same commands give when each is issued by a new process. -/
theorem session_is_stateless (p : Props) (cl : Client) (cmds : List Cmd) : session p cl cmds = runFresh p cmds := by
  have h : Gen.chunkDigestCheckDominates = true := by decide
  unfold session
  rw [h]
  exact runSession_dom p cmds cl

/-- **Restore never succeeds with different content — in any state of the client.**  The statement of
`restore_ok_implies_identical` for a restore issued by an object that has run ANY commands `before` (restores of this or other
snapshots, listings) against ANY object maps, starting from any state `cl`. -/
theorem session_restore_ok_implies_identical (p : Props) (cl : Client) (before : List Cmd) (A : Store) (n1 n2 : Term)
    (contents : List Term) (data : Data) (out : List (Term × List Part))
    (h : restoreC Gen.chunkDigestCheckDominates (clientAfter Gen.chunkDigestCheckDominates p cl before) p A
      (snapshotName (snapshotStored p n1 n2 (encTable (contents.map digest)) (encData data))) = .ok out) :
    ∀ w ∈ out, ∃ f ∈ data.files, w.1 = f.path ∧ honestParts contents (isort refLE f.refs) = some w.2 := by
  have hd : Gen.chunkDigestCheckDominates = true := by decide
  rw [hd, restoreC_eq (Or.inl rfl)] at h
  exact restore_ok_implies_identical p A n1 n2 contents data out h

/-- **The first command of an object is always fully checked** — wherever the comparison sits in the source.  (This is why a
check that starts a new process for every command cannot see a comparison that an object's state bypasses.) -/
theorem first_command_is_fully_checked (dom : Bool) (p : Props) (A : Store) (target : Term) :
    restoreC dom Client.fresh p A target = restore p A target :=
  restoreC_eq (Or.inr rfl) p A target

/-! a two-chunk, one-file snapshot in an unencrypted repository, and the same store with the two chunk objects swapped -/
private def plP : Props := ⟨false, nil, noShared⟩
private def plData : Data := ⟨7, [⟨sec 50, [⟨1, 2, 0, 3⟩, ⟨0, 1, 0, 4⟩], Term.hash (sec 60), pub 5⟩], nil⟩
private def plStored : Term := snapshotStored plP nil nil (encTable [digest (sec 1), digest (sec 2)]) (encData plData)
private def plLoc (c : Term) : Term := chunkLoc plP (digest c)
private def plGood : Store :=
  [(plLoc (sec 1), sec 1), (plLoc (sec 2), sec 2), (snapLoc plP (snapshotName plStored), plStored)]
private def plSwapped : Store :=
  [(plLoc (sec 1), sec 2), (plLoc (sec 2), sec 1), (snapLoc plP (snapshotName plStored), plStored)]

set_option synthInstance.maxSize 512 in
/-- **A comparison that the object's state can bypass is exactly the defect** (so the session theorems are not vacuous): a
client that skips the comparison for digests it accepted before restores the intact repository, and then — the two chunk
objects having been swapped in between — returns normally with the two chunks exchanged in the file; a fresh client, and the
same client when the comparison dominates, report the corruption. -/
theorem memoising_client_restores_swapped_chunks :
    runSession false plP Client.fresh [.restore plGood (snapshotName plStored), .restore plSwapped (snapshotName plStored)] =
      [.ok [(sec 50, [(sec 1, 0, 4), (sec 2, 0, 3)])], .ok [(sec 50, [(sec 2, 0, 4), (sec 1, 0, 3)])]] ∧
    runSession true plP Client.fresh [.restore plGood (snapshotName plStored), .restore plSwapped (snapshotName plStored)] =
      [.ok [(sec 50, [(sec 1, 0, 4), (sec 2, 0, 3)])], .error .corrupted] ∧
    restore plP plSwapped (snapshotName plStored) = .error .corrupted := by
  decide +kernel

/-! non-vacuity: an honest two-chunk, one-file snapshot in an encrypted repository restores; with the two chunk objects
swapped it fails with a decryption error; with the snapshot object replaced by garbage it fails as corrupted; with the snapshot
object removed nothing is written. -/
private def exP : Props := ⟨true, userKeyOf (sec 100) (nonce 4), ⟨pub 9, key 0, key 1, key 2, key 3⟩⟩
private def exData : Data := ⟨7, [⟨sec 50, [⟨1, 2, 0, 3⟩, ⟨0, 1, 0, 4⟩], Term.hash (sec 60), pub 5⟩], nil⟩
private def exStored : Term := snapshotStored exP (nonce 20) (nonce 21) (encTable [digest (sec 1), digest (sec 2)]) (encData exData)
private def exLoc (c : Term) : Term := chunkLoc exP (digest c)
private def exGood : Store :=
  [(exLoc (sec 1), chunkObject exP (nonce 10) (sec 1)), (exLoc (sec 2), chunkObject exP (nonce 11) (sec 2)),
   (snapLoc exP (snapshotName exStored), exStored)]
private def exSwapped : Store :=
  [(exLoc (sec 1), chunkObject exP (nonce 11) (sec 2)), (exLoc (sec 2), chunkObject exP (nonce 10) (sec 1)),
   (snapLoc exP (snapshotName exStored), exStored)]
private def exGarbled : Store :=
  [(exLoc (sec 1), chunkObject exP (nonce 10) (sec 1)), (exLoc (sec 2), chunkObject exP (nonce 11) (sec 2)),
   (snapLoc exP (snapshotName exStored), pub 77)]

set_option synthInstance.maxSize 512 in
example :
    restore exP exGood (snapshotName exStored) = .ok [(sec 50, [(sec 1, 0, 4), (sec 2, 0, 3)])] ∧
    restore exP exSwapped (snapshotName exStored) = .error .decryption ∧
    restore exP exGarbled (snapshotName exStored) = .error .corrupted ∧
    restore exP (exGood.take 2) (snapshotName exStored) = .ok [] := by
  decide +kernel

/-! sessions, non-vacuity: in the ENCRYPTED repository even the memoising client is stopped by the AEAD (the key is derived from
the expected digest); through the session of the code as it is, the swapped store is rejected after any number of good restores. -/
set_option synthInstance.maxSize 512 in
example :
    runSession false exP Client.fresh [.restore exGood (snapshotName exStored), .restore exSwapped (snapshotName exStored)] =
      [.ok [(sec 50, [(sec 1, 0, 4), (sec 2, 0, 3)])], .error .decryption] ∧
    session exP Client.fresh [.restore exGood (snapshotName exStored), .list exGarbled (snapshotName exStored),
        .restore exGood (snapshotName exStored), .restore exSwapped (snapshotName exStored)] =
      [.ok [(sec 50, [(sec 1, 0, 4), (sec 2, 0, 3)])], .error .corrupted,
       .ok [(sec 50, [(sec 1, 0, 4), (sec 2, 0, 3)])], .error .decryption] := by
  decide +kernel

/-! ## commands that select among several snapshots -/

/-- **The load of a listed snapshot object has two outcomes: the verified original, or an error.**  For an object listed under
its own tag and name — whatever its content: empty, one byte, all but the last byte, anything —, the loader of the code as it
is (`skip` = whatever a loader that drops objects would drop) never answers "nothing". -/
theorem listed_snapshot_is_verified_or_error (skip : Term → Bool) (p : Props) (stored0 obj : Term) :
    (obj = stored0 ∧ ∃ r, loadSnapshotL Gen.snapLoadNeverSkipsListedOwn skip p (snapshotTag p (snapshotName stored0))
        (snapshotName stored0) obj = .ok (some r)) ∨
    (∃ e, loadSnapshotL Gen.snapLoadNeverSkipsListedOwn skip p (snapshotTag p (snapshotName stored0))
        (snapshotName stored0) obj = .error e) := by
  have hs : Gen.snapLoadNeverSkipsListedOwn = true := by decide
  rw [hs, loadSnapshotL_true, loadSnapshot_eq, if_neg fun h => h.2 rfl]
  split
  · exact Or.inr ⟨_, rfl⟩
  · rename_i hh
    cases decryptBody p obj with
    | error e => exact Or.inr ⟨e, rfl⟩
    | ok r => exact Or.inl ⟨Term.hash.inj (Decidable.not_not.mp hh), r, rfl⟩

/-- **A damaged listed snapshot fails every command that selects it.**  For EVERY object map `A`: if the location of a snapshot
the client's family stored is still listed and holds anything but the stored bytes, then the unfiltered restore, the restore
filtered to that name, list-files and list-snapshots (same filters) all fail — none of them goes on with the remaining
snapshots (an older version of every file restored "successfully", an empty listing for a named snapshot). -/
theorem damaged_listed_snapshot_fails_every_selecting_command (skip : Term → Bool) (p : Props) (A : Store)
    (filter : Option Term) (stored0 obj : Term)
    (hlisted : (snapshotTag p (snapshotName stored0), snapshotName stored0, obj) ∈ snapEntries A)
    (hsel : selectedBy filter (snapshotName stored0) = true) (hdamaged : obj ≠ stored0) :
    ∃ e, restoreCmd skip p A filter = .error e ∧ listFilesCmd skip p A filter = .error e ∧
      listSnapshotsCmd skip p A filter = .error e := by
  have hs : Gen.snapLoadNeverSkipsListedOwn = true := by decide
  obtain ⟨e, he⟩ := loadSel_damaged_error skip p filter hlisted hsel hdamaged
  refine ⟨e, ?_, ?_, ?_⟩
  · simp [restoreCmd, restoreSel, hs, he]
  · simp [listFilesCmd, listFilesSel, hs, he]
  · simp [listSnapshotsCmd, listSnapshotsSel, hs, he]

/-- **A command that returns normally after damage returns what it returns on the undamaged repository.**  `A` = the repository
as stored (every listed snapshot object is the one stored under that name), `A'` = ANY object map with the same locations
(contents of chunk and snapshot objects changed at will: truncated to 0 / 1 / len−1 bytes, emptied, flipped, extended, swapped,
replayed).  Listings that return normally on `A'` are the listings of `A`; a restore that returns normally on `A'` wrote exactly
what the restore of `A` writes.  (A removed snapshot object is a different listing: the reference is then `A` without it.) -/
theorem ok_after_damage_is_the_undamaged_result (skip : Term → Bool) (p : Props) (A A' : Store) (filter : Option Term)
    (hlocs : A.map (·.1) = A'.map (·.1)) (hA : honestEntries (snapEntries A)) :
    (∀ rows, listFilesCmd skip p A' filter = .ok rows → listFilesCmd skip p A filter = .ok rows) ∧
    (∀ rows, listSnapshotsCmd skip p A' filter = .ok rows → listSnapshotsCmd skip p A filter = .ok rows) ∧
    (∀ out' out, restoreCmd skip p A' filter = .ok out' → restoreCmd skip p A filter = .ok out → out' = out) := by
  have hs : Gen.snapLoadNeverSkipsListedOwn = true := by decide
  have hT := fun bs => loadSel_ok_transfer skip p filter bs (sameListing_of_locs hlocs) hA
  refine ⟨?_, ?_, ?_⟩
  · intro rows h
    simp only [listFilesCmd, listFilesSel, hs] at h ⊢
    split at h
    · cases h
    · rename_i bs hbs
      rw [hT bs hbs]
      exact h
  · intro rows h
    simp only [listSnapshotsCmd, listSnapshotsSel, hs] at h ⊢
    split at h
    · cases h
    · rename_i bs hbs
      rw [hT bs hbs]
      exact h
  · intro out' out h' h
    simp only [restoreCmd, restoreSel, hs] at h' h
    split at h'
    · cases h'
    · rename_i bs hbs
      rw [hT bs hbs] at h
      simp only [restoreOf] at h' h
      exact restoreFiles_det _ _ (fun d m hm => fetchChunk_ok_digest hm) (fun d m hm => fetchChunk_ok_digest hm) _ _ _ h' h

/-- **The one-name restore of the first section is the filtered command** (so `restore_ok_implies_identical` speaks about
`restoreCmd … (some name)`). -/
theorem restore_by_name_is_the_filtered_command (skip : Term → Bool) (p : Props) (s : Store) (target : Term) :
    restoreCmd skip p s (some target) = restore p s target := by
  have hs : Gen.snapLoadNeverSkipsListedOwn = true := by decide
  have h := readable_loadSel_name skip p target (snapEntries s)
  unfold restoreCmd restoreSel restore
  rw [hs, ← h]
  cases loadSel true skip p (some target) (snapEntries s) with
  | error e => rfl
  | ok bs => rfl

/-! two snapshots of ONE path in an unencrypted repository: version 1 (chunk `sec 1`, time 7) and version 2 (chunk `sec 2`, time
8); the same store with the NEWER snapshot object truncated to length 0 (`nil`) -/
private def mvData1 : Data := ⟨7, [⟨sec 50, [⟨0, 1, 0, 4⟩], Term.hash (sec 60), pub 5⟩], nil⟩
private def mvData2 : Data := ⟨8, [⟨sec 50, [⟨0, 1, 0, 6⟩], Term.hash (sec 61), pub 5⟩], nil⟩
private def mvOld : Term := snapshotStored plP nil nil (encTable [digest (sec 1)]) (encData mvData1)
private def mvNew : Term := snapshotStored plP nil nil (encTable [digest (sec 2)]) (encData mvData2)
private def mvGood : Store :=
  [(plLoc (sec 1), sec 1), (plLoc (sec 2), sec 2), (snapLoc plP (snapshotName mvOld), mvOld), (snapLoc plP (snapshotName mvNew), mvNew)]
private def mvEmptied : Store :=
  [(plLoc (sec 1), sec 1), (plLoc (sec 2), sec 2), (snapLoc plP (snapshotName mvOld), mvOld), (snapLoc plP (snapshotName mvNew), nil)]
private def skipEmpty (t : Term) : Bool := decide (t = nil)

set_option synthInstance.maxSize 512 in
/-- **A loader that drops an object instead of reporting it is exactly the defect** (so the theorems above are not vacuous):
with a loader that lets the empty object go as "nothing", the unfiltered restore of the damaged repository returns normally with
the OLDER version of the file, and the restore filtered to the damaged snapshot's name returns normally having written nothing;
list-files names no file of the damaged snapshot.  The loader of the theorems reports the corruption in all three. -/
theorem dropping_loader_restores_the_older_version :
    restoreSel true skipEmpty plP mvGood none = .ok [(sec 50, [(sec 2, 0, 6)])] ∧
    restoreSel false skipEmpty plP mvEmptied none = .ok [(sec 50, [(sec 1, 0, 4)])] ∧
    restoreSel false skipEmpty plP mvEmptied (some (snapshotName mvNew)) = .ok [] ∧
    listFilesSel false skipEmpty plP mvEmptied (some (snapshotName mvNew)) = .ok [] ∧
    restoreSel true skipEmpty plP mvEmptied none = .error .corrupted ∧
    restoreSel true skipEmpty plP mvEmptied (some (snapshotName mvNew)) = .error .corrupted ∧
    listFilesSel true skipEmpty plP mvEmptied (some (snapshotName mvNew)) = .error .corrupted ∧
    listSnapshotsSel true skipEmpty plP mvEmptied none = .error .corrupted := by
  decide +kernel

/-! non-vacuity of `ok_after_damage_is_the_undamaged_result`: a damaged chunk that the unfiltered restore does not need (only the
superseded version refers to it) lets the command return normally — with the result of the undamaged repository; the restore
filtered to the OLDER name needs it and fails. -/
private def mvOldChunkGone : Store :=
  [(plLoc (sec 1), nil), (plLoc (sec 2), sec 2), (snapLoc plP (snapshotName mvOld), mvOld), (snapLoc plP (snapshotName mvNew), mvNew)]

set_option synthInstance.maxSize 512 in
example :
    restoreCmd skipEmpty plP mvOldChunkGone none = restoreCmd skipEmpty plP mvGood none ∧
    restoreCmd skipEmpty plP mvOldChunkGone none = .ok [(sec 50, [(sec 2, 0, 6)])] ∧
    restoreCmd skipEmpty plP mvOldChunkGone (some (snapshotName mvOld)) = .error .corrupted ∧
    listFilesCmd skipEmpty plP mvGood none = .ok [(snapshotName mvNew, sec 50), (snapshotName mvOld, sec 50)] := by
  decide +kernel

/-- **No verification step lives inside an `assert`.**  An interpreter started with `-O` / `PYTHONOPTIMIZE` does not compile `assert`
statements; every theorem above speaks about the code only if the checks it models are executed by every interpreter.  Read from the
package's non-test sources on every run (`tools/sections/04_asserts.py`): no `assert` statement's test or message calls a function
defined in the package, awaits, assigns or yields (the remaining ones are preconditions on plain values).  `assert self._verify_chunk(…)`
makes this stop compiling; the harness side restores the damaged repositories under `-O` as well. -/
theorem verification_not_in_asserts :
    Gen.assertsCarryNoLogic = true ∧ Gen.assertsWithPackageCalls = 0 := by decide

end Replicat.C04
