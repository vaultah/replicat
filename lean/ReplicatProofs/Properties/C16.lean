import ReplicatProofs.Lemmas.SigV4Wire
import ReplicatProofs.Lemmas.SigV4Payload
import ReplicatProofs.Lemmas.SigV4Dots
import ReplicatProofs.Lemmas.SigV4Redirect
import ReplicatProofs.Lemmas.SigV4Reads
/-!
# C16 — every request sent to an S3 service is correctly signed

Property theorems only (helper lemmas: `Lemmas/SigV4*.lean`).  `sha`, `hmac`, `hexOf` are arbitrary functions (`c : Crypto`)
in every statement.  "client" = what `S3Compatible._prepare_request` computes (all arguments / literals / join orders are the
generated `Replicat.Gen.s3*` values), "wire" = `toWire` = the request httpx emits, "reference" = the published algorithm
evaluated on the wire (`ref*`, for both readings of `+` in the query: `plus = true` form decoding, `plus = false` literal).

The full statement "`refSignature … (toWire c i) = clientSignature c i` for all inputs" is FALSE of the model (D8 for every
source, D10 and D11 for the shape of the source named with them):
* D10  a query value containing a space is signed as `+` (`urlencode` defaults to `quote_plus`)  → `space_witness`;
* D8   httpx removes `.`/`..` segments from the path after it was signed                        → `dot_segment_witness`;
* D11  the `Host` header httpx derives from the URL is lower-cased and loses a default port, after the configured host was signed
       → `host_witness` (stated for a client that does not set the header itself, `toWireWith false`).
`signature_agrees_partial` excludes exactly these three regions by decidable hypotheses (`NoKnownDefect`); the theorems are
stated for either shape of the source: when it passes `quote_via=quote` (`Gen.s3QueryViaQuotePlus = false`) the `ValuesOk`
hypothesis holds of every query (`values_ok_after_fix`); when `_prepare_request` puts `Host: <configured host>` on the request itself
(`hostHeaderExplicit`, generated from the headers the adapter hands to httpx) the `HostOk` hypothesis holds of every input
(`host_ok_after_fix`, `host_sent_as_signed`, `signature_agrees_every_host`: EVERY configured host string).
-/
namespace Replicat.C16
open Replicat Replicat.SigV4

/-- `quote(canonical_uri)` as called = `UriEncode(path, encodeSlash=false)`, for ALL byte strings -/
theorem path_encoding_agrees (s : Bytes) : clientPath s = awsUriEncode false s :=
  clientPath_eq_aws s

/-- full agreement of the query encoder, available when the code passes `quote_via=quote` (D10) -/
theorem query_encoding_agrees (hfix : Gen.s3QueryViaQuotePlus = false) (s : Bytes) : queryQuote s = awsUriEncode true s :=
  queryQuote_agrees s (Or.inl hfix)

/-- `_partial`: what holds whichever `quote_via` the source passes.  Missing: strings containing a space (0x20) — see
`space_witness`; with the extracted flag `query_encoding_agrees` covers them. -/
theorem query_encoding_agrees_partial (s : Bytes) (h : s.contains 0x20 = false) : queryQuote s = awsUriEncode true s :=
  queryQuote_agrees s (Or.inr h)

/-- negation witness (D10): with `quote_plus` a space is signed as `+`, the published rule demands `%20` -/
theorem space_witness (h : Gen.s3QueryViaQuotePlus = true) : queryQuote [0x20] ≠ awsUriEncode true [0x20] := by
  unfold queryQuote
  rw [h]
  decide +kernel

/-- the D10 region is exact: while `quote_plus` is in use, EVERY string containing a space is mis-encoded -/
theorem query_encoding_fails_exactly_on_spaces (h : Gen.s3QueryViaQuotePlus = true) (s : Bytes) :
    queryQuote s = awsUriEncode true s ↔ s.contains 0x20 = false :=
  ⟨no_space_of_queryQuote_agrees h s, query_encoding_agrees_partial s⟩

/-- when the source passes `quote_via=quote` every value is fine -/
theorem values_ok_after_fix (hfix : Gen.s3QueryViaQuotePlus = false) (q : List (Bytes × Bytes)) : ValuesOk q :=
  fun _ _ => Or.inl hfix

/-- the query replicat sends (`_list_objects`) has distinct names that need no encoding, for every token and prefix -/
theorem list_query_keys_ok (token : Option Bytes) (pfx : Bytes) : KeysOk (listQuery token pfx) := by
  -- the names are a sublist of the three generated keys, which are distinct and unreserved
  refine KeysOk_of_sublist (names := [Gen.s3ListTypeKey] ++ [Gen.s3TokenKey] ++ [Gen.s3PrefixKey]) ?_ (by decide) (by decide)
  unfold listQuery
  rw [List.map_append, List.map_append]
  refine ((List.Sublist.refl _).append ?_).append ?_
  · cases token with
    | none => exact List.nil_sublist _
    | some t => exact List.Sublist.refl _
  · cases pfx.isEmpty with
    | true => exact List.nil_sublist _
    | false => exact List.Sublist.refl _

/-- parameters are sorted by (encoded) name, strictly — for every dict with distinct unreserved names and any values -/
theorem query_sorted (q : List (Bytes × Bytes)) (hk : KeysOk q) : StrictByName (clientQueryPairs q) :=
  clientQueryPairs_strict (by decide) q hk

/-- `_partial`: decoding the query on the wire and re-encoding it by the published rule gives back the string that was signed.
Missing: values containing a space while `quote_plus` is in use (D10). -/
theorem canonical_query_agrees_partial (plus : Bool) (q : List (Bytes × Bytes)) (hk : KeysOk q) (hv : ValuesOk q) :
    refCanonicalQuery plus (clientQueryPairs q) = clientQueryString q := by
  unfold refCanonicalQuery clientQueryString
  rw [ref_query_agrees plus (by decide) q hk hv]

/-- inputs as `_prepare_request` receives them: absolute path, both dates from one clock reading, a dict as query -/
structure WellFormed (i : Inputs) : Prop where
  path_abs : i.path ≠ []
  dates : i.date = i.amzDate.take 8
  keys : KeysOk i.query

/-- the three regions excluded from `signature_agrees_partial`, as one decidable predicate; on the extracted source `ValuesOk` and
`HostOk` hold of every input, so only dot segments (D8) are excluded -/
def NoKnownDefect (i : Inputs) : Prop :=
  hasDotSegment i.path = false ∧ ValuesOk i.query ∧ HostOk i

/-- quoting neither creates nor hides dot segments: the D8 region is "names with a `.` or `..` segment", nothing else -/
theorem dot_segments_are_name_segments (p : Bytes) : hasDotSegment (clientPath p) = hasDotSegment p :=
  hasDotSegment_pyQuote Gen.s3PathSafeB (by decide) (by decide) p

/-- both date strings come from one reading of the clock: the scope date is the prefix of `x-amz-date`
(midnight and year boundaries included) -/
theorem dates_from_one_reading (t : ClockReading) : (fmtAmzDate t).take 8 = fmtDate t := by
  rfl

/-- the `Host` header: when the adapter puts it on the request itself (generated fact `hostHeaderExplicit`), the header on the
wire is the configured — and signed — host VERBATIM, for EVERY configured host string and scheme (upper case, explicit default
port, trailing dot, IPv6 literal, …): nothing is left to httpx's normalisation -/
theorem host_sent_as_signed (hfix : hostHeaderExplicit = true) (c : Crypto) (i : Inputs) : (toWire c i).host = i.host :=
  wireHost_of_ok i (Or.inl hfix)

/-- the same about the shape itself, whatever the source does: a client that sets the header sends the signed host -/
theorem explicit_host_header_is_the_signed_host (c : Crypto) (i : Inputs) : (toWireWith true c i).host = i.host := rfl

/-- when the adapter sets the `Host` header itself every host is fine (D11) -/
theorem host_ok_after_fix (hfix : hostHeaderExplicit = true) (i : Inputs) : HostOk i := Or.inl hfix

/-- the D11 region is exact: the `Host` header on the wire is the signed host iff the adapter sets it itself or httpx has nothing
to normalise in the configured spelling -/
theorem host_agrees_exactly (c : Crypto) (i : Inputs) : (toWire c i).host = i.host ↔ HostOk i :=
  wireHost_eq_iff hostHeaderExplicit i.scheme i.host

/-- `_partial`: path, Host, x-amz-content-sha256 and x-amz-date on the wire are the strings that were signed.
Missing: names with a `.`/`..` segment (D8); host spellings httpx normalises while the adapter leaves the `Host` header to httpx
(D11 — `HostOk`, vacuous once `hostHeaderExplicit`). -/
theorem wire_equals_signed_partial (c : Crypto) (i : Inputs) (hp : i.path ≠ [])
    (hd : hasDotSegment i.path = false) (hh : HostOk i) :
    (toWire c i).path = clientPath i.path ∧ (toWire c i).host = i.host ∧
    (toWire c i).contentSha = i.payloadDigest ∧ (toWire c i).amzDate = i.amzDate :=
  ⟨httpxPath_of_no_dot _ ((dot_segments_are_name_segments i.path).trans hd) (clientPath_ne_nil _ hp), wireHost_of_ok i hh, rfl, rfl⟩

/-- the `Authorization` header has the published layout, carries the client's signature, names the three signed headers -/
theorem authorization_layout (c : Crypto) (i : Inputs) :
    (toWire c i).authorization =
      sAlgorithm ++ [0x20] ++ [67, 114, 101, 100, 101, 110, 116, 105, 97, 108, 61] ++ i.keyId ++ [0x2F] ++ refScope i.date i.region
        ++ [0x2C, 0x20] ++ [83, 105, 103, 110, 101, 100, 72, 101, 97, 100, 101, 114, 115, 61] ++ refSignedHeaders
        ++ [0x2C, 0x20] ++ [83, 105, 103, 110, 97, 116, 117, 114, 101, 61] ++ clientSignature c i := by
  show sentHeaderValue c i hAuthorization = _
  rw [sent_authorization, ← scope_eq, ← signedHeaders_eq, clientAuthorization, Gen.s3AuthTemplate]
  simp only [List.flatMap_cons, List.flatMap_nil, List.append_nil, List.append_assoc]
  rfl

/-- `_partial`: the canonical request a strict endpoint derives from the wire is the one the client signed.
Missing: D8, D10, D11 inputs (`NoKnownDefect`). -/
theorem canonical_request_agrees_partial (c : Crypto) (plus : Bool) (i : Inputs) (wf : WellFormed i) (ok : NoKnownDefect i) :
    refCanonicalRequest plus (toWire c i) = clientCanonicalRequest i := by
  obtain ⟨hd, hv, hh⟩ := ok
  obtain ⟨hpath, hhost, hsha, hdate⟩ := wire_equals_signed_partial c i wf.path_abs hd hh
  have hq : refCanonicalQuery plus (toWire c i).query = clientQueryString i.query :=
    canonical_query_agrees_partial plus i.query wf.keys hv
  rw [refCanonicalRequest_eq, refCanonicalHeaders_eq, hq, hpath, hhost, hsha, hdate, refCanonicalUri_clientPath, ← signedHeaders_eq,
    ← signedHeaderList_eq]
  rfl

/-- `_partial` of the property's main clause: the signature recomputed from the wire by the published algorithm equals the
signature in the `Authorization` header — for every hmac / sha / hex function, both readings of `+`, every method, path, query
dict, payload hash, region, credentials and clock reading.  Missing: D8, D10, D11 inputs (`NoKnownDefect`). -/
theorem signature_agrees_partial (c : Crypto) (plus : Bool) (i : Inputs) (wf : WellFormed i) (ok : NoKnownDefect i) :
    refSignature c plus i.secret i.region (toWire c i) = clientSignature c i := by
  have hcr := canonical_request_agrees_partial c plus i wf ok
  have hdate : (toWire c i).amzDate = i.amzDate := rfl
  unfold refSignature clientSignature signatureOf
  simp only [hcr, hdate, ← wf.dates, scope_eq, stringToSign_eq, signingKey_eq]

/-- with the explicit `Host` header the main clause holds for EVERY configured host string: no hypothesis about the host is left
(D8 / D10 inputs remain excluded) -/
theorem signature_agrees_every_host (hfix : hostHeaderExplicit = true) (c : Crypto) (plus : Bool) (i : Inputs) (wf : WellFormed i)
    (hd : hasDotSegment i.path = false) (hv : ValuesOk i.query) :
    refSignature c plus i.secret i.region (toWire c i) = clientSignature c i :=
  signature_agrees_partial c plus i wf ⟨hd, hv, host_ok_after_fix hfix i⟩

/-! ## negation witnesses of the full statement (each replayed on the real code by the harness) -/

def demo (path host scheme : Bytes) (query : List (Bytes × Bytes)) : Inputs :=
  { method := [71, 69, 84], host := host, scheme := scheme, path := path, query := query, payloadDigest := [], amzDate := [],
    date := [], region := [], keyId := [], secret := [] }

def idCrypto : Crypto := ⟨fun k m => k ++ m, id, id⟩

/-- D8: `/b/a/../c` is signed as given and sent as `/b/c` -/
theorem dot_segment_witness :
    let i := demo [47, 98, 47, 97, 47, 46, 46, 47, 99] [104] [104, 116, 116, 112] []
    (toWire idCrypto i).path = [47, 98, 47, 99] ∧ refCanonicalRequest true (toWire idCrypto i) ≠ clientCanonicalRequest i := by
  decide +kernel

/-- D11 (a client that leaves the `Host` header to httpx, `hostHeaderExplicit = false`): host `H` (upper case) is signed as given
and sent as `h`; `h:443` over https is sent as `h`; with the explicit header both requests carry what was signed -/
theorem host_witness :
    let i := demo [47, 98] [72] [104, 116, 116, 112, 115] []
    let j := demo [47, 98] [104, 58, 52, 52, 51] [104, 116, 116, 112, 115] []
    (toWireWith false idCrypto i).host = [104] ∧ refCanonicalRequest true (toWireWith false idCrypto i) ≠ clientCanonicalRequest i ∧
    (toWireWith false idCrypto j).host = [104] ∧ refCanonicalRequest true (toWireWith false idCrypto j) ≠ clientCanonicalRequest j ∧
    refCanonicalRequest true (toWireWith true idCrypto i) = clientCanonicalRequest i ∧
    refCanonicalRequest true (toWireWith true idCrypto j) = clientCanonicalRequest j := by
  decide +kernel

/-- … and that shape IS the code as long as the generated fact says the adapter sets no `Host` header -/
theorem host_witness_applies (h : hostHeaderExplicit = false) (c : Crypto) (i : Inputs) : toWire c i = toWireWith false c i := by
  unfold toWire
  rw [h]

/-- D10 at request level: prefix `a b` — under either reading of `+` the endpoint's canonical request differs -/
theorem space_request_witness (h : Gen.s3QueryViaQuotePlus = true) :
    let i := demo [47, 98] [104] [104, 116, 116, 112] (listQuery none [97, 32, 98])
    refCanonicalRequest true (toWire idCrypto i) ≠ clientCanonicalRequest i ∧
    refCanonicalRequest false (toWire idCrypto i) ≠ clientCanonicalRequest i := by
  have hq : ∀ s, queryQuote s = pyQuotePlus Gen.s3QuerySafeB s := fun s => by
    rw [queryQuote, h]
    rfl
  simp only [refCanonicalRequest, clientCanonicalRequest, toWire, toWireWith, clientQueryPairs, clientQueryString, refCanonicalQuery,
    refQueryPairs, hq]
  decide +kernel

/-- bytes: declared hash = hash of the body sent, declared length = its length -/
theorem payload_hash_matches_bytes (c : Crypto) (data : Bytes) :
    (uploadBytes c data).declaredDigest = c.sha (uploadBytes c data).body ∧
    (uploadBytes c data).declaredLength = (uploadBytes c data).body.length := ⟨rfl, rfl⟩

/-- streams handed over at position 0 (as every caller does): the digest is taken over the whole content, the stream is
rewound, the body is the same bytes for every chunk size ≥ 1, and the declared length is right when the caller's `length` is -/
theorem payload_hash_matches_stream (c : Crypto) (data : Bytes) (length chunk : Nat) (hc : 0 < chunk) :
    let p := uploadStream c ⟨data, 0⟩ length chunk
    p.body = data ∧ p.declaredDigest = c.sha p.body ∧ (length = data.length → p.declaredLength = p.body.length) := by
  rw [uploadStream_eq c _ length chunk hc]
  exact ⟨rfl, rfl, fun h => h⟩

/-- outside the interface's contract: a stream handed over at position 1 is hashed from 1 but sent from 0 -/
theorem stream_offset_witness :
    (uploadStream idCrypto ⟨[1, 2], 1⟩ 1 4).declaredDigest ≠ idCrypto.sha (uploadStream idCrypto ⟨[1, 2], 1⟩ 1 4).body := by
  decide +kernel

/-- retried streamed uploads: `_put_object_stream` is re-run by `backoff` after a failed attempt — after an error status AND after
a transport-level failure (connection reset, read / write error, timeout) that struck when the transport had pulled any number
of body parts from the stream.  Because the code rewinds the stream after EVERY class of failure (`putRewinds`, generated from
the `try` statement; the proof stops compiling when a class is no longer covered), every attempt — the first, each retry, the
one that is answered — offers the whole content as its body, declares the hash of exactly that body and (when the caller's
`length` is right) its length; what the service received of a broken attempt is a prefix of it. -/
theorem retried_stream_payload_matches (c : Crypto) (data : Bytes) (length chunk : Nat) (hc : 0 < chunk) (faults : List Fault) :
    ∀ a ∈ uploadStreamRetried c ⟨data, 0⟩ length chunk faults,
      a.put.body = data ∧ a.put.declaredDigest = c.sha a.put.body ∧
      (length = data.length → a.put.declaredLength = a.put.body.length) ∧ a.sent <+: data := by
  intro a ha
  have hrew : ∀ k, putRewinds k = true := fun
    | .status => rfl
    | .transport => rfl
  -- the digest pass leaves the stream at `Gen.s3StreamRewindTo`, which is where every failed attempt rewinds to (`rfl`)
  obtain ⟨hput, hsent⟩ := attemptsWith_rewinding putRewinds hrew Gen.s3PutRewindTo (c.sha data) length chunk hc faults
    (streamDigest c ⟨data, 0⟩).2 rfl a ha
  rw [hput]
  exact ⟨rfl, rfl, fun h => h, hsent⟩

/-- the number of requests of a retried upload: one per failed attempt, and the one that is answered -/
theorem retried_stream_attempt_count (c : Crypto) (s : Stream) (length chunk : Nat) (faults : List Fault) :
    (uploadStreamRetried c s length chunk faults).length = faults.length + 1 :=
  attemptsWith_length _ _ _ _ _ faults _

/-- why every class must be covered — a policy that rewinds after an error status only: the connection breaks when two of the
three parts were pulled, the retry declares the hash and length of `[1, 2, 3]` and sends `[3]` -/
theorem retry_without_rewind_witness :
    let as := uploadStreamRetriedWith (fun k => k == .status) 0 idCrypto ⟨[1, 2, 3], 0⟩ 3 1 [⟨.transport, 2⟩]
    as.map (fun a => (a.put.declaredDigest, a.put.declaredLength, a.put.body)) = [([1, 2, 3], 3, [1, 2, 3]), ([1, 2, 3], 3, [3])] := by
  decide +kernel

/-! ## streams whose `read(n)` returns fewer than `n` bytes (read schedules)

`payload_hash_matches_stream` and `retried_stream_payload_matches` describe the two read loops of `upload_stream` by what they are
meant to compute (`streamDigest`: the hash of position … EOF; `streamBody`: the same bytes).  The caller's stream decides how much
each `read(n)` returns — `io.RawIOBase.read`: UP TO `n` bytes, empty only at the end (raw / unbuffered streams, pipes, sockets,
network file systems, wrappers that cap the transfer size).  The theorems below quantify over EVERY such behaviour (a schedule of
positive caps for the successive calls, `CapsOk`) and are discharged from the generated stop conditions of the two loops
(`Gen.s3DigestStopRule`, `Gen.s3BodyStopRule` — tools/sections/16_s3reads.py): they stop compiling when a loop no longer runs to
the first EMPTY read. -/

/-- `_get_stream_hexdigest` under every read schedule: the digest of everything from the position to the end, stream rewound —
i.e. `streamDigest`.  Needs the loop to stop at the empty read only (generated) and a positive read size (generated). -/
theorem stream_digest_every_schedule (c : Crypto) (s : Stream) (caps : List Nat) (hc : CapsOk caps) :
    streamDigestSchedWith digestStopRule Gen.s3DigestReadSize Gen.s3StreamRewindTo c caps s = streamDigest c s := by
  have hr : digestStopRule = .emptyRead := rfl
  unfold streamDigestSchedWith streamDigest
  rw [hr, streamReads_emptyRead _ (by decide) caps hc]
  rfl

/-- the body iterator under every read schedule: the bytes from the position to the end, whatever the parts are — i.e. `streamBody`
(so every statement of `retried_stream_payload_matches` about an attempt's body holds for every schedule of every attempt) -/
theorem stream_body_every_schedule (chunk : Nat) (hc : 0 < chunk) (s : Stream) (caps : List Nat) (hcaps : CapsOk caps) :
    (streamPartsSchedWith bodyStopRule chunk caps s).flatten = streamBody chunk s := by
  have hr : bodyStopRule = .emptyRead := rfl
  unfold streamPartsSchedWith
  rw [flatten_filter_nonempty, hr, streamReads_emptyRead _ hc caps hcaps, streamBody_eq chunk hc]

/-- the payload clause for every stream behaviour the file protocol allows: whatever the digest loop and the body iterator are
handed by the successive `read` calls (two independent schedules), the request declares the hash of exactly the body it sends, the
body is the whole content, and the declared length is right when the caller's `length` is -/
theorem payload_hash_matches_stream_every_schedule (c : Crypto) (data : Bytes) (length chunk : Nat) (hc : 0 < chunk)
    (dcaps bcaps : List Nat) (hd : CapsOk dcaps) (hb : CapsOk bcaps) :
    let p := uploadStreamSched c ⟨data, 0⟩ length chunk dcaps bcaps
    p.body = data ∧ p.declaredDigest = c.sha p.body ∧ (length = data.length → p.declaredLength = p.body.length) ∧
      p.declaredDigest = (uploadStream c ⟨data, 0⟩ length chunk).declaredDigest := by
  have heq : uploadStreamSched c ⟨data, 0⟩ length chunk dcaps bcaps = uploadStream c ⟨data, 0⟩ length chunk := by
    unfold uploadStreamSched uploadStreamSchedWith uploadStream
    rw [stream_digest_every_schedule c _ dcaps hd]
    dsimp only
    rw [stream_body_every_schedule chunk hc _ bcaps hb]
  obtain ⟨h1, h2, h3⟩ := payload_hash_matches_stream c data length chunk hc
  rw [heq]
  exact ⟨h1, h2, h3, rfl⟩

/-- what the service received of a broken attempt is a prefix of the content, under every schedule and for every number of parts
the connection had pulled -/
theorem broken_attempt_prefix_every_schedule (chunk : Nat) (hc : 0 < chunk) (data : Bytes) (caps : List Nat) (hcaps : CapsOk caps)
    (k : Nat) : ((streamPartsSchedWith bodyStopRule chunk caps ⟨data, 0⟩).take k).flatten <+: data := by
  have h := take_flatten_prefix k (streamPartsSchedWith bodyStopRule chunk caps ⟨data, 0⟩)
  rwa [stream_body_every_schedule chunk hc _ caps hcaps, streamBody_eq chunk hc] at h

/-- the digest loop ends with the read that found the end: it always issues one `read` more than it hashes (no read is skipped) -/
theorem digest_loop_ends_with_the_empty_read (s : Stream) (caps : List Nat) (hc : CapsOk caps) :
    (streamReads digestStopRule Gen.s3DigestReadSize caps s).getLast? = some [] := by
  have hr : digestStopRule = .emptyRead := rfl
  rw [hr]
  exact readLoop_emptyRead_last _ (by decide) _ caps _ hc (streamReads_fuel s)

/-- why the stop condition matters — a digest loop that takes a partially filled read for the end of the stream ("no need for one
more empty read"): as soon as ONE read before the end is shorter than requested (`k < n`, `k < data.length`), the request declares
and signs the hash of the first `k` bytes only, while the body iterator (empty-read rule) still sends the whole content under the
full content-length — for every content, read size, later schedule and chunk size -/
theorem short_read_stop_declares_prefix (c : Crypto) (data : Bytes) (length chunk n k : Nat) (hc : 0 < chunk) (hk : k < n)
    (hl : k < data.length) (dcaps bcaps : List Nat) (hb : CapsOk bcaps) :
    let p := uploadStreamSchedWith .shortRead .emptyRead n (some 0) c ⟨data, 0⟩ length chunk (k :: dcaps) bcaps
    p.declaredDigest = c.sha (data.take k) ∧ p.body = data ∧ data.take k ≠ data := by
  refine ⟨?_, ?_, ?_⟩
  · simp only [uploadStreamSchedWith, streamDigestSchedWith, streamReads, List.drop_zero]
    rw [readLoop_shortRead_first_short n k _ dcaps data hk]
  · simp only [uploadStreamSchedWith, streamDigestSchedWith, streamPartsSchedWith]
    rw [flatten_filter_nonempty, streamReads_emptyRead _ hc bcaps hb]
    rfl
  · intro h
    have := congrArg List.length h
    rw [List.length_take] at this
    omega

/-- the smallest instance: content `[1, 2, 3]`, the loop asks for 2 bytes, the first read hands out 1 -/
theorem short_read_stop_witness :
    let p := uploadStreamSchedWith .shortRead .emptyRead 2 (some 0) idCrypto ⟨[1, 2, 3], 0⟩ 3 2 [1] []
    (p.declaredDigest, p.declaredLength, p.body) = ([1], 3, [1, 2, 3]) := by
  decide +kernel

/-- streams that fill every request (`io.BytesIO`, buffered files — all that replicat itself passes, all the unit tests use): both
stop rules hash the whole content, for every size (exact multiples of the read size included) — the two rules differ ONLY on
streams with short reads -/
theorem filled_streams_hide_the_stop_rule (c : Crypto) (data : Bytes) (n : Nat) (hn : 0 < n) (caps : List Nat)
    (hfull : ∀ k ∈ caps, n ≤ k) (rule : StopRule) :
    (streamDigestSchedWith rule n (some 0) c caps ⟨data, 0⟩).1 = c.sha data := by
  have hok : CapsOk caps := fun k hk => Nat.lt_of_lt_of_le hn (hfull k hk)
  unfold streamDigestSchedWith
  rw [streamReads_exhausts rule n hn caps hok (fun _ => hfull)]
  rfl

/-! ## every request on the wire comes from `_prepare_request` (replies that could make the HTTP client emit requests itself)

The theorems above speak about `toWire c i`, the request built from ONE signing.  That these are all the requests on the wire is a
fact about `AsyncClient.send` and the service's replies: a 301 / 302 / 303 / 307 / 308 with a `Location` makes httpx build a
follow-up request itself — same `x-amz-date` / `x-amz-content-sha256`, the `Authorization` of the answered request (same origin)
or none (other host / port / scheme), new path, possibly another method — unless redirects are not followed or the response hook
raises first.  `redirects_never_followed` is discharged from the two generated items (`follow_redirects` at every `send` / client,
shape of `_raise_for_status_hook`); it stops compiling when the code gives up BOTH (either one alone is inert:
`sendWith_safe` needs only one of them). -/

/-- the code as it is never lets httpx follow a redirect: `follow_redirects` is false at the client and at every `send`, or the
response hook raises for every status outside 2xx before httpx looks at `Location` (the extracted source does both; each alone would do, and a
change of one of them alone leaves this theorem standing) -/
theorem redirects_never_followed : Safe Gen.s3FollowRedirects Gen.s3HookRaisesOnNon2xx := by
  unfold Safe
  decide

/-- for EVERY script of replies (answers, error statuses, transport failures, redirects to any location, 1xx / 304-style oddities),
every request a retried adapter call puts on the wire is the output of one of its signings: the HTTP library emits nothing by
itself -/
theorem every_request_is_signed_afresh (sign : Nat → Wire) (tries j : Nat) (rs : List Reply) :
    ∀ p ∈ (callRequests sign tries j rs).1, p.2 = sign p.1 :=
  callWith_signed _ _ redirects_never_followed _ sign tries j rs

/-- one request per attempt: at most `max_tries` requests per call, signings numbered consecutively (one clock reading each) -/
theorem one_request_per_attempt (sign : Nat → Wire) (tries j : Nat) (rs : List Reply) :
    (callRequests sign tries j rs).1.length ≤ tries ∧
    (callRequests sign tries j rs).1.map (·.1) = (List.range (callRequests sign tries j rs).1.length).map (j + ·) := by
  obtain ⟨m, hm, he⟩ := callWith_requests _ _ redirects_never_followed Gen.s3MaxRedirects sign tries j rs
  unfold callRequests
  rw [he, List.length_map, List.length_range', List.map_map, ← List.range'_eq_map_range]
  exact ⟨hm, List.map_id'' (fun _ => rfl) _⟩

/-- `_partial` of the property over whole exchanges: whatever the service replies, every request that reaches the wire carries a
signature that the published algorithm recomputes from that very request.  Missing: D8, D10, D11 inputs (`NoKnownDefect`). -/
theorem every_wire_request_verifies_partial (c : Crypto) (plus : Bool) (i : Nat → Inputs)
    (wf : ∀ k, WellFormed (i k)) (ok : ∀ k, NoKnownDefect (i k)) (tries j : Nat) (rs : List Reply) :
    ∀ p ∈ (callRequests (fun k => toWire c (i k)) tries j rs).1,
      p.2 = toWire c (i p.1) ∧ refSignature c plus (i p.1).secret (i p.1).region p.2 = clientSignature c (i p.1) := by
  intro p hp
  have h := every_request_is_signed_afresh (fun k => toWire c (i k)) tries j rs p hp
  refine ⟨h, ?_⟩
  rw [h]
  exact signature_agrees_partial c plus (i p.1) (wf p.1) (ok p.1)

/-- why BOTH places matter — a client that follows redirects behind a hook that lets them pass, `GET /b/x` at `http://h`:
* 307 → `/b/y` on the same origin: the second request carries the `Authorization` of the first, which no longer verifies;
* 307 → host `g`: the second request carries no `Authorization` at all;
* 302 for a `PUT`: the follow-up is a `GET` with the `PUT`'s signature. -/
theorem followed_redirect_witness :
    let i := demo [47, 98, 47, 120] [104] [104, 116, 116, 112] []
    let sign : Nat → Wire := fun _ => toWire idCrypto i
    let put : Nat → Wire := fun _ => { toWire idCrypto i with method := [80, 85, 84] }
    let sameOrigin := callWith true false 20 sign 4 0 [.redirect 307 ⟨true, false, [104], [47, 98, 47, 121], []⟩]
    let otherHost := callWith true false 20 sign 4 0 [.redirect 307 ⟨false, false, [103], [47, 98, 47, 120], []⟩]
    let found := callWith true false 20 put 4 0 [.redirect 302 ⟨true, false, [104], [47, 98, 47, 120], []⟩]
    sameOrigin.1.map (fun p => (p.1, p.2.path, refCanonicalRequest true p.2 == clientCanonicalRequest i))
      = [(0, [47, 98, 47, 120], true), (0, [47, 98, 47, 121], false)] ∧
    sameOrigin.1.map (fun p => p.2.authorization) = [(sign 0).authorization, (sign 0).authorization] ∧
    otherHost.1.map (fun p => (p.2.host, p.2.authorization.isEmpty)) = [([104], false), ([103], true)] ∧
    found.1.map (fun p => p.2.method) = [[80, 85, 84], mGet] ∧
    found.1.map (fun p => p.2.authorization) = [(put 0).authorization, (put 0).authorization] :=
  ⟨by decide +kernel, rfl, by decide +kernel, by decide +kernel, rfl⟩

/-- each place alone is inert: following redirects behind the raising hook, or a lenient hook without following -/
theorem one_place_alone_is_inert (follow hook : Bool) (h : follow = false ∨ hook = true) (mr : Nat) (sign : Nat → Wire)
    (tries j : Nat) (rs : List Reply) : ∀ p ∈ (callWith follow hook mr sign tries j rs).1, p.2 = sign p.1 :=
  callWith_signed follow hook h mr sign tries j rs

/-! ## non-vacuity -/
example : (callWith false true 20 (fun _ => toWire idCrypto (demo [47, 98, 47, 120] [104] [104, 116, 116, 112] [])) 4 0
    [.redirect 307 ⟨true, false, [104], [47, 98, 47, 121], []⟩, .odd, .fail .transport]).1.map (·.1) = [0, 1, 2, 3] := by decide +kernel

example : Safe false false ∧ Safe true true ∧ ¬ Safe true false := by unfold Safe; decide

example : WellFormed (demo [47, 98, 47, 120] [104] [104, 116, 116, 112] (listQuery (some [116]) [112])) ∧
    NoKnownDefect (demo [47, 98, 47, 120] [104] [104, 116, 116, 112] (listQuery (some [116]) [112])) :=
  ⟨⟨by decide, by decide, list_query_keys_ok (some [116]) [112]⟩, by unfold NoKnownDefect ValuesOk; decide +kernel⟩

example : (uploadStreamRetried idCrypto ⟨[1, 2, 3], 0⟩ 3 1 [⟨.transport, 2⟩, ⟨.status, 9⟩]).map (fun a => (a.put.body, a.sent)) =
    [([1, 2, 3], [1, 2]), ([1, 2, 3], [1, 2, 3]), ([1, 2, 3], [1, 2, 3])] := by decide +kernel

example : CapsOk [1, 3, 2] ∧ (streamReads .emptyRead 2 [1, 3, 2] ⟨[1, 2, 3, 4, 5, 6], 0⟩) = [[1], [2, 3], [4, 5], [6], []] ∧
    (streamReads .shortRead 2 [1, 3, 2] ⟨[1, 2, 3, 4, 5, 6], 0⟩) = [[1]] ∧
    (streamReads .shortRead 2 [2, 3, 2] ⟨[1, 2, 3, 4], 0⟩) = [[1, 2], [3, 4], []] := by
  refine ⟨?_, by decide +kernel, by decide +kernel, by decide +kernel⟩
  unfold CapsOk
  decide

example : clientPath [0x61, 0x20, 0xC3, 0xBC, 0x2F, 0x7E] = [0x61, 0x25, 0x32, 0x30, 0x25, 0x43, 0x33, 0x25, 0x42, 0x43, 0x2F, 0x7E] := by decide +kernel

end Replicat.C16
