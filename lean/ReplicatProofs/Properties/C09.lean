import ReplicatProofs.Lemmas.SchedSnap
import ReplicatProofs.Lemmas.SchedLocks
import ReplicatProofs.Lemmas.SchedFin
import ReplicatProofs.Lemmas.SchedLife
import ReplicatProofs.Lemmas.SchedLat
import ReplicatProofs.Lemmas.SlotQ
import ReplicatProofs.Properties.C01
/-!
# C09 — snapshot and restore do not depend on thread or I/O scheduling

Property theorems only.  Objects: the transition systems of `ReplicatModel/Sched.lean` and, in the last section, the slot queue of
`ReplicatModel/SlotQ.lean`; a schedule is a list of events,
`run step s₀ evs = some s` = "every event was enabled when it was taken", so every theorem below quantifies over ALL schedules
(any number of slots, workers, chunks, writer jobs, loaders, files).  The shapes the proofs depend on (slot numbering, release in
`finally`, the worker's loop test, the abort protocol incl. the producer's put that re-tests the abort flag while the queue is full,
delete-at-zero, decision under the lock, slot requests that block without a time-out and the absence of any other finite wait
that gives up) are the *generated* `Replicat.Gen` definitions and are discharged by `decide`: an edit to /repo that changes one of them breaks the proof.

PARTIAL claim: pre-emption inside CPython byte code between the instrumented points, the GIL and the event loop's internals are
not modelled; liveness = deadlock freedom + a bound on the number of progress steps, not a time bound.
-/
namespace Replicat.C09
open Replicat Replicat.Sched List

/-! ## S1 — connection slots -/

/-- **Slots are conserved and bound the transfers.**  Along every schedule of acquire / transfer start / transfer end / release
events: the free and the held slots together are exactly the `n` slot numbers `base … base+n-1` (nothing is lost or duplicated),
so holders + free = `n`, and the number of backend transfers in flight never exceeds `n`. -/
theorem slots_invariant (n : Nat) (evs : List SlotEv) (σ : Slots)
    (h : run (Slots.step Gen.slotReleaseInFinally) (Slots.init n) evs = some σ) :
    (σ.free ++ σ.held) ~ List.range' Gen.slotBase n ∧ σ.free.length + σ.held.length = n ∧ σ.inflight ≤ n := by
  have hfin : Gen.slotReleaseInFinally = true := by decide
  -- the model's `start` presupposes a holder: every transfer of the source sits inside `with self._acquire_slot…`
  have _hunder : Gen.transfersUnderSlot = true := by decide
  obtain ⟨hp, hl⟩ := run_inv _ (SlotsInv _ n) (slots_step_inv _ n) evs _ _ (slots_init_inv _ n) h
  rw [hl hfin, append_nil] at hp
  have hlen := hp.length_eq
  rw [length_append, length_range'] at hlen
  exact ⟨hp, hlen, Nat.le_trans (length_filter_le _ _) (hlen ▸ Nat.le_add_left _ _)⟩

/-- **All slots are available again at quiescence** — whether the transfers succeeded or raised: when no `with _acquire_slot`
block is open, the queue holds exactly the `n` slot numbers again. -/
theorem slots_restored (n : Nat) (evs : List SlotEv) (σ : Slots)
    (h : run (Slots.step Gen.slotReleaseInFinally) (Slots.init n) evs = some σ) (hq : σ.held = []) :
    σ.free ~ List.range' Gen.slotBase n ∧ σ.free.length = n := by
  obtain ⟨hp, hl, _⟩ := slots_invariant n evs σ h
  rw [hq, append_nil] at hp
  rw [hq, length_nil, Nat.add_zero] at hl
  exact ⟨hp, hl⟩

/-- *Negation witness for the release outside `finally`* (what the model says about a slot context manager without `try/finally`):
one failed transfer and the slot is gone for good. -/
theorem slots_leak_without_finally_witness :
    (run (Slots.step false) (Slots.init 1) [.acquire 2, .start 2, .finish 2 false, .release 2]).map
      (fun σ => (σ.held, σ.free, σ.leaked)) = some ([], [], [2]) := by decide

/-! ## S1′ — slots, loader threads and the end of the event loop -/

/-- **After a successful operation nothing is left behind**: when the operation has returned without a failure, no download is
queued, no thread waits for a slot, no slot is held and all `n` slots are in the queue — whether or not the loop then stops. -/
theorem slots_restored_after_success (joins : Bool) (n jobs : Nat) (evs : List LifeEv) (σ : Life)
    (h : run (Life.step joins) (Life.init n jobs) evs = some σ) (hr : σ.returned = true) (hf : σ.failed = false) :
    σ.queued = 0 ∧ σ.waiting = 0 ∧ σ.held = 0 ∧ σ.free = n :=
  life_restored (life_reach_inv joins n jobs evs σ h) hr (Or.inl hf)

/-- **After a failed operation nothing is left behind — PARTIAL: only for code that joins its loaders before re-raising.**
Full statement of the property ("all slots available again after success or failure", "never a hang") for the failure path, with
the extra hypothesis spelled out: `Gen.restoreJoinsLoadersOnFailure = true` (the source joins its loaders before re-raising;
`slots_restored_after_return` below discharges it for the extracted source; see `blocked_loader_witness` for a source that does not).  Under it: whenever the operation has returned —
normally or by re-raising — nothing is queued, no thread waits for a slot, none is held, all `n` slots are free, and stopping the
loop afterwards strands nobody. -/
theorem slots_restored_after_return_partial (hj : Gen.restoreJoinsLoadersOnFailure = true) (n jobs : Nat) (evs : List LifeEv) (σ : Life)
    (h : run (Life.step Gen.restoreJoinsLoadersOnFailure) (Life.init n jobs) evs = some σ) (hr : σ.returned = true) :
    σ.queued = 0 ∧ σ.waiting = 0 ∧ σ.held = 0 ∧ σ.free = n := by
  rw [hj] at h
  exact life_restored (life_reach_inv true n jobs evs σ h) hr (Or.inr rfl)

/-- **After a failed operation nothing is left behind** (full statement).  In the extracted source `restore` drops the
downloads that have not started, lets the running ones finish and only then re-raises: the hypothesis of
`slots_restored_after_return_partial` is discharged by `decide` from the generated shape flag; if the join is removed this
proof stops compiling. -/
theorem slots_restored_after_return (n jobs : Nat) (evs : List LifeEv) (σ : Life)
    (h : run (Life.step Gen.restoreJoinsLoadersOnFailure) (Life.init n jobs) evs = some σ) (hr : σ.returned = true) :
    σ.queued = 0 ∧ σ.waiting = 0 ∧ σ.held = 0 ∧ σ.free = n :=
  slots_restored_after_return_partial (by decide) n jobs evs σ h hr

/-- **Witness for a source that re-raises without joining its loaders (`joins = false`).**  One slot, three downloads: the first fails, `restore` re-raises at once,
`asyncio.run` cancels the waiting request, that loader thread takes the next queued download and asks for a slot again, the loop
stops: a thread is blocked in `_acquire_slot_threadsafe` and the loop is gone.  Replayed by the harness on such a source
(sig `restore:failure-leaves-blocked-loaders`). -/
theorem blocked_loader_witness :
    run (Life.step false) (Life.init 1 3) [.begin, .grant, .begin, .finish false, .ret, .cancelWaiter, .begin, .close]
      = some ⟨1, 0, 1, 0, true, true, true, 0⟩ := by decide

/-- … and such a thread stays blocked for ever: once the loop has stopped, no schedule makes the number of waiting threads
smaller (so the non-daemon executor thread never ends and the interpreter cannot exit). -/
theorem blocked_forever (joins : Bool) (σ : Life) (hc : σ.closed = true) (evs : List LifeEv) (σ' : Life)
    (h : run (Life.step joins) σ evs = some σ') : σ.waiting ≤ σ'.waiting := by
  have := run_inv (Life.step joins) (fun s => s.closed = true ∧ σ.waiting ≤ s.waiting)
    (fun a e b hi hs => by
      have := life_step_stuck joins a e b hi.1 hs
      exact ⟨this.1, Nat.le_trans hi.2 this.2⟩) evs σ σ' ⟨hc, Nat.le_refl _⟩ h
  exact this.2

/-- non-vacuity of `slots_restored_after_return_partial`: the same failure with the joining code — the early `ret` is not
enabled; after dropping the queue and letting the running loader finish, the operation returns with the slot back -/
example : run (Life.step true) (Life.init 1 3) [.begin, .grant, .begin, .finish false, .ret] = none := by decide
example : run (Life.step true) (Life.init 1 3) [.begin, .grant, .begin, .finish false, .dropQueued, .grant, .finish true, .ret, .close]
      = some ⟨1, 0, 0, 0, true, true, true, 0⟩ := by decide

/-! ## S1″ — the outcome does not depend on how long a transfer takes -/

/-- **No wait of the source gives up after a while** (shape read from the source on every run): the two slot requests
(`_acquire_slot`, `_acquire_slot_threadsafe`) block until a slot is free, and repository.py has no other wait with a finite
time-out that is not retried — the model has no transition for one.  A request with a time-out (`….result(timeout=30)`,
`wait_for(…, 30)`) makes `slotWaitBounded` true and this stops compiling, together with the two theorems below. -/
theorem timed_waits_covered : Gen.slotWaitBounded = false ∧ Gen.unmodelledTimedWaits = [] := by decide

/-- **However slow the backend is, no job fails for it.**  Along every schedule of slot requests, grants, transfer ends and
arbitrary delays (`delay d`: `d` ms pass, at any moment), with the request as the source has it (`Lat.tmo`), no
job ever gives up waiting: the only failures of an operation are failed transfers. -/
theorem latency_never_fails (n jobs : Nat) (evs : List LatEv) (σ : Lat)
    (h : run (Lat.step Lat.tmo) (Lat.init n jobs) evs = some σ) : σ.timedOut = 0 := by
  have ht : Lat.tmo = none := by decide
  rw [ht] at h
  exact run_inv (Lat.step none) (fun σ => σ.timedOut = 0)
    (fun s e s' hi hs => (lat_step_no_timeout s e s' hs).trans hi) evs _ _ rfl h

/-- **The result is the one of the zero-latency run.**  Whatever the delays: slots are conserved; while the operation is not over
something other than the passage of time is enabled (no deadlock, `n ≥ 1`); and when nothing is queued, waiting or in flight any
more, *every* job has completed its transfer and all `n` slots are back — exactly the state the sequential run ends in. -/
theorem latency_result_independent (n jobs : Nat) (hn : 0 < n) (evs : List LatEv) (σ : Lat)
    (h : run (Lat.step Lat.tmo) (Lat.init n jobs) evs = some σ) :
    σ.free + σ.held = n ∧
    (σ.quiet = true → σ.done = jobs ∧ σ.free = n) ∧
    (σ.quiet = false → ∃ e ∈ Lat.moves, (Lat.step Lat.tmo σ e).isSome = true) := by
  have h0 := latency_never_fails n jobs evs σ h
  have hinv := run_inv _ (LatInv n jobs) (lat_step_inv _ n jobs) evs _ _ (lat_init_inv n jobs) h
  refine ⟨hinv.slots, fun hq => ?_, lat_progress _ n hn σ hinv.slots⟩
  obtain ⟨h1, h2⟩ := hinv
  simp only [Lat.quiet, Bool.and_eq_true, beq_iff_eq, List.isEmpty_iff] at hq
  rw [hq.2] at h1
  rw [hq.1.1, hq.1.2, hq.2, h0, List.length_nil, Nat.zero_add] at h2
  exact ⟨h2, h1⟩

/-- *Negation witness for a bounded slot request* (what the model says about `….result(timeout=T)`): one slot, two jobs, the first
transfer takes `T` ms — the second job gives up and raises although no transfer failed, for every bound `T`. -/
theorem bounded_slot_wait_fails_witness (T : Nat) :
    (run (Lat.step (some T)) (Lat.init 1 2) (Lat.slowSchedule T)).map (fun σ => (σ.timedOut, σ.done, σ.held)) = some (1, 0, 1) := by
  simp [run, Lat.step, Lat.init, Lat.slowSchedule, slotCount_eq]

example : (run (Lat.step Lat.tmo) (Lat.init 1 2) [.request, .grant, .request, .delay 1000000, .finish, .grant, .finish]).map
    (fun σ => (σ.done, σ.free, σ.timedOut, σ.quiet)) = some (2, 1, 0, true) := by decide
example : run (Lat.step Lat.tmo) (Lat.init 1 2) (Lat.slowSchedule 30000) = none := by decide

/-! ## S2 — snapshot: producer, bounded queue, workers -/

/-- **No chunk is dropped or processed twice.**  When all `n ≥ 1` workers have left their loop normally, the chunks for which
`_chunk_done` ran are exactly the chunks `0 … total-1`, each once (in some order — `result_schedule_independent` says the order
does not matter).  Holds for both shapes of the producer's put (`r`). -/
theorem snapshot_all_processed (r : Bool) (total n : Nat) (hn : 0 < n) (evs : List SnapEv) (s : Snap)
    (h : run (Snap.step r) (Snap.init total n) evs = some s) (hex : allExited s.workers = true) :
    s.processed ~ List.range total ∧ s.queue = [] ∧ s.produced = total := by
  have hinv := snap_reach_inv r total n evs s h
  have hex' := (allExited_iff _).mp hex
  obtain ⟨p, hp⟩ : ∃ p, s.workers[0]? = some p := ⟨_, getElem?_eq_getElem (hinv.nworkers ▸ hn)⟩
  cases hex' 0 p hp
  obtain ⟨hd, hq⟩ := hinv.exited_done ⟨0, hp⟩
  have hnoF : ¬ HasF s.workers := fun ⟨i, hi⟩ => nomatch hex' i _ hi
  have hprod : s.produced = total := by
    rcases hinv.fin_all (hinv.done_fin hd) with h1 | h1
    · exact h1.trans hinv.total_eq
    · exact absurd (hinv.abort_failed h1) hnoF
  have hbusy : busyList s.workers = [] := busyList_eq_nil _ fun p hp => eq_of_beq (all_eq_true.mp hex p hp) ▸ rfl
  have hp := hinv.perm
  rw [hbusy, hq, hinv.lost_failed hnoF, hprod, append_nil, append_nil, append_nil] at hp
  exact ⟨hp, hq, hprod⟩

/-- **No worker leaves early.**  A worker can take the `exit` step only when the queue is empty and the producer is done, i.e.
never while a chunk is queued or yet to be produced (unless a worker failed and the run is being aborted). -/
theorem snapshot_no_early_exit (r : Bool) (total n : Nat) (evs : List SnapEv) (s s' : Snap) (w : Nat)
    (h : run (Snap.step r) (Snap.init total n) evs = some s) (hstep : Snap.step r s (.exit w) = some s') :
    s.queue = [] ∧ s.prodDone = true ∧ (s.produced = s.total ∨ HasF s.workers) := by
  have hinv := snap_reach_inv r total n evs s h
  simp only [Snap.step] at hstep
  split at hstep
  · obtain ⟨he, hd⟩ := continues_false _ _ (of_guarded hstep).1
    exact ⟨isEmpty_iff.mp he, hd, (hinv.fin_all (hinv.done_fin hd)).imp id hinv.abort_failed⟩
  · cases hstep

/-- **No deadlock — PARTIAL: for a producer whose put re-tests the abort flag while the queue is full.**  The full statement
("never a hang": in every reachable state in which the operation is not over, some progress step — anything but the polling
stutter — is enabled, with at least one worker) with the one hypothesis it needs spelled out: `rechecks = true`, i.e. the put is a
loop of timed attempts with the abort test in between.  It is false without it, see `blocking_put_deadlock_witness`. -/
theorem snapshot_no_deadlock_partial (total n : Nat) (hn : 0 < n) (evs : List SnapEv) (s : Snap)
    (h : run (Snap.step true) (Snap.init total n) evs = some s) (hnf : s.finished = false) :
    ∃ e, e.progress = true ∧ (Snap.step true s e).isSome = true := by
  have hinv := snap_reach_inv true total n evs s h
  have hA : Gen.abortOnWorkerFailure = true := by decide
  have hP : Gen.producerStopsOnAbort = true := by decide
  cases hall : allStopped s.workers with
  | false =>
    obtain ⟨p, hp, hnp⟩ := all_eq_false.mp hall
    obtain ⟨w, hw⟩ := mem_iff_getElem?.mp hp
    cases p with
    | exited => exact absurd (by decide) hnp
    | failed => exact absurd (by decide) hnp
    | busy k =>
      -- a busy worker can always finish
      refine ⟨.finish w true, rfl, ?_⟩
      rw [Snap.step, hw]
      rfl
    | idle =>
      -- an idle worker: take, or exit, or the producer side moves
      cases hq : s.queue with
      | cons k rest =>
        refine ⟨.take w, rfl, ?_⟩
        rw [Snap.step, hw, hq]
        exact guarded_isSome (congrArg (· || _) (continues_nonempty _))
      | nil =>
        cases hd : s.prodDone with
        | true =>
          refine ⟨.exit w, rfl, ?_⟩
          rw [Snap.step, hw]
          exact guarded_isSome (hq ▸ hd ▸ continues_done)
        | false =>
          obtain ⟨e, he, hsome⟩ := snap_producer_moves true hP hinv hn hq hd
          have hprog : ∀ e ∈ [SnapEv.enterPut, .put, .prodStop, .prodVisible], e.progress = true := by decide
          exact ⟨e, hprog e he, hsome⟩
  | true =>
    have hstop := (allStopped_iff _).mp hall
    cases hd : s.prodDone with
    | true =>
      by_cases hF : HasF s.workers
      · rw [Snap.finished, hall, hd, (anyFailed_iff _).mpr hF, Bool.or_true] at hnf
        cases hnf
      · have hallE : allExited s.workers = true :=
          (allExited_iff _).mpr fun i p hp => (hstop i p hp).resolve_right fun h1 => hF ⟨i, h1 ▸ hp⟩
        cases hu : s.uploaded with
        | true =>
          rw [Snap.finished, hall, hd, hu] at hnf
          cases hnf
        | false => exact ⟨.upload, rfl, guarded_isSome ⟨hallE, hd, congrArg (!·) hu⟩⟩
    | false =>
      cases hf : s.prodFinished with
      | true => exact ⟨.prodVisible, rfl, guarded_isSome ⟨hf, congrArg (!·) hd⟩⟩
      | false =>
        have hnf' : (!s.prodFinished) = true := congrArg (!·) hf
        by_cases hpt : s.produced = s.total
        · exact ⟨.prodStop, rfl, guarded_isSome ⟨hnf', Or.inl hpt⟩⟩
        · -- no exited worker (that would need prodDone), so with n ≥ 1 some worker failed: abort, then the producer stops —
          -- also when it is waiting inside the put on a full queue, because the put re-tests the flag
          obtain ⟨p, hp⟩ : ∃ p, s.workers[0]? = some p := ⟨_, getElem?_eq_getElem (hinv.nworkers ▸ hn)⟩
          have hF : HasF s.workers := by
            rcases hstop 0 p hp with rfl | rfl
            · exact nomatch hd.symm.trans (hinv.exited_done ⟨0, hp⟩).1
            · exact ⟨0, hp⟩
          cases ha : s.abort with
          | true => exact ⟨.prodStop, rfl, guarded_isSome ⟨hnf', Or.inr ⟨ha, hP, Or.inr rfl⟩⟩⟩
          | false => exact ⟨.raiseAbort, rfl, guarded_isSome ⟨(anyFailed_iff _).mpr hF, hA, congrArg (!·) ha⟩⟩

/-- **No deadlock** (full statement, for the source as it is).  The hypothesis of `snapshot_no_deadlock_partial` is the regenerated
shape flag `Gen.producerRechecksWhileFull` and is discharged by `decide`: if the producer's put becomes one blocking call this
proof stops compiling. -/
theorem snapshot_no_deadlock (total n : Nat) (hn : 0 < n) (evs : List SnapEv) (s : Snap)
    (h : run (Snap.step Gen.producerRechecksWhileFull) (Snap.init total n) evs = some s) (hnf : s.finished = false) :
    ∃ e, e.progress = true ∧ (Snap.step Gen.producerRechecksWhileFull s e).isSome = true := by
  have hr : Gen.producerRechecksWhileFull = true := by decide
  rw [hr] at h ⊢
  exact snapshot_no_deadlock_partial total n hn evs s h hnf

/-- **Negation witness for one blocking put** (`rechecks = false`: `chunk_queue.put(chunk)` after a single abort test).  One
worker, queue bound c = `Gen.queueFactor`·1, c + 2 chunks, the schedule `Snap.floodSchedule c`: the producer fills the queue, the
worker takes the first chunk, the producer queues one more and enters the put of the last chunk on the full queue; the worker's
transfer fails, `abort` is set.  Now nothing is enabled — no worker is left to take a chunk, the producer never looks at the flag
again, `await chunk_producer` never returns — and the operation is not over: a hang (`Snap.stuck` = not finished ∧ no progress
event enabled; by `stuck_is_final` for ever).  Found on real code with such a producer by the harness (flood cases × fault plans
that leave no worker; sig `snapshot:hang`). -/
theorem blocking_put_deadlock_witness :
    (run (Snap.step false) (Snap.init (Gen.queueFactor + 2) 1) (Snap.floodSchedule Gen.queueFactor)).map
      (fun s => (s.queue.length == s.cap, s.inPut, s.abort, s.finished, Snap.stuck false s)) = some (true, true, true, false, true) := by
  decide

/-- … whereas the polling producer gets out of the very same state: after the same schedule `prodStop` is enabled (the abort test
between two timed attempts), the producer becomes done and the operation is over. -/
theorem polling_put_same_schedule_finishes :
    (run (Snap.step true) (Snap.init (Gen.queueFactor + 2) 1) (Snap.floodSchedule Gen.queueFactor ++ [.prodStop, .prodVisible])).map
      (fun s => (s.finished, s.uploaded, Snap.stuck true s)) = some (true, false, false) := by decide

/-- `Snap.stuck` means what it says: in a reachable stuck state NO event at all is enabled (the candidate list misses nothing, and
the polling stutter needs a producer that can still move), so no schedule leads anywhere from it — the state is final although the
operation is not over: the hang is for ever. -/
theorem stuck_is_final (r : Bool) (total n : Nat) (evs₀ : List SnapEv) (s : Snap)
    (hreach : run (Snap.step r) (Snap.init total n) evs₀ = some s) (hs : Snap.stuck r s = true) (evs : List SnapEv) (s' : Snap)
    (h : run (Snap.step r) s evs = some s') : s' = s ∧ evs = [] ∧ s.finished = false := by
  obtain ⟨h1, h2⟩ := run_of_all_none _ s (snap_stuck_all_none r (snap_reach_inv r total n evs₀ s hreach) hs) evs s' h
  exact ⟨h1, h2, (Bool.not_eq_true' _).mp ((Bool.and_eq_true _ _).mp hs).1⟩

/-- **Every schedule is short.**  A schedule without polling stutters has at most `4·total + n + 5` steps (per chunk: enter the
put, put, take, finish) — so under a fair scheduler (polls do not starve the other agents) the operation reaches `finished` (by
`snapshot_no_deadlock`) or, with a blocking put, possibly a stuck state (`blocking_put_deadlock_witness`).  Both shapes of the put. -/
theorem snapshot_bounded_progress (r : Bool) (total n : Nat) (evs : List SnapEv) (s : Snap)
    (h : run (Snap.step r) (Snap.init total n) evs = some s) (hp : ∀ e ∈ evs, e.progress = true) :
    evs.length ≤ 4 * total + n + 5 := by
  have := run_length_add_measure_le _ Snap.measure (fun e => e.progress = true) (snap_step_measure r) evs _ _ h hp
  rw [snap_init_measure] at this
  exact Nat.le_trans (Nat.le_add_right _ _) this

/-- **A failed worker means no snapshot object** — in every reachable state, if a worker raised (or the abort flag is set) the
snapshot object has not been and will not be uploaded (`upload` needs all workers to have exited normally, and `failed` is final). -/
theorem abort_no_snapshot (r : Bool) (total n : Nat) (evs : List SnapEv) (s : Snap)
    (h : run (Snap.step r) (Snap.init total n) evs = some s) (hf : anyFailed s.workers = true ∨ s.abort = true) :
    s.uploaded = false ∧ ∀ s', Snap.step r s .upload ≠ some s' := by
  have hinv := snap_reach_inv r total n evs s h
  obtain ⟨i, hi⟩ : HasF s.workers := hf.elim (anyFailed_iff _).mp hinv.abort_failed
  have hnotall : ¬ allExited s.workers = true := fun hx => nomatch (allExited_iff _).mp hx i _ hi
  refine ⟨?_, fun s' hs => hnotall (of_guarded hs).1.1⟩
  cases hu : s.uploaded with
  | false => rfl
  | true => exact absurd (hinv.up hu) hnotall

/-- non-vacuity: two workers, three chunks, a schedule in which the second chunk finishes first -/
example : (run (Snap.step Gen.producerRechecksWhileFull) (Snap.init 3 2)
    [.enterPut, .put, .enterPut, .put, .take 0, .take 1, .enterPut, .put, .finish 1 true, .take 1, .prodStop, .finish 0 true, .finish 1 true,
     .prodVisible, .exit 0, .exit 1, .upload]).map (fun s => (s.processed, s.uploaded, s.finished)) = some ([2, 0, 1], true, true) := by decide

/-- non-vacuity of the failure path: one worker, its transfer fails while the producer is inside a put on the full queue; with the
source's put the producer stops at the abort test between two attempts and the operation ends without a snapshot object -/
example : (run (Snap.step Gen.producerRechecksWhileFull) (Snap.init (Gen.queueFactor + 2) 1)
    (Snap.floodSchedule Gen.queueFactor ++ [.prodStop, .prodVisible])).map
      (fun s => (s.finished, s.uploaded, s.produced == Gen.queueFactor + 1)) = some (true, false, true) := by decide

/-! ## S3 — restore: per-file write locks -/

/-- **At most one writer per file; the lock of a file is stable while somebody counts on it.**  Along every schedule of the
writer jobs (any number of jobs and files, `glock` also taken by loaders): no `KeyError`; two jobs inside `with flock:` for the same
file are the same job; and every job between its registration and its un-registration uses exactly the lock object the table maps
its file to, with a positive reference count. -/
theorem file_lock_mutex (fileOf : Nat → Nat) (evs : List LockEv) (σ : Locks)
    (h : run (Locks.step Gen.flockDelAtZero fileOf) Locks.init evs = some σ) :
    σ.err = false ∧
    (∀ j₁ j₂, fileOf j₁ = fileOf j₂ → inCrit (σ.pc j₁) = true → inCrit (σ.pc j₂) = true → j₁ = j₂) ∧
    (∀ j, registered (σ.pc j) = true → ∃ l, σ.lk j = some l ∧ σ.flocks (fileOf j) = some l ∧ 0 < σ.refc (fileOf j)) := by
  have hz : Gen.flockDelAtZero = true := by decide
  -- the job program `gAcq look commit gRel fAcq write fRel gAcq unreg gRel` is the recognised shape of `_write_chunk_ref`
  have _hshape : Gen.flockShapeRecognised = true := by decide
  rw [hz] at h
  have inv := run_inv _ (LocksInv fileOf) (locks_step_inv fileOf) evs _ _ (locks_init_inv fileOf) h
  have hreg : ∀ j, registered (σ.pc j) = true → ∃ l, σ.lk j = some l ∧ σ.flocks (fileOf j) = some l ∧ 0 < σ.refc (fileOf j) := by
    intro j hr
    have hm := (inv.job j).reg.mp hr
    cases hf : σ.flocks (fileOf j) with
    | none => exact nomatch inv.fl_none _ hf ▸ hm
    | some l => exact ⟨l, ((inv.job j).lk hr).trans hf, rfl, inv.refc _ ▸ length_pos_of_mem hm⟩
  refine ⟨inv.noerr, ?_, hreg⟩
  intro j₁ j₂ hf h1 h2
  -- both jobs use the lock object the table maps the file to, and a lock object has one owner
  obtain ⟨l1, a1, b1, _⟩ := hreg j₁ (registered_of_inCrit h1)
  obtain ⟨l2, a2, b2, _⟩ := hreg j₂ (registered_of_inCrit h2)
  cases Option.some.inj ((hf ▸ b1).symm.trans b2)
  obtain ⟨l1', c1, d1⟩ := (inv.job j₁).crit h1
  obtain ⟨l2', c2, d2⟩ := (inv.job j₂).crit h2
  cases Option.some.inj (a1.symm.trans c1)
  cases Option.some.inj (a2.symm.trans c2)
  exact Option.some.inj (d1.symm.trans d2)

/-- *Negation witness for an unguarded delete* (what the model says when the table entry is dropped without looking at the
count): job 0 leaves, job 1 still holds the old lock object, job 2 creates a new one — two writers inside the same file. -/
theorem file_lock_needs_refcount_witness :
    (run (Locks.step false (fun _ => 0)) Locks.init
      [.gAcq 0, .look 0, .commit 0, .gRel 0, .fAcq 0, .gAcq 1, .look 1, .commit 1, .gRel 1, .write 0, .fRel 0, .gAcq 0, .unreg 0, .gRel 0,
       .fAcq 1, .gAcq 2, .look 2, .commit 2, .gRel 2, .fAcq 2]).map
      (fun σ => (inCrit (σ.pc 1), inCrit (σ.pc 2), σ.lk 1, σ.lk 2)) = some (true, true, some 0, some 1) := by decide

/-! ## S3 — restore: pending digest sets and the finaliser -/

/-- **Every file is finalised exactly once, after all its writes** — for the code that decides under the lock
(`Gen.finaliseDecidedUnderLock = true`, discharged by `decide`), for every well-formed loader table and every schedule:
no loader ever raises `KeyError`; no file is finalised twice; whenever a file has been finalised or a loader is about to finalise
it, every loader that references the file has completed all of its writes; and when all loaders are done every referenced file
has been finalised exactly once and its metadata entry is gone. -/
theorem finalise_once_after_writes (L : List Loader) (hwf : LoadersWF L) (evs : List FinEv) (σ : Fin)
    (h : run (Fin.step Gen.finaliseDecidedUnderLock L) (Fin.init L) evs = some σ) :
    (∀ d, σ.phase d ≠ LPhase.failed) ∧ (∀ f, σ.finCount f ≤ 1) ∧
    (∀ f, (σ.finCount f = 1 ∨ ∃ d, poppingFile (σ.phase d) = some f) → ∀ l ∈ L, f ∈ l.refs → σ.written l.d ~ l.refs) ∧
    ((∀ l ∈ L, σ.phase l.d = LPhase.done) → ∀ l ∈ L, ∀ f ∈ l.refs, σ.finCount f = 1 ∧ σ.hasMeta f = false) := by
  have hu : Gen.finaliseDecidedUnderLock = true := by decide
  -- `remove` and `pop` are atomic steps of the model because the source performs them inside `with glock:`
  have _hrm : Gen.removeUnderGlock = true := by decide
  have _hin : Gen.decisionInsideRemoveBlock = true := by decide
  have _hpop : Gen.popUnderGlock = true := by decide
  rw [hu] at h
  obtain ⟨core, aux⟩ := run_inv _ (fun s => FinCore L s ∧ FinAux L s) (fin_step_inv L) evs _ _ ⟨fin_init_core L hwf, fin_init_aux L⟩ h
  refine ⟨aux.nofail, fun f => ?_, fun f hfin l hl hfr => ?_, fun hdone l hl f hfr => ?_⟩
  · cases core.file f with
    | opened h0 _ _ => exact h0 ▸ Nat.zero_le 1
    | claimed _ h0 _ _ => exact h0 ▸ Nat.zero_le 1
    | finalised h1 _ _ => exact Nat.le_of_eq h1
  · -- the pending set of a claimed or finalised file is empty; a loader still before its last write has not removed its digest
    have hpe : σ.pending f = [] := by
      cases core.file f with
      | opened h0 hp _ => exact hfin.elim (fun h1 => nomatch h0.symm.trans h1) fun ⟨d, hd⟩ => absurd hd (hp d)
      | claimed _ _ he _ => exact he
      | finalised _ he _ => exact he
    have hlook := lookup_of_mem hwf.1 hl
    cases hp : pastWriting (σ.phase l.d) with
    | true => exact (aux.wr l.d l hlook).2.2 hp
    | false =>
      have hmem : f ∈ owesD L σ.phase l.d := by
        simp only [owesD, hlook, owes_of_not_past hp]
        exact (hwf.2 l hl).2.2 f hfr
      exact nomatch hpe ▸ (core.pend f l.d).mpr hmem
  · have hphase : ∀ d, σ.phase d = LPhase.done := by
      intro d
      cases hd : lookupLoader L d with
      | none => exact aux.absent d hd
      | some l' => exact (lookup_some hd).2 ▸ hdone l' (lookup_some hd).1
    -- nobody owes anything any more, nobody is about to finalise: a file some loader referenced must have been finalised
    have hpe : σ.pending f = [] := by
      refine eq_nil_iff_forall_not_mem.mpr fun d hd => ?_
      have hd := (core.pend f d).mp hd
      simp only [owesD, hphase d] at hd
      cases hl' : lookupLoader L d with
      | none => exact nomatch hl' ▸ hd
      | some l' => exact nomatch hl' ▸ hd
    have h1 : σ.finCount f = 1 := by
      cases core.file f with
      | opened _ _ he =>
        have hm : l.d ∈ pending₀ L f := (mem_pending₀ hwf.1 f l.d).mpr ⟨l, lookup_of_mem hwf.1 hl, (hwf.2 l hl).2.2 f hfr⟩
        exact nomatch he hpe ▸ hm
      | claimed d _ _ hp => exact nomatch (congrArg poppingFile (hphase d)).symm.trans ((hp d).mpr rfl)
      | finalised h1 _ _ => exact h1
    refine ⟨h1, ?_⟩
    cases hm : σ.hasMeta f with
    | false => rfl
    | true => exact nomatch ((core.hmeta f).mp hm).symm.trans h1

/-- **D4 — a source that tests emptiness outside the lock finalises twice.**  With the emptiness test outside the lock (`underLock = false`) there is a
schedule of two loaders that reference one file in which both see the empty set; the second `files_metadata.pop` raises
`KeyError` (loader 1 ends in `failed`).  Replayed by the harness on such a source (sig `restore:double-finalise`). -/
theorem finalise_twice_witness :
    (run (Fin.step false [⟨0, [0], [0]⟩, ⟨1, [0], [0]⟩]) (Fin.init [⟨0, [0], [0]⟩, ⟨1, [0], [0]⟩])
      [.downloaded 0, .downloaded 1, .write 0 0, .write 1 0, .joined 0, .joined 1, .remove 0 0, .remove 1 0,
       .test 0 0, .test 1 0, .pop 0 0, .pop 1 0]).map
      (fun σ => (σ.phase 0, σ.phase 1, σ.finCount 0)) = some (LPhase.fin [], LPhase.failed, 1) := by decide

/-- non-vacuity: the same two loaders under the current code — the corresponding schedule is legal and ends well -/
example :
    (run (Fin.step Gen.finaliseDecidedUnderLock [⟨0, [0], [0]⟩, ⟨1, [0], [0]⟩]) (Fin.init [⟨0, [0], [0]⟩, ⟨1, [0], [0]⟩])
      [.downloaded 0, .downloaded 1, .write 0 0, .write 1 0, .joined 0, .joined 1, .remove 0 0, .remove 1 0,
       .pop 1 0, .finish 0, .finish 1]).map
      (fun σ => (σ.phase 0, σ.phase 1, σ.finCount 0, σ.hasMeta 0)) = some (LPhase.done, LPhase.done, 1, false) := by decide

example : LoadersWF [⟨0, [0, 0, 1], [0, 1]⟩, ⟨1, [0], [0]⟩] := by decide

/-! ## The result does not depend on the schedule -/

/-- **Same manifest and same restored bytes under every schedule** (cites `Replicat.C01.records_perm` and
`Replicat.C01.restore_file_exact`).  Take ANY schedule of the snapshot pipeline that ends with all workers exited; the order in
which `_chunk_done` ran is `s.processed.reverse`.  The references recorded for every file are a permutation of those of the
sequential run, and restoring the file from them — the writer jobs executed in ANY order `ws`, whatever was at the target path
before — yields exactly the file's bytes. -/
theorem result_schedule_independent (r : Bool) (n : Nat) (hn : 0 < n) (evs : List SnapEv) (st : Snap)
    (strm : Bytes) (lens : List Nat) (hsum : lens.sum = strm.length)
    (h : run (Snap.step r) (Snap.init lens.length n) evs = some st) (hex : allExited st.workers = true)
    (files : List Span) (hs : SpansSorted files) (i : Nat) (f : Span) (hf : files[i]? = some f) (hle : f.1 ≤ f.2) (hfe : f.2 ≤ strm.length)
    (old : Option Bytes) (ws : List PlanEntry)
    (hws : ws ~ plan (refsOfIn (records files (spansFrom 0 lens) st.processed.reverse) i)) :
    refsOfIn (records files (spansFrom 0 lens) st.processed.reverse) i ~ fileRefs f 0 (spansFrom 0 lens) ∧
    restoreFile (chunksOf strm lens) old (refsOfIn (records files (spansFrom 0 lens) st.processed.reverse) i) ws
      = some (slice strm f.1 f.2) := by
  have hproc := (snapshot_all_processed r lens.length n hn evs st h hex).1
  have horder : st.processed.reverse ~ List.range (spansFrom 0 lens).length :=
    spansFrom_length 0 lens ▸ (reverse_perm _).trans hproc
  have hperm := C01.records_perm files (spansFrom 0 lens) hs st.processed.reverse horder i f hf
  exact ⟨hperm, C01.restore_file_exact strm f hle lens hsum hfe _ hperm old ws hws⟩


/-! ## S6 — thread affinity of the slot queue (`ReplicatModel/SlotQ.lean`)

`Slots`, `Lat` and `Life` above treat a slot request, its grant and the give-back as atomic events.  The queue is an `asyncio` queue:
that atomicity holds only when every step of the queue runs on the event-loop thread.  `Gen.slotQueueOnLoopOnly` is read from the
source: every use of the queue attribute is inside a coroutine or inside the arguments of `call_soon_threadsafe` /
`run_coroutine_threadsafe`. -/

/-- **The slot queue is only ever touched on the loop thread** — the extracted fact under which the on-loop model of the theorems below
is the code's (they do not cite it; the two `foreign_*` witnesses show what an off-loop use does); an edit that
lets a loader thread use the queue itself (`self._slots.put_nowait(slot)` in the thread-side manager) makes this stop compiling. -/
theorem slot_queue_thread_affine :
    Gen.slotQueueOnLoopOnly = true ∧ 2 ≤ Gen.slotQueueThreadSideRefs ∧ 1 ≤ Gen.slotQueueLoopSideRefs := by decide

/-- **An on-loop action is exactly its micro-steps, uninterrupted**: the macro system is a sub-system of the micro system
(refinement by construction, stated so that it cannot drift). -/
theorem slot_queue_action_is_microsteps (σ : SlotQ.Q) (a : SlotQ.Act) :
    SlotQ.astep σ a = SlotQ.run σ (SlotQ.expand σ a) := rfl

/-- **No lost wake-up on the loop thread.**  For every number of slots `n ≥ 1` and EVERY sequence of requests, getter runs, give-backs
and idle periods performed as loop callbacks: slots are conserved, no getter is ever between its emptiness test and its registration
when a callback ends, and whenever a getter is parked either a woken getter is runnable on an awake loop or some slot is still held
(its give-back will wake one) — a getter never sleeps on a non-empty queue. -/
theorem slot_queue_no_lost_wakeup (n : Nat) (hn : 0 < n) (as : List SlotQ.Act) (σ : SlotQ.Q)
    (h : SlotQ.arun (SlotQ.init n) as = some σ) :
    σ.items + σ.held = n ∧ σ.sawEmpty = 0 ∧
    (σ.parked > 0 → (σ.ready > 0 ∧ σ.asleep = false) ∨ σ.held > 0) ∧ SlotQ.lostWakeup σ = false := by
  have hI := SlotQ.arun_inv n _ σ as (SlotQ.init_inv n) h
  exact ⟨hI.1, hI.2.1, SlotQ.inv_parked hn hI, SlotQ.inv_not_lost hn hI⟩

/-- **A give-back executed by the loader thread itself loses a wake-up** (kernel-checked schedule, one slot, two loaders): the getter
tested the queue while the slot was held, the foreign `put_nowait` found nobody to wake, the getter then registered: it is parked on a
queue that holds the slot, nothing is held, nothing is ready — nothing will ever happen. -/
theorem foreign_put_loses_wakeup :
    (SlotQ.run (SlotQ.init 1) SlotQ.foreignPutSchedule).map (fun σ => (σ.items, σ.parked, σ.held, σ.ready, SlotQ.lostWakeup σ))
      = some (1, 1, 0, 0, true) := by decide

/-- **… and without any unlucky timing** when the loop sleeps in `select()`: the properly parked getter's future is resolved from the
foreign thread, its continuation is put on the ready list of a loop nobody wakes. -/
theorem foreign_wake_sleeping_loop :
    (SlotQ.run (SlotQ.init 1) SlotQ.foreignWakeSchedule).map (fun σ => (σ.items, σ.parked, σ.held, σ.ready, σ.asleep, SlotQ.lostWakeup σ))
      = some (1, 0, 0, 1, true, true) := by decide

/-- non-vacuity: an on-loop history with two loaders and one slot in which the second loader really parks, is woken by the give-back
and gets the slot -/
example : (SlotQ.arun (SlotQ.init 1) [.request, .runFresh, .request, .runFresh, .idle, .giveBack, .runWoken, .giveBack]).map
    (fun σ => (σ.items, σ.parked, σ.held)) = some (1, 0, 0) := by decide

end Replicat.C09
