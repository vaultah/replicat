import ReplicatProofs.Lemmas.PathWalk
import ReplicatProofs.Lemmas.RoundTrip
import ReplicatProofs.Lemmas.RestoreOps
/-!
# C01 — backup round trip is the identity on file trees

Objects: `layout`/`streamOf` (`_stream_files`), `records`/`finalRecords` (`_chunk_done` run by
concurrent workers in ANY completion order + the chunk-less file entries), `plan`/`restoreFile` (restore's reference plan, the
writer threads in ANY execution order, `_write_file_part`, the final length), `flattenArgs` (`_flatten_resolve_paths`).
The chunker is an arbitrary list of chunk lengths that add up to the stream (C10 proves the real chunker is lossless),
the hash/cipher do not occur (identity of names is C07/C04).  The guards of `_chunk_done`, the padding and truncate
expressions and the four shape flags `Gen.flattenDedups`, `Gen.restoreSetsFinalLength`, `Gen.recordsChunklessFiles`,
`Gen.restoresChunklessFiles` are the *generated* `Replicat.Gen` definitions; so is the list of operations
`_write_file_part` performs on the opened file (`Gen.writePartOps`) and the fact that every reference reaches it
(`Gen.everyRefReachesWritePart`), which is what makes `writePart` — "every part handed over is written" — the code's behaviour.
-/
namespace Replicat.C01
open Replicat List

/-- **Concurrency independence of the manifest.**  Whatever order the upload workers finish in, the references recorded
for a file are a permutation of the ones a sequential run records. -/
theorem records_perm (files spans : List Span) (hs : SpansSorted files) (order : List Nat)
    (horder : order ~ List.range spans.length) (i : Nat) (f : Span) (hf : files[i]? = some f) :
    refsOfIn (records files spans order) i ~ fileRefs f 0 spans := by
  unfold records
  rw [refsOfIn_foldl_applyDone (fun _ => files) spans order (fun _ _ => hs) i [], ← flatMap_contribAt_range files spans i f hf]
  exact Perm.flatMap_right _ horder

/-- **Every streamed file has exactly one record** (also a tree of only empty files, which produces no chunk). -/
theorem every_file_recorded (files spans : List Span) (order : List Nat) (i : Nat) (hi : i < files.length) :
    lookupRec (finalRecords files.length (records files spans order)) i
      = some (refsOfIn (records files spans order) i) :=
  lookup_finalRecords (by decide) _ _ _ hi

/-- **Tiling.**  The slices named by a file's references, taken in counter order with the running position the restore
uses, are exactly the file's byte range of the stream. -/
theorem refs_tile (s : Bytes) (f : Span) (hf : f.1 ≤ f.2) (lens : List Nat) (hsum : lens.sum = s.length) (hfe : f.2 ≤ s.length) :
    ((planFrom 0 (fileRefs f 0 (spansFrom 0 lens))).map (partData (chunksOf s lens))).flatten = slice s f.1 f.2 := by
  rw [(parts_fileRefs_chunksOf s f lens hsum 0).1, tile_concat s f.1 f.2 lens 0 (by omega), Nat.max_zero]

/-- **Restore never looks at what is already at the destination.**  `restore_file_exact` below holds for EVERY previous content `old`;
it speaks about the code only if the code decides what it writes without inspecting `old`.  That is read from the source on every
run (`tools/sections/01_restoreplan.py`, a taint analysis from the destination parameter of `Repository.restore` through locals,
containers, helper methods and the loader / writer functions): no file-system query (`stat`, `exists`, `is_file`, a read-mode `open`, …)
is ever applied to a destination-derived path, while write-mode opens of such paths are reached.  A "skip what is already up to date"
shortcut makes this stop compiling. -/
theorem restore_ignores_destination :
    Gen.restoreNeverInspectsDestination = true ∧ Gen.restoreDestinationQueries = 0 ∧ 1 ≤ Gen.restoreDestinationWriteOpens := by decide

/-- **Restore of one file is exact**, for every completion order of the snapshot workers, every execution order of the
writer threads and whatever was at the target path before (absent, shorter, longer, different). -/
theorem restore_file_exact (s : Bytes) (f : Span) (hf : f.1 ≤ f.2) (lens : List Nat) (hsum : lens.sum = s.length)
    (hfe : f.2 ≤ s.length) (refs : List Ref) (hrefs : refs ~ fileRefs f 0 (spansFrom 0 lens))
    (old : Option Bytes) (ws : List PlanEntry) (hws : ws ~ plan refs) :
    restoreFile (chunksOf s lens) old refs ws = some (slice s f.1 f.2) := by
  have hplan : plan refs = planFrom 0 (fileRefs f 0 (spansFrom 0 lens)) := by
    rw [plan, eq_of_perm_of_counters (pairwise_mergeSort_refLE refs) (fileRefs_counters f 0 _).1
      ((mergeSort_perm refs refLE).trans hrefs)]
  have hd := (parts_fileRefs_chunksOf s f lens hsum 0).2
  rw [← hplan] at hd
  rw [restoreFile_eq_flatten (chunksOf s lens) old refs ws hws hd, hplan, refs_tile s f hf lens hsum hfe]

/-- **The restored bytes do not depend on what was there before** (corollary, two arbitrary previous contents). -/
theorem restore_result_independent_of_old (s : Bytes) (f : Span) (hf : f.1 ≤ f.2) (lens : List Nat) (hsum : lens.sum = s.length)
    (hfe : f.2 ≤ s.length) (refs : List Ref) (hrefs : refs ~ fileRefs f 0 (spansFrom 0 lens))
    (old₁ old₂ : Option Bytes) (ws₁ ws₂ : List PlanEntry) (h₁ : ws₁ ~ plan refs) (h₂ : ws₂ ~ plan refs) :
    restoreFile (chunksOf s lens) old₁ refs ws₁ = restoreFile (chunksOf s lens) old₂ refs ws₂ := by
  rw [restore_file_exact s f hf lens hsum hfe refs hrefs old₁ ws₁ h₁, restore_file_exact s f hf lens hsum hfe refs hrefs old₂ ws₂ h₂]

/-- **Round trip.**  For every list of files (any contents, incl. empty files and only-empty trees), every alignment, every
chunking of the padded stream, every completion order of the upload workers, every file `i`: the snapshot has exactly one
record for it, and restoring that record — whatever the writer threads' order and whatever was at the target path — yields the
file's bytes. -/
theorem roundtrip (align : Nat) (files : List Bytes) (lens : List Nat)
    (hsum : lens.sum = (streamOf align files).length)
    (order : List Nat) (horder : order ~ List.range lens.length)
    (i : Nat) (b : Bytes) (hb : files[i]? = some b) :
    ∃ refs, lookupRec (finalRecords files.length
              (records (layout align (files.map List.length)) (spansFrom 0 lens) order)) i = some refs ∧
      ∀ (old : Option Bytes) (ws : List PlanEntry), ws ~ plan refs →
        restoreFile (chunksOf (streamOf align files) lens) old refs ws = some b := by
  obtain ⟨hl, f, hf, hfle, hslice, hlen⟩ := layout_file align files i b hb
  have hrec := every_file_recorded (layout align (files.map List.length)) (spansFrom 0 lens) order i
    (hl ▸ (List.getElem?_eq_some_iff.mp hb).1)
  rw [hl] at hrec
  refine ⟨_, hrec, fun old ws hws => ?_⟩
  rw [restore_file_exact _ f hfle lens hsum hlen _ (records_perm (layout align _) _ (layoutFrom_sorted align 0 _) order
    (by rw [spansFrom_length]; exact horder) i f hf) old ws hws, hslice]

/-- **Each file once.**  Repeated / overlapping path arguments (and a top-level symlink plus its target directory) do not
make a path occur twice in the list of files that is streamed; nothing is lost either. -/
theorem flatten_nodup (expanded : List (List Nat)) :
    (flattenArgs expanded).Nodup ∧ ∀ p, p ∈ flattenArgs expanded ↔ p ∈ expanded.flatten := by
  unfold flattenArgs
  rw [if_pos (show Gen.flattenDedups = true by decide)]
  obtain ⟨h1, h2⟩ := dedupKeepFirst_spec expanded.flatten [] Pairwise.nil
  exact ⟨h1, fun p => (h2 p).trans (or_iff_right not_mem_nil)⟩

/-- A longer pre-existing file does not keep its tail: the only length-changing step after the writes is the final `truncate`
to the recorded size.  (That metadata is applied after the last write of a file is C09's `finalise_once_after_writes`.) -/
theorem longer_target_regression :
    restoreFile [[1, 2, 3, 4]] (some [9, 9, 9, 9, 9, 9, 9, 9]) [⟨1, 0, 4⟩] (plan [⟨1, 0, 4⟩]) = some [1, 2, 3, 4] := by
  decide +kernel

/-- non-vacuity: a concrete tree (one empty file, 5 and 3 bytes, alignment 4 ⇒ 3 bytes of padding), chunks of 4, workers
finishing in reverse order -/
example :
    let files : List Bytes := [[], [1, 2, 3, 4, 5], [6, 7, 8]]
    let lens := [4, 4, 3]
    lens.sum = (streamOf 4 files).length ∧
    finalRecords 3 (records (layout 4 (files.map List.length)) (spansFrom 0 lens) [2, 1, 0])
      = [(2, [⟨3, 0, 3⟩, ⟨2, 4, 4⟩]), (1, [⟨2, 0, 1⟩, ⟨1, 0, 4⟩]), (0, [⟨1, 0, 0⟩])] := by
  decide +kernel

/-- **Every part is written, whatever it contains.**  `_write_file_part` as the sequence of operations read from the source —
with any control flow between them resolved by an ARBITRARY predicate `leave` of the data — is the model's `writePart`:
`truncate(max(file_end, offset + len))`, then the bytes of the part at `offset`.  There is no content class (zeros, a long run of
one byte, …), length or old content of the target for which the write is skipped.  (Provable only while the operation list has no
`branch`: a data-dependent exit between the truncate and the write falsifies it, see `skipped_part_keeps_old_bytes`.) -/
theorem write_part_unconditional (leave : Bytes → Bool) (old : Bytes) (off : Nat) (data : Bytes) :
    runW leave off data Gen.writePartOps ⟨old, 0, 0⟩ = writePart old off data := by
  have h : Gen.writePartOps = [.seekEnd, .truncate, .seekOffset, .writeData] := by decide
  rw [h]
  exact runW_straight leave old off data 0 0

/-- **The restore of the code is the restore of the model**: every reference of the plan reaches `_write_file_part`
(`Gen.everyRefReachesWritePart`) and is written there unconditionally, so `restore_file_exact` / `roundtrip` speak about what
the writer threads really do — over every pre-existing target and for every content. -/
theorem restore_code_eq_model (leave : Bytes → Bool) (chunks : List Bytes) (old : Option Bytes) (refs : List Ref)
    (ws : List PlanEntry) : restoreFileCode leave chunks old refs ws = restoreFile chunks old refs ws := by
  have hw : applyWritesCode leave chunks (old.getD []) ws = applyWrites chunks (old.getD []) ws := by
    unfold applyWritesCode applyWrites
    simp only [show Gen.everyRefReachesWritePart = true by decide, if_true]
    congr 1
    funext cur e
    exact write_part_unconditional leave cur e.2.2.2 (partData chunks e)
  unfold restoreFileCode restoreFile
  rw [hw]

/-- **Why the fact is needed** (negation witness for the class "content × what already exists at the target"): were there
an exit between the truncate and the write that is taken for some part (here: every part), a part lying inside the old file
would keep the OLD bytes — four zeros restored over four 0xFF bytes stay 0xFF. -/
theorem skipped_part_keeps_old_bytes :
    runW (fun _ => true) 0 [0, 0, 0, 0] [.seekEnd, .truncate, .branch, .seekOffset, .writeData] ⟨[255, 255, 255, 255], 0, 0⟩
        = [255, 255, 255, 255]
      ∧ writePart [255, 255, 255, 255] 0 [0, 0, 0, 0] = [0, 0, 0, 0] := by
  decide +kernel

/-- non-vacuity: a zero part written into the middle of a longer all-ones file through the generated operation list -/
example : runW (fun d => d.all (· == 0)) 1 [0, 0] Gen.writePartOps ⟨[255, 255, 255, 255, 255], 0, 0⟩ = [255, 0, 0, 255, 255] := by
  decide +kernel

/-! ## Which files a snapshot records: `_flatten_resolve_paths` → `flatten_paths` → `iterative_scandir` → sort -/
section PathWalkProps
open Replicat.PathWalk

/-- **The explicit-stack directory walk is sound and complete** (LIFO and FIFO alike): when `iterative_scandir` finishes
without an error, the entries it yields are exactly the `FileUnder` of the frames it was started with — every chain of
entries passing the directory test that ends in an entry passing the file test, nothing else, nothing missed. -/
theorem pathwalk_walk_spec (root : Node) (follow lifo : Bool) (n : Nat) (stack : List Frame) (ys : List Found)
    (h : walk root follow lifo n stack = .ok ys) :
    ∀ f, f ∈ ys ↔ ∃ fr ∈ stack, FileUnder root follow fr f := by
  intro f
  fun_induction walk root follow lifo n stack generalizing ys with
  | case1 =>
    cases h
    simp only [List.not_mem_nil, false_and, exists_false]
  | case2 => nomatch h
  | case3 => nomatch h
  | case4 => nomatch h
  | case5 n start es stack ds fs hs rest hr ih =>
    cases h
    simp only [List.mem_append, ih rest hr, List.mem_cons, mem_push, or_and_right, exists_or, exists_eq_left,
      fileUnder_iff_scan hs f, or_assoc]

/-- **No path is recorded twice**: with `dict.fromkeys` (dedup on) the recorded path strings are pairwise different, for every
file system, every argument list (repeated, overlapping, nested, reached through links) and every configuration. -/
theorem pathwalk_nodup (cfg : Cfg) (root : Node) (args : List Path) (l : List Rec)
    (h : flattenResolve cfg root args = .ok l) (hd : cfg.dedup = true) : (l.map Prod.fst).Nodup := by
  obtain ⟨L, _, rfl⟩ := flattenResolve_ok_iff.1 h
  rw [if_pos hd]
  exact (dedupKeys_spec _ []).1

/-- `pathwalk_nodup` for the configuration read from the source (`Gen.pwDedup = true`). -/
theorem pathwalk_nodup_gen (a w : Nat) (root : Node) (args : List Path) (l : List Rec)
    (h : flattenResolve (genCfg a w) root args = .ok l) : (l.map Prod.fst).Nodup :=
  pathwalk_nodup _ root args l h (show Gen.pwDedup = true by decide)

/-- **What `flatten_paths` yields**: exactly what some argument yields after `resolve(strict=True)` — a directory is walked,
a file is itself, anything else contributes nothing. -/
theorem pathwalk_flatten_mem (cfg : Cfg) (root : Node) (args : List Path) (l : List Found)
    (h : PathWalk.flattenArgs cfg root args = .ok l) :
    ∀ f, f ∈ l ↔ ∃ a ∈ args, ∃ p n l', resolveArg root cfg.argFuel a = .ok (p, n) ∧
      flattenOne cfg root p n = .ok l' ∧ f ∈ l' :=
  flattenArgs_mem cfg root args l h

/-- **The recorded set**, dedup on or off: every record comes from a file some argument yields; every such file's path string
is recorded; and when the path string determines the size (`KeyFun`: true on a real file system — the model allows two
entries of one name and `/` inside a name) or dedup is off, the records are EXACTLY the images of those files. -/
theorem pathwalk_record_set (cfg : Cfg) (root : Node) (args : List Path) (l : List Rec)
    (h : flattenResolve cfg root args = .ok l) :
    (∀ r, r ∈ l → ∃ f, toRec f = r ∧ ∃ a ∈ args, ArgYields cfg root a f) ∧
    (∀ f, (∃ a ∈ args, ArgYields cfg root a f) → pathStr f.1 ∈ l.map Prod.fst) ∧
    ((cfg.dedup = true → KeyFun cfg root args) →
      ∀ r, r ∈ l ↔ ∃ f, toRec f = r ∧ ∃ a ∈ args, ArgYields cfg root a f) := by
  obtain ⟨L, hL, rfl⟩ := flattenResolve_ok_iff.1 h
  have hm := flattenArgs_mem cfg root args L hL
  refine ⟨fun r hr => ?_, fun f hf => key_mem_dedupIf (List.mem_map.2 ⟨f, (hm f).2 hf, rfl⟩), fun hk r => ?_⟩
  · obtain ⟨f, hf, e⟩ := List.mem_map.1 (mem_of_mem_dedupIf hr)
    exact ⟨f, e, (hm f).1 hf⟩
  · rw [mem_dedupIf_iff (fun hd => toRec_key_inj (hk hd L hL)), List.mem_map]
    exact ⟨fun ⟨f, hf, e⟩ => ⟨f, e, (hm f).1 hf⟩, fun ⟨f, e, hf⟩ => ⟨f, (hm f).2 hf, e⟩⟩

/-- **Repeating or permuting arguments does not change what is recorded**: two argument lists with the same members give
(both succeed, and) the same set of records.  (An error in any argument is an error of the whole, so success transfers.)
With dedup on the statement needs `KeyFun` — see `pathwalk_record_set`. -/
theorem pathwalk_perm_args (cfg : Cfg) (root : Node) (args args' : List Path) (l : List Rec)
    (hset : ∀ a, a ∈ args ↔ a ∈ args') (hk : cfg.dedup = true → KeyFun cfg root args)
    (h : flattenResolve cfg root args = .ok l) :
    ∃ l', flattenResolve cfg root args' = .ok l' ∧ ∀ r, r ∈ l ↔ r ∈ l' := by
  obtain ⟨L, hL, rfl⟩ := flattenResolve_ok_iff.1 h
  obtain ⟨L', hL', hLL⟩ := flattenArgs_congr cfg root hset hL
  refine ⟨_, flattenResolve_ok_iff.2 ⟨L', hL', rfl⟩, fun r => ?_⟩
  rw [mem_dedupIf_iff (fun hd => toRec_key_inj (hk hd L hL)),
    mem_dedupIf_iff (fun hd => toRec_key_inj (fun f hf g hg => hk hd L hL f ((hLL f).2 hf) g ((hLL g).2 hg))),
    List.mem_map, List.mem_map]
  exact ⟨fun ⟨f, hf, e⟩ => ⟨f, (hLL f).1 hf, e⟩, fun ⟨f, hf, e⟩ => ⟨f, (hLL f).2 hf, e⟩⟩

/-- **The sorted list is canonical**: two duplicate-free record lists with the same members sort (by `(size, str)`) to the same
list — the key is a total order on records, so the order of the stream is a function of the SET of records. -/
theorem pathwalk_sorted_canonical (l₁ l₂ : List Rec) (h1 : (l₁.map Prod.fst).Nodup) (h2 : (l₂.map Prod.fst).Nodup)
    (h : ∀ r, r ∈ l₁ ↔ r ∈ l₂) : sortFiles l₁ = sortFiles l₂ :=
  sortFiles_canonical ((List.perm_ext_iff_of_nodup (h1.of_map Prod.fst (fun _ _ hne e => hne (congrArg Prod.fst e)))
    (h2.of_map Prod.fst (fun _ _ hne e => hne (congrArg Prod.fst e)))).2 h)

/-- **The stream order depends on the set of arguments only** (dedup on): same members → the very same ordered list. -/
theorem pathwalk_order_function_of_set (cfg : Cfg) (root : Node) (args args' : List Path) (s : List Rec)
    (hd : cfg.dedup = true) (hset : ∀ a, a ∈ args ↔ a ∈ args') (hk : KeyFun cfg root args)
    (h : snapshotOrder cfg root args = .ok s) : snapshotOrder cfg root args' = .ok s := by
  cases hl : flattenResolve cfg root args with
  | error e => simp [snapshotOrder, hl] at h
  | ok l =>
    simp only [snapshotOrder, hl] at h
    cases h
    obtain ⟨l', hl', hmem⟩ := pathwalk_perm_args cfg root args args' l hset (fun _ => hk) hl
    simp only [snapshotOrder, hl']
    rw [pathwalk_sorted_canonical l l' (pathwalk_nodup cfg root args l hl hd) (pathwalk_nodup cfg root args' l' hl' hd) hmem]

/-- **More fuel never changes a finished walk.** -/
theorem pathwalk_fuel_mono (root : Node) (follow lifo : Bool) (n k : Nat) (stack : List Frame) (ys : List Found)
    (h : walk root follow lifo n stack = .ok ys) : walk root follow lifo (n + k) stack = .ok ys := by
  fun_induction walk root follow lifo n stack generalizing ys with
  | case1 =>
    rw [walk_nil]
    exact h
  | case2 => nomatch h
  | case3 => nomatch h
  | case4 => nomatch h
  | case5 n start es stack ds fs hs rest hr ih =>
    rw [Nat.succ_add, walk, hs]
    simp only [ih rest hr, h]

/-- **A directory symlink back to an ancestor aborts the snapshot with ELOOP** (`d/loop → /d`): the walk follows it again and
again until one lookup needs more than 40 links — the real code raises `OSError(ELOOP)` there. -/
theorem pathwalk_cycle_eloop :
    flattenResolve ⟨true, true, true, 100, 1000⟩
      (.dir (.cons "d" (.dir (.cons "f" (.file 1) (.cons "loop" (.link true ["d"]) .nil))) .nil)) [["d"]]
      = .error .eloop := by decide +kernel

/-- **A symlink to itself inside a walked directory aborts with ELOOP** (not skipped like a dangling link). -/
theorem pathwalk_self_link_aborts :
    flattenResolve ⟨true, true, true, 100, 1000⟩
      (.dir (.cons "d" (.dir (.cons "f" (.file 1) (.cons "self" (.link false ["self"]) .nil))) .nil)) [["d"]]
      = .error .eloop := by decide +kernel

/-- **A symlink whose target goes through a regular file aborts with ENOTDIR** (`NotADirectoryError` in the real code). -/
theorem pathwalk_link_through_file_aborts :
    flattenResolve ⟨true, true, true, 100, 1000⟩
      (.dir (.cons "d" (.dir (.cons "f" (.file 1) (.cons "l" (.link false ["f", "x"]) .nil))) .nil)) [["d"]]
      = .error .enotdir := by decide +kernel

/-- **A symlink loop in an ARGUMENT is `RuntimeError("Symlink loop …")`** of `Path.resolve`, not ELOOP. -/
theorem pathwalk_arg_loop_runtime_error :
    flattenResolve ⟨true, true, true, 100, 1000⟩
      (.dir (.cons "a" (.link true ["b"]) (.cons "b" (.link true ["a"]) .nil))) [["a"]]
      = .error .loopRT := by decide +kernel

/-- dangling links and `other` nodes are silently skipped; an acyclic directory symlink is followed and its files are reported
under the path they were reached by -/
example :
    flattenResolve ⟨true, true, true, 100, 1000⟩
      (.dir (.cons "d" (.dir (.cons "dang" (.link false ["nope"]) (.cons "sock" .other (.cons "ln" (.link true ["e"]) .nil))))
        (.cons "e" (.dir (.cons "g" (.file 7) .nil)) .nil))) [["d"]]
      = .ok [("/d/ln/g", 7)] := by decide +kernel

/-- **What was read from the source** (`tools/sections/01_pathwalk.py`): the walk follows links in its tests, yields the entry
(its reached path), arguments are resolved strictly, duplicates are dropped, the sort key is `(size, str)`. -/
theorem pathwalk_source_facts :
    Gen.pwWalkFollow = true ∧ Gen.pwYieldsEntry = true ∧ Gen.pwArgShape = true ∧ Gen.pwStrict = true ∧
      Gen.pwDedup = true ∧ Gen.pwSortKey = ["size", "str"] := by decide

/-- **On a symlink-free tree the walk cannot fail and needs one unit of fuel per directory**: all frames link-free and
fuel ≥ Σ over the stack of (1 + number of directories below) → a result, never an error (no ELOOP/ENOTDIR, no fuel). -/
theorem pathwalk_terminates_nolinks_stack (root : Node) (follow lifo : Bool) (n : Nat) (stack : List Frame)
    (hnl : ∀ fr ∈ stack, fr.2.noLinks = true) (hm : stackMeasure stack ≤ n) :
    ∃ ys, walk root follow lifo n stack = .ok ys := by
  induction n generalizing stack with
  | zero =>
    cases stack with
    | nil => exact ⟨[], rfl⟩
    | cons a t =>
      rw [stackMeasure_cons] at hm
      omega
  | succ n ih =>
    cases stack with
    | nil => exact ⟨[], rfl⟩
    | cons a t =>
      obtain ⟨start, es⟩ := a
      obtain ⟨ds, fs, hs, hds, hdm⟩ := scan_nolinks root follow start es (hnl _ List.mem_cons_self)
      rw [stackMeasure_cons] at hm
      -- the directories found take the place of the frame: the fuel needed goes down by one
      obtain ⟨rest, hr⟩ := ih (push lifo ds t)
        (fun fr hfr => by
          rcases mem_push.1 hfr with h | h
          · exact hds fr h
          · exact hnl fr (List.mem_cons_of_mem _ h))
        (by
          rw [stackMeasure_push, hdm]
          have hm' : 1 + es.dirCount + stackMeasure t ≤ n + 1 := hm
          omega)
      exact ⟨fs ++ rest, by simp only [walk, hs, hr]⟩

/-- `pathwalk_terminates_nolinks_stack` for one starting directory: fuel = its number of directories (itself included). -/
theorem pathwalk_terminates_nolinks (root : Node) (follow lifo : Bool) (n : Nat) (p : Path) (es : Entries)
    (hnl : es.noLinks = true) (hm : es.dirCount + 1 ≤ n) : ∃ ys, walk root follow lifo n [(p, es)] = .ok ys :=
  pathwalk_terminates_nolinks_stack root follow lifo n [(p, es)]
    (fun fr hfr => by rw [List.mem_singleton.1 hfr]; exact hnl)
    (by rw [stackMeasure_cons]; simp [stackMeasure]; omega)

/-- **A symlink ARGUMENT records its target's path** (`resolve` happens before anything else): an argument resolving to a
regular file at physical path `p` is recorded as `str(p)`. -/
theorem pathwalk_symlink_arg_records_target (cfg : Cfg) (root : Node) (a p : Path) (s : Nat)
    (h : resolveArg root cfg.argFuel a = .ok (p, .file s)) : flattenResolve cfg root [a] = .ok [(pathStr p, s)] := by
  simp only [flattenResolve, PathWalk.flattenArgs, h, flattenOne, List.append_nil]
  cases cfg.dedup <;> simp [dedupKeys, toRec]

/-- **A symlink met INSIDE a walked directory records the link's own path** (the path it was reached by, not the target's):
a link entry whose `stat` is a regular file of size `s` is yielded as `start/name` with size `s`. -/
theorem pathwalk_symlink_inside_records_link_path (root : Node) (lifo : Bool) (n : Nat) (start : Path) (es : Entries)
    (name : String) (ab : Bool) (t : List String) (s : Nat) (ys : List Found)
    (hm : (name, Node.link ab t) ∈ es.toList) (hst : statFollow root (start ++ [name]) = .ok (.file s))
    (h : walk root true lifo n [(start, es)] = .ok ys) : (start ++ [name], s) ∈ ys :=
  (pathwalk_walk_spec root true lifo n _ ys h _).2 ⟨_, List.mem_singleton.2 rfl, .here hm (by simp only [classify, hst, if_true])⟩

end PathWalkProps

end Replicat.C01
