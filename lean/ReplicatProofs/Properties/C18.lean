import ReplicatProofs.Lemmas.CacheFS
/-!
# C18 — the snapshot cache never changes what a command does

Objects: `Repo.viaCache / loadSnapshotsC / cacheAfterLoad` (`_download_snapshot_threadsafe` with a cache directory) and the
cached commands of `CacheCmd.lean` (= the commands of `Repo.lean` with `loadSnapshots ↦ loadSnapshotsC cache`, factorisations
proved in `Lemmas/CacheCmd.lean`).  A cache is an ARBITRARY association list location ↦ payload.

Hypotheses, and where they come from:
* `WF s` — the repository itself is not corrupted (that is C04's subject, not the cache's);
* `Agree c s` / `Ideal B _` — **ideal hash** (DESIGN.md §4): a payload whose digest equals a snapshot's name is that snapshot.
  It is a hypothesis, not an axiom; the last `example` of this file (a cached payload with the right digest
  and another body is believed) shows it is needed.
* `Gen.cacheVerified = true` is NOT a hypothesis: it is discharged by `cacheVerified_holds` from the regenerated
  `Generated.lean`; on a tree where `_download_snapshot_threadsafe` does not verify the cached copy this file stops compiling, and
  `truncated_entry_witness` (stated for the unverified variant, which `unverified_model` proves to be the model in that case)
  is the failing input.
* `storePlanOk = true` (the file-system operations of `_store_cached`, read from its AST into `Gen.cacheStorePlanRaw` /
  `Gen.cacheTempUnique`, cannot fail on any state of the directory and under interference by other clients) is NOT a hypothesis
  either: `store_plan_holds` discharges it by `decide`; see the section on the cache DIRECTORY below (`store_never_fails`,
  `directory_cache_irrelevant`, `kill_leftover_irrelevant`, `exclusive_temp_witness`).
-/
namespace Replicat.C18
open Replicat Replicat.Repo Replicat.CacheCmd Replicat.P18 List

/-- the regenerated flag: the cached copy is compared with the expected digest before use -/
theorem cacheVerified_holds : Gen.cacheVerified = true := by decide

/-- the regenerated shape of the cache code the model mirrors (read off the paths of a symbolic execution of `repository.py`, not
off the names of its private methods): cache entries are read and written only by code that is entered from the loop of
`_load_snapshots` over the backend listing of `SNAPSHOT_PREFIX` and nowhere else (`"snapshot-load"` — any other function with such
an operation is listed by name), always at the listed path itself; what is written is the download of that path, after
`hash(download) = expected` is known; `delete_snapshots` unlinks the entry of a snapshot after its backend deletion; and the cache
directory is used for nothing but {remembering it in `__init__`, testing it against `None`, reading / storing / unlinking entries}. -/
theorem cache_shape_holds :
    Gen.cacheReadSites = ["snapshot-load"] ∧ Gen.cacheStoreSites = ["snapshot-load"] ∧
    Gen.cacheDirUses = ["evict", "init", "read", "store", "test"] ∧
    Gen.cacheLoadOverListing = true ∧ Gen.cacheStoreAfterVerify = true ∧ Gen.deleteEvictsCache = true ∧
    Gen.cacheSectionOk = true := by decide

/-- **Loading is independent of the cache.**  For EVERY cache content — absent, valid, `blob` (empty / any proper prefix /
garbage), another snapshot's or another repository's bytes, stale entries — `_load_snapshots` returns what it returns with the
cache disabled. -/
theorem load_cache_irrelevant (c : Cache) (enc : Bool) (u : User) (re : Nat → Bool) (s : Store) (hs : WF s) (ha : Agree c s) :
    loadSnapshotsC (some c) enc u re s = loadSnapshots enc u re s := by
  rw [← loadSnapshotsC_none]
  unfold loadSnapshotsC
  rw [loadCandidatesC_eq cacheVerified_holds c enc u re s hs.2 ha]

/-- **Every mutating command**: same new repository state, same error, same mutation plan (so also the same crash behaviour). -/
theorem command_cache_irrelevant (c : Cache) (enc : Bool) (s : Store) (op : Op) (hs : WF s) (ha : Agree c s) :
    stepC (some c) enc s op = step enc s op ∧ stepErrC (some c) enc s op = stepErr enc s op ∧
    (∀ u sids, deletePlanC (some c) enc u sids s = deletePlan enc u sids s) ∧
    (∀ u, cleanPlanC (some c) enc u s = cleanPlan enc u s) :=
  stepC_eq_of_load (fun u => load_cache_irrelevant c enc u all s hs ha) op

/-- **Every read-only command** (`list-snapshots`, `list-files`, `restore`): same rows / same restored file versions / same error. -/
theorem query_cache_irrelevant (c : Cache) (enc : Bool) (s : Store) (q : Query) (hs : WF s) (ha : Agree c s) :
    answerC (some c) enc s q = answer enc s q := by
  cases q with
  | list u sre =>
    simp only [answerC, answer, listSnapshotsC, load_cache_irrelevant c enc u sre s hs ha, ← listSnapshots_eq]
  | listFiles u sre fre =>
    simp only [answerC, answer, listFilesC, load_cache_irrelevant c enc u sre s hs ha, ← listFiles_eq]
  | restore u sre fre =>
    simp only [answerC, answer, restoreC, load_cache_irrelevant c enc u sre s hs ha, ← restore_eq]

/-- **Histories.**  Several clients, each command run with whatever its cache directory holds at that moment — given as an
arbitrary sequence of caches (disabled, empty, warm, shared between keys/repositories, separate, stale, torn by an interrupted
write): the repository evolves exactly as without any cache, under the ideal-hash reading `B` of digests.
The client of the model carries NOTHING from one command to the next (`runC` folds `stepC`; the only things a command sees are
the store and the cache of the moment).  That this is also true of a long-lived `Repository` object is what the harness ties:
half of its histories keep one object per (user, cache directory) on one event loop while other clients damage / replace the
entries that object validated or stored in its earlier commands, and compare every command with this stateless model. -/
theorem history_cache_irrelevant (B : Fam → Nat → Body) (enc : Bool) (h : List (Option Cache × Op)) (s : Store)
    (hs : WF s) (hB : Ideal B s) (hc : ∀ x ∈ h, ∀ c, x.1 = some c → Ideal B c) (hops : ∀ x ∈ h, OpIdeal B x.2) :
    runC enc s h = run enc s (h.map (·.2)) := by
  induction h generalizing s with
  | nil => rfl
  | cons x rest ih =>
    rcases x with ⟨c, op⟩
    have hstep : stepC c enc s op = step enc s op := by
      cases c with
      | none => exact (stepC_eq_of_load (fun u => loadSnapshotsC_none enc u all s) op).1
      | some c =>
        exact (command_cache_irrelevant c enc s op hs (agree_of_ideal (hc (some c, op) mem_cons_self c rfl) hB)).1
    show runC enc (stepC c enc s op) rest = run enc (step enc s op) (rest.map (·.2))
    rw [hstep]
    exact ih (step enc s op) (step_wf enc s op hs) (ideal_step hB (hops (c, op) mem_cons_self))
      (fun x hx => hc x (mem_cons_of_mem _ hx)) (fun x hx => hops x (mem_cons_of_mem _ hx))

/-- **Stale and foreign entries are never looked at**: the result depends on the cache only through the entries stored under
the names the backend lists *now* — entries of deleted snapshots, of other repositories, of anything else are not even read.
(Holds with or without verification, for any store.) -/
theorem stale_ignored (c c' : Cache) (enc : Bool) (u : User) (re : Nat → Bool) (s : Store)
    (h : ∀ e ∈ s, get c e.1 = get c' e.1) :
    loadSnapshotsC (some c) enc u re s = loadSnapshotsC (some c') enc u re s := by
  unfold loadSnapshotsC
  rw [loadCandidatesC_congr c c' enc u re s h]

/-- **Everything a load stores is a valid copy**: an entry of the cache after `_load_snapshots` is an old entry or a listed
snapshot object stored under its own name with its own (verified) content; and the cache stays hash-ideal. -/
theorem cache_after_load_valid (cache : Cache) (enc : Bool) (u : User) (re : Nat → Bool) (s : Store) :
    (∀ e ∈ cacheAfterLoad cache enc u re s, e ∈ cache ∨ (e ∈ s ∧ Matches e.1 e.2 ∧ ∃ f sid, e.1 = Name.snap f sid)) ∧
    (∀ B, Ideal B cache → Ideal B s → Ideal B (cacheAfterLoad cache enc u re s)) := by
  refine ⟨?_, fun B hc hs => ideal_cacheAfterLoad hc hs⟩
  intro e he
  rcases mem_cacheAfterLoad he with h | ⟨h, f, sid, b, rfl⟩
  · exact Or.inl h
  · exact Or.inr ⟨h, ⟨rfl, rfl⟩, f, sid, rfl⟩

/-- **`delete` evicts**: after `delete_snapshots` the client's cache holds no entry for a snapshot it deleted. -/
theorem delete_evicts (cache : Cache) (enc : Bool) (u : User) (sids : List Nat) (s : Store) (p : DeletePlan)
    (hp : deletePlanC (some cache) enc u sids s = .ok p) (n : Name) (hn : n ∈ p.snaps) :
    get (cacheAfterDelete cache enc u sids s) n = none := by
  unfold cacheAfterDelete
  simp only [hp, get_delAll, hn, if_true]

/-- the model IS the unverified variant whenever the extractor reports that the code does not verify cached copies -/
theorem unverified_model (hv : Gen.cacheVerified = false) (cache : Option Cache) (enc : Bool) (u : User) (re : Nat → Bool) (s : Store) :
    loadSnapshotsC cache enc u re s = loadSnapshotsU cache enc u re s := by
  unfold loadSnapshotsC loadSnapshotsU loadCandidatesC
  congr 1
  apply filterMap_congr'
  intro e _
  rcases e with ⟨n, o⟩
  cases n with
  | snap f sid =>
    dsimp only
    rw [viaCache_unverified hv]
  | _ => rfl

/-- **Negation witness for the unverified variant** (cached copies used unverified): one snapshot in the repository, its cache
entry a proper prefix of the content (`blob`) — or the bytes of another snapshot —, the repository itself intact and hash-ideal:
every command of that client fails (`corrupted`), while it succeeds with the cache disabled. -/
theorem truncated_entry_witness :
    ∃ (s : Store) (c c2 : Cache) (u : User), WF s ∧ Agree c s ∧ Agree c2 s ∧
      loadSnapshotsU none true u all s = .ok [⟨1, 7, [3], some ⟨1, 5, [3], []⟩⟩] ∧
      loadSnapshotsU (some c) true u all s = .error .corrupted ∧
      loadSnapshotsU (some c2) true u all s = .error .corrupted :=
  ⟨[(.snap 1 7, .snap 1 7 ⟨1, 5, [3], []⟩), (.chunk 1 3, .chunk 1 3)],
   [(.snap 1 7, .blob 0)], [(.snap 1 7, .snap 1 8 ⟨1, 6, [], []⟩)], ⟨1, 1⟩,
   by unfold WF NoDupKeys; decide,
   agree_of_mismatch (by decide) _,
   agree_of_mismatch (by decide) _,
   by decide⟩

/-! ## the cache DIRECTORY: what a hard kill, or a second writer, leaves next to the entries

`_store_cached` as the sequence of file-system operations the extractor read from its AST (`storePlan`).  The theorems above
quantify over every CONTENT of the entry files; these quantify over every state of the directory — entries, temporaries lying
next to them, missing parent directories — and over every point at which an earlier run was killed.
`Gen.cacheStorePlanRaw` / `Gen.cacheTempUnique` are NOT hypotheses: `store_plan_holds` discharges the static safety of the plan
by `decide`; on a tree whose `_store_cached` can fail on some directory state (an exclusive create of a deterministic name, a
rename of a name another client may have taken, an `unlink` without `missing_ok`, …) this file stops compiling, and
`exclusive_temp_witness` shows the failing directory for the exclusive-create case. -/

/-- the regenerated plan: recognised, statically safe under interference, and effective -/
theorem store_plan_holds : storePlanOk = true := by decide

theorem store_plan_spec :
    ∃ p, storePlan = some p ∧ planSafe Gen.cacheTempUnique p = true ∧ planEffective p = true := by
  have h := store_plan_holds
  unfold storePlanOk at h
  cases hp : storePlan with
  | none => rw [hp] at h; cases h
  | some p =>
    rw [hp] at h
    simp only [Bool.and_eq_true] at h
    exact ⟨p, rfl, h.1, h.2⟩

/-- **`_store_cached` never fails because of what the directory holds**: from EVERY state of the entry's names (entry absent /
valid / empty / torn / foreign, a temporary left by a killed run, the parent directory missing) and with other clients acting on
the same names between any two of its operations (`EnvOk`: they may create, replace or evict the entry and deterministic
temporaries; they do not remove directories or touch a temporary unique to this run), every operation succeeds; and an
undisturbed run leaves the payload under the entry name. -/
theorem store_never_fails (o : Obj) (l : Loc) (envs : List (Loc → Loc)) (he : ∀ f ∈ envs, EnvOk Gen.cacheTempUnique f) :
    ∃ p, storePlan = some p ∧ (∃ l', runOpsI o p envs (startLoc Gen.cacheTempUnique l) = .ok l') ∧
      (∃ l', runStore p Gen.cacheTempUnique o l = .ok l' ∧ l'.entry = some o) := by
  obtain ⟨p, hp, hsafe, heff⟩ := store_plan_spec
  obtain ⟨l', hl'⟩ := planSafe_runStore hsafe o l
  exact ⟨p, hp, planSafe_total hsafe o envs he l, l', hl', planEffective_entry heff hl'⟩

/-- **What a hard kill leaves** under the names of one entry — after any number `k` of the operations, possibly inside the
write (`tear`): every file is the payload itself, an empty or torn file, or a file that was there before. -/
theorem kill_leaves_old_or_torn (k : Nat) (tear : Option Nat) (o : Obj) (l l' : Loc) (p : List FsOp)
    (h : killed p Gen.cacheTempUnique k tear o l = .ok l') : FromOld o l l' :=
  killed_fromOld h

/-- **The directory is irrelevant**: for EVERY state `d` of the cache directory — entries with any content, temporaries lying
next to them, parent directories missing — `_load_snapshots` INCLUDING the stores it performs returns what it returns with the
cache disabled (in particular no store fails). -/
theorem directory_cache_irrelevant (d : CDir) (enc : Bool) (u : User) (re : Nat → Bool) (s : Store) (hs : WF s)
    (ha : Agree d.entries s) :
    ∃ p, storePlan = some p ∧ loadSnapshotsD p Gen.cacheTempUnique d enc u re s = liftErr (loadSnapshots enc u re s) := by
  obtain ⟨p, hp, hsafe, _⟩ := store_plan_spec
  refine ⟨p, hp, ?_⟩
  unfold loadSnapshotsD
  rw [load_cache_irrelevant d.entries enc u re s hs ha]
  cases loadSnapshots enc u re s with
  | error e => rfl
  | ok ls =>
    dsimp only
    split
    · rename_i x hx
      obtain ⟨e, _, hfe⟩ := List.exists_of_findSome?_eq_some hx
      obtain ⟨l', hl'⟩ := planSafe_runStore hsafe e.2 (d.loc e.1)
      rw [hl'] at hfe
      cases hfe
    · rfl

/-- **Later commands after a hard kill.**  A run that was storing the listed snapshot `(n, o)` is killed after `k` operations
(possibly inside the write); the directory `d'` is `d` with the entry of `n` as the kill left it — and ANY temporaries / missing
directories.  Under ideal hash every later command loads what it loads without a cache, and none of its stores fails. -/
theorem kill_leftover_irrelevant (B : Fam → Nat → Body) (d d' : CDir) (n : Name) (o : Obj) (k : Nat) (tear : Option Nat) (l' : Loc)
    (p : List FsOp) (enc : Bool) (u : User) (re : Nat → Bool) (s : Store) (hs : WF s) (hB : Ideal B s)
    (hd : Ideal B d.entries) (ht : Ideal B d.temps) (ho : (n, o) ∈ s)
    (hk : killed p Gen.cacheTempUnique k tear o (d.loc n) = .ok l')
    (hd' : d'.entries = match l'.entry with | some x => put d.entries n x | none => del d.entries n) :
    ∃ p, storePlan = some p ∧ loadSnapshotsD p Gen.cacheTempUnique d' enc u re s = liftErr (loadSnapshots enc u re s) := by
  apply directory_cache_irrelevant d' enc u re s hs
  apply agree_of_ideal _ hB
  rw [hd']
  have hold := killed_fromOld hk
  cases hle : l'.entry with
  | none =>
    intro e he
    exact hd e ((mem_del d.entries n e).mp he).1
  | some x =>
    intro e he f sid b hb
    rcases mem_put he with rfl | h
    · rcases hold .entry x (by simpa [getSlot] using hle) with rfl | ⟨j, rfl⟩ | ⟨t', ht'⟩
      · exact hB _ ho f sid b hb
      · cases hb
      · cases t' with
        | entry => exact hd _ (mem_of_get (by simpa [getSlot, CDir.loc] using ht')) f sid b hb
        | temp => exact ht _ (mem_of_get (by simpa [getSlot, CDir.loc] using ht')) f sid b hb
    · exact hd e h f sid b hb

/-- **Negation witness for a plan that creates a deterministic temporary EXCLUSIVELY** (`open(…, 'xb')` on a name derived from the
entry, then write, then rename): the plan is not safe; killed before the rename it leaves the temporary (entry still absent);
from then on the store of that entry fails (`exists`) — every later command of every client of that directory that has to cache
the snapshot fails, while it succeeds with the cache disabled. -/
theorem exclusive_temp_witness :
    let p : List FsOp := [.mkdirParents true, .create .temp true, .write .temp, .rename .temp .entry]
    let o : Obj := .snap 1 7 ⟨1, 5, [3], []⟩
    let s : Store := [(.snap 1 7, o), (.chunk 1 3, .chunk 1 3)]
    planSafe false p = false ∧
    killed p false 3 none o ⟨none, none, false⟩ = .ok ⟨none, some o, true⟩ ∧
    runStore p false o ⟨none, some o, true⟩ = .error .exists ∧
    loadSnapshotsD p false ⟨[], [(.snap 1 7, o)], []⟩ true ⟨1, 1⟩ all s = .error (.store .exists) ∧
    loadSnapshots true ⟨1, 1⟩ all s = .ok [⟨1, 7, [3], some ⟨1, 5, [3], []⟩⟩] ∧
    -- the same plan with a temporary whose name is unique to the run is safe
    planSafe true p = true := by
  decide

/-- non-vacuity: the plan of the code at hand, run from a directory holding a torn entry, a stray temporary and no parent
directory, succeeds and leaves the payload -/
example :
    ∃ p, storePlan = some p ∧
      runStore p Gen.cacheTempUnique (.snap 1 7 ⟨1, 5, [3], []⟩) ⟨some (.blob 1), some (.blob 0), false⟩ =
        .ok ⟨some (.snap 1 7 ⟨1, 5, [3], []⟩), (if Gen.cacheTempUnique then none else some (.blob 0)), true⟩ := by
  obtain ⟨p, hp, _, _⟩ := store_plan_spec
  exact ⟨_, rfl, by decide⟩

/-- the hypotheses of `load_cache_irrelevant` are satisfiable with a truncated entry, and the conclusion is then not trivial -/
example :
    let s : Store := [(.snap 1 7, .snap 1 7 ⟨1, 5, [3], []⟩), (.chunk 1 3, .chunk 1 3)]
    loadSnapshotsC (some [(.snap 1 7, .blob 0)]) true ⟨1, 1⟩ all s = .ok [⟨1, 7, [3], some ⟨1, 5, [3], []⟩⟩] := by decide

/-- without ideal hash (a cached payload with the right digest but another body) the cache is believed —
`Agree` is exactly what is needed -/
example :
    let s : Store := [(.snap 1 7, .snap 1 7 ⟨1, 5, [3], []⟩)]
    loadSnapshotsC (some [(.snap 1 7, .snap 1 7 ⟨1, 9, [], []⟩)]) true ⟨1, 1⟩ all s ≠ loadSnapshots true ⟨1, 1⟩ all s := by decide

/-- a history with a torn cache in the middle: same final repository -/
example :
    runC true [] [(none, .snapshot ⟨1, 1⟩ [3] [⟨1, 1, [3]⟩] 5 7), (some [(.snap 1 7, .blob 0)], .delete ⟨1, 1⟩ [7])] = [] := by decide

end Replicat.C18
