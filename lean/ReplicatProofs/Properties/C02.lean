import ReplicatProofs.Lemmas.RepoConcSeq
import ReplicatProofs.Lemmas.RepoConcRestore
import ReplicatProofs.Lemmas.RepoListing
/-!
# C02 — no history of snapshot / delete / clean ever damages a remaining snapshot

Property theorems only.  Objects: the repository state machine of `ReplicatModel/Repo.lean` (`snapshot`, `deleteSnapshots`,
`clean`, `restore`, `step`, `run`, the mutation plans `planOf` / `acceptsPrefix`), for ARBITRARY users (same key, clone, shared
key = same family, independent key = other family), encrypted or not, arbitrary histories.

Invariant: `Consistent enc s` = well-formed object map ∧ every snapshot object's chunk table entries exist as valid chunk
objects of its own family ∧ every file only needs chunks of its table, each path once (`Lemmas/RepoInv.lean`).
Modelling convention (not a restriction of the code): an unencrypted repository has one family, number 0 (`UserOk`, `FamOk`):
there are no keys, names are plain digests; the `example` at the end shows that the *model* of `clean` would remove another
family's chunks if this convention were dropped.
Ideal cryptography (DESIGN.md §4): a chunk's content id is its digest; names are injective in (family, content).
-/
namespace Replicat.C02
open Replicat.Repo List

/-- the freshly initialised repository is consistent -/
theorem consistent_init (enc : Bool) : Consistent enc initStore := initStore_consistent enc

/-- **Every command of every user preserves the invariant**: snapshot (any sid, fresh or not), delete (success, "different
key", "not available"), clean — by the owner, a clone, a shared-key user or an independent-key user. -/
theorem consistent_step (enc : Bool) (s : Store) (op : Op) (h : Consistent enc s) (hop : OpOk enc op) :
    Consistent enc (step enc s op) := step_consistent h hop

/-- **Every reachable state is consistent** (induction over the history). -/
theorem consistent_reachable (enc : Bool) (s : Store) (ops : List Op) (h : Consistent enc s) (hops : ∀ op ∈ ops, OpOk enc op) :
    Consistent enc (run enc s ops) :=
  run_consistent h hops

/-- **A listed snapshot restores exactly.**  In a consistent state, a user who can read a listed snapshot (tag verifies =
`visible`, private part decrypts with his key) restores it by a regex on its own name: the command succeeds and writes exactly
the snapshot's files (those matching the file filter), in the recorded versions. -/
theorem restore_listed_exact (enc : Bool) (u : User) (s : Store) (f : Fam) (sid : Nat) (b : Body) (fre : Nat → Bool)
    (hc : Consistent enc s) (hu : UserOk enc u) (hg : get s (.snap f sid) = some (.snap f sid b))
    (hv : visible enc u f = true) (hr : (!enc || b.owner == u.key) = true) :
    restore enc u (fun x => x == sid) fre s = .ok (b.files.filter (fun fr => fre fr.path)) :=
  restore_single hc hu hg hv hr fre

/-- **A snapshot object that is still there is the one that was written**: no command other than a snapshot producing the very
same name (impossible for a different body: the name is the digest of the stored bytes) changes a present snapshot object; it
is either untouched or deleted. -/
theorem remaining_snapshot_unchanged (enc : Bool) (s : Store) (ops : List Op) (f : Fam) (sid : Nat) (o : Obj)
    (h : Consistent enc s) (hops : ∀ op ∈ ops, OpOk enc op)
    (hname : ∀ u st fs ts sid', Op.snapshot u st fs ts sid' ∈ ops → Name.snap u.fam sid' ≠ Name.snap f sid)
    (hg : get s (.snap f sid) = some o) :
    get (run enc s ops) (.snap f sid) = some o ∨ get (run enc s ops) (.snap f sid) = none := by
  -- once deleted, only a snapshot with that name could bring the object back
  have key : ∀ (ops : List Op) (s : Store), Consistent enc s → (∀ op ∈ ops, OpOk enc op) →
      (∀ u st fs ts sid', Op.snapshot u st fs ts sid' ∈ ops → Name.snap u.fam sid' ≠ Name.snap f sid) →
      (get s (.snap f sid) = some o ∨ get s (.snap f sid) = none) →
      get (foldl (step enc) s ops) (.snap f sid) = some o ∨ get (foldl (step enc) s ops) (.snap f sid) = none := by
    intro ops
    induction ops with
    | nil => exact fun _ _ _ _ hs => hs
    | cons op ops ih =>
      intro s hcs hok hnm hs
      apply ih _ (step_consistent hcs (hok op mem_cons_self)) (fun o ho => hok o (mem_cons_of_mem _ ho))
        (fun u st fs ts sid' hm => hnm u st fs ts sid' (mem_cons_of_mem _ hm))
      rcases step_get_snap (enc := enc) hcs.1 (fun u st fs ts sid' e => hnm u st fs ts sid' (e ▸ mem_cons_self)) with e | e
      · rw [e]
        exact hs
      · exact Or.inr e
  exact key ops s h hops hname (Or.inl hg)

/-- **The property.**  Take a snapshot (files `files`) in any consistent state, then let ANY admissible history of snapshots,
deletes and cleans by any users follow.  If the snapshot is still listed afterwards, its owner restores it completely and gets
exactly the files captured when it was taken. -/
theorem snapshot_survives_history (enc : Bool) (s : Store) (u : User) (stream : List Content) (files : List FileRec) (ts sid : Nat)
    (ops : List Op) (fre : Nat → Bool)
    (h : Consistent enc s) (hop : OpOk enc (.snapshot u stream files ts sid)) (hops : ∀ op ∈ ops, OpOk enc op)
    (hname : ∀ u' st fs ts' sid', Op.snapshot u' st fs ts' sid' ∈ ops → Name.snap u'.fam sid' ≠ Name.snap u.fam sid)
    (hlisted : get (run enc (step enc s (.snapshot u stream files ts sid)) ops) (.snap u.fam sid) ≠ none) :
    restore enc u (fun x => x == sid) fre (run enc (step enc s (.snapshot u stream files ts sid)) ops)
      = .ok (files.filter (fun fr => fre fr.path)) := by
  have h1 := step_consistent h hop
  have h2 := consistent_reachable enc _ ops h1 hops
  have hg : get (step enc s (.snapshot u stream files ts sid)) (.snap u.fam sid)
      = some (.snap u.fam sid ⟨u.key, ts, dedupKeepFirstC stream, files⟩) := snapshot_get_snapname u stream files ts sid s
  rcases remaining_snapshot_unchanged enc _ ops u.fam sid _ h1 hops hname hg with hk | hk
  · exact restore_listed_exact enc u _ u.fam sid _ fre h2 hop.1 hk (visible_own enc u) (by simp)
  · exact absurd hk hlisted

/-- **No overwrite with different bytes.**  Whatever state `s'` the repository is in when a chunk `put` planned by any command
(in any state `s`) reaches the backend — e.g. because another process uploaded the same chunk in between — an object already
stored under that name is identical to the payload of the `put`. -/
theorem no_overwrite (enc : Bool) (s s' : Store) (op : Op) (stage : List Mut) (f : Fam) (c : Content) (o o' : Obj)
    (hs' : WF s') (hstage : stage ∈ planOf enc s op) (hm : Mut.put (.chunk f c) o ∈ stage)
    (hg : get s' (.chunk f c) = some o') : o' = o := by
  rw [hs'.get_chunk hg]
  rcases Crash.mem_planOf hstage hm with ⟨n, h⟩ | ⟨c', h⟩ | ⟨sid, b, h⟩
  · cases h
  · cases h
    rfl
  · cases h

/-- **Interrupted or in-flight command.**  After every prefix of every completion order the code allows for a command —
snapshot: chunk uploads in any order, the snapshot object only after all of them; delete: snapshot objects in any order, chunk
deletions only after all of them; clean: deletions in any order — the repository is consistent: a command that is cut short
at any point (and run alone, if destructive) damages no remaining snapshot. -/
theorem consistent_prefix (enc : Bool) (s : Store) (op : Op) (tr : List Mut) (h : Consistent enc s) (hop : OpOk enc op)
    (hacc : acceptsPrefix (planOf enc s op) tr = true) : Consistent enc (applyMuts s tr) := by
  cases op with
  | snapshot u stream files ts sid =>
    obtain ⟨h1, h2⟩ := snapshotPlan_supported h.1 hop hacc
    exact supported_consistent tr s h h2 h1
  | delete u sids => exact delete_prefix_consistent h hacc
  | clean u => exact clean_prefix_consistent h hop hacc

/-- **Overlapping non-destructive commands** (README: snapshots may run concurrently, from one or several processes).  Two
snapshot commands by any two users start in the same consistent state; their backend mutations interleave arbitrarily, each
command respecting only its own ordering constraint, and either may be cut short: the repository is consistent after every such
interleaving.  (Destructive commands run alone: `consistent_step`.) -/
theorem consistent_interleaved (enc : Bool) (s : Store) (u1 u2 : User) (st1 st2 : List Content) (fs1 fs2 : List FileRec)
    (ts1 sid1 ts2 sid2 : Nat) (t1 t2 t : List Mut) (h : Consistent enc s)
    (hop1 : OpOk enc (.snapshot u1 st1 fs1 ts1 sid1)) (hop2 : OpOk enc (.snapshot u2 st2 fs2 ts2 sid2))
    (hacc1 : acceptsPrefix (planOf enc s (.snapshot u1 st1 fs1 ts1 sid1)) t1 = true)
    (hacc2 : acceptsPrefix (planOf enc s (.snapshot u2 st2 fs2 ts2 sid2)) t2 = true)
    (hi : Interleave t1 t2 t) : Consistent enc (applyMuts s t) := by
  obtain ⟨a1, a2⟩ := snapshotPlan_supported h.1 hop1 hacc1
  obtain ⟨b1, b2⟩ := snapshotPlan_supported h.1 hop2 hacc2
  obtain ⟨c1, c2⟩ := supported_interleave hi s s s (ChunkLe.refl s) (ChunkLe.refl s) a2 b2 a1 b1
  exact supported_consistent t s h c2 c1

/-! ## overlapping non-destructive commands, call by call (`ReplicatModel/RepoConc.lean`)

ANY number of snapshot commands of ANY users are in flight at once, each with its own pool of workers; every backend call is
one event (`exists` observation, `upload`, `commit` of the snapshot object, `read` of a read-only command).  Two workers — of
one command or of different ones — may both see a chunk absent and both upload it.  `crun cmds (CState.init s cmds) tr = some st`
says: `tr` is a possible order of completed calls and leads to `st`; every prefix of such a trace is one too (`crun_append`). -/

/-- **`Consistent` holds in every reachable state of every concurrent execution** of any number of snapshot commands by any
users, started in a consistent repository: however the `exists` / `upload` / `commit` calls of the workers interleave, and
wherever the execution is cut. -/
theorem consistent_concurrent (enc : Bool) (s : Store) (cmds : List SnapCmd) (tr : List Ev) (st : CState)
    (h : Consistent enc s) (hok : ∀ cmd ∈ cmds, OpOk enc cmd.op)
    (hrun : crun cmds (CState.init s cmds) tr = some st) : Consistent enc st.store :=
  (concInv_run hok (concInv_init cmds h) hrun).1

/-- **A complete concurrent execution ends in the object map of the sequential run of the same commands, in ANY order**
(chunk payloads are functions of (family, content), a snapshot object is a function of its command; `NamesOk`: a snapshot's
name is the digest of its stored bytes).  Equal as maps, and — both stores having unique keys — equal as sets of objects. -/
theorem concurrent_equals_sequential (enc : Bool) (s : Store) (cmds cmds' : List SnapCmd) (tr : List Ev) (st : CState)
    (h : Consistent enc s) (hok : ∀ cmd ∈ cmds, OpOk enc cmd.op) (hn : NamesOk cmds)
    (hrun : crun cmds (CState.init s cmds) tr = some st) (hdone : st.complete = true) (hperm : cmds'.Perm cmds) :
    (∀ n, Repo.get st.store n = Repo.get (run enc s (cmds'.map SnapCmd.op)) n) ∧
      st.store.Perm (run enc s (cmds'.map SnapCmd.op)) := by
  have hmem : ∀ x, x ∈ cmds' ↔ x ∈ cmds := fun x => hperm.mem_iff
  have hn' : NamesOk cmds' := fun a ha b hb => hn a ((hmem a).mp ha) b ((hmem b).mp hb)
  have hf1 := isFinal_conc h.1 hn hrun hdone
  have hf2 : IsFinal s cmds (run enc s (cmds'.map SnapCmd.op)) :=
    (isFinal_run enc cmds' s h.1 hn').of_mem_iff (fun x => (hmem x).symm)
  have hget := hf1.unique hf2
  refine ⟨hget, ?_⟩
  have hwf1 : WF st.store := (consistent_concurrent enc s cmds tr st h hok hrun).1
  have hwf2 : WF (run enc s (cmds'.map SnapCmd.op)) := run_wf enc _ s h.1
  exact perm_of_get_eq hwf1 hwf2 hget

/-- **The sequential history is one of the concurrent executions** (so the concurrent semantics extends the sequential model,
and a complete execution exists for every list of commands whose pools have ≥ 1 worker): the trace "one command after the other,
per chunk `exists` then upload if absent, then the snapshot object" is accepted, complete, and ends in literally the store of
`run`. -/
theorem sequential_is_concurrent (enc : Bool) (s : Store) (cmds : List SnapCmd) (hw : ∀ cmd ∈ cmds, 1 ≤ cmd.workers) :
    ∃ st, crun cmds (CState.init s cmds) (seqTraceAll 0 s cmds) = some st ∧ st.complete = true ∧
      st.store = run enc s (cmds.map SnapCmd.op) :=
  seqTraceAll_complete enc s cmds hw

/-- **A snapshot that is listed at some point of a concurrent execution restores exactly at every later point** (README:
non-destructive commands may overlap).  `st1` is any reachable state in which the snapshot object `(f, sid)` with body `b` is
listed — it may have been there from the start or have been committed during the execution; `st2` is any state reachable from
`st1`, with any further `exists` / `upload` / `commit` calls of any commands in between.  A user who can read the snapshot
restores exactly its files.  `hname`: a command that produces this very name produces these very bytes (the name is the digest). -/
theorem restore_unaffected_by_concurrent_snapshots (enc : Bool) (s : Store) (cmds : List SnapCmd) (tr1 tr2 : List Ev) (st1 st2 : CState)
    (h : Consistent enc s) (hok : ∀ cmd ∈ cmds, OpOk enc cmd.op)
    (h1 : crun cmds (CState.init s cmds) tr1 = some st1) (h2 : crun cmds st1 tr2 = some st2)
    (u : User) (hu : UserOk enc u) (f : Fam) (sid : Nat) (b : Body)
    (hlisted : get st1.store (.snap f sid) = some (.snap f sid b))
    (hv : visible enc u f = true) (hr : (!enc || b.owner == u.key) = true)
    (hname : ∀ cmd ∈ cmds, cmd.name = .snap f sid → cmd.obj = .snap f sid b) (fre : Nat → Bool) :
    restore enc u (fun x => x == sid) fre st2.store = .ok (b.files.filter (fun fr => fre fr.path)) := by
  have hc2 := consistent_concurrent enc s cmds (tr1 ++ tr2) st2 h hok (crun_append_of h1 h2)
  exact restore_listed_exact enc u st2.store f sid b fre hc2 hu (snap_kept_run h2 hname hlisted) hv hr

/-- **A restore that overlaps snapshot commands returns what the atomic restore at its listing point returns**: it lists and
loads the snapshots in the reachable state `st1` and downloads each chunk `c` at some later point of the execution (`later c`),
for any snapshot and file filters.  (So the `read` events of the concurrent semantics, which observe one store, lose nothing.) -/
theorem restore_spanning_concurrent_snapshots (enc : Bool) (s : Store) (cmds : List SnapCmd) (tr1 : List Ev) (st1 : CState)
    (h : Consistent enc s) (hok : ∀ cmd ∈ cmds, OpOk enc cmd.op) (h1 : crun cmds (CState.init s cmds) tr1 = some st1)
    (u : User) (hu : UserOk enc u) (sre fre : Nat → Bool) (later : Content → Store)
    (hlater : ∀ c, ∃ trc stc, crun cmds st1 trc = some stc ∧ stc.store = later c) :
    restoreSpan enc u sre fre st1.store later = restore enc u sre fre st1.store := by
  apply restoreSpan_eq sre fre (consistent_concurrent enc s cmds tr1 st1 h hok h1) hu
  intro c
  obtain ⟨trc, stc, hrun, heq⟩ := hlater c
  rw [← heq]
  exact chunkLe_run hrun

/-! ## destructive commands over a listing that fails or is silently partial (`ReplicatModel/RepoListing.lean`)

`delete_snapshots` / `clean` compute what they keep from `backend.list_files`.  The listing is a step of its own: under a scan
fault (`ScanFault`: the top directory of an area, a directory below it, an iteration part-way, the backend's call) the command
either gets an ERROR or a shorter *view*, depending on whether every layer lets the error through (`ListFlags`, extracted from
the source on every run as `ListFlags.gen`).  Decisions are taken on the view, deletions hit the real object map. -/

/-- **Complete-or-error listing ⇒ safe, over whole histories.**  If every layer lets a scan error through (`F.safe`), then any
history of snapshots, deletes and cleans by any users, EACH under an arbitrary listing fault of its own, keeps the repository
consistent: a command whose listing fails stops before its first deletion. -/
theorem consistent_under_listing_faults (F : ListFlags) (hF : F.safe = true) (enc : Bool) (s : Store)
    (ops : List (Op × Option ScanFault)) (h : Consistent enc s) (hops : ∀ p ∈ ops, OpOk enc p.1) :
    Consistent enc (runL F enc s ops) := by
  unfold runL
  induction ops generalizing s with
  | nil => exact h
  | cons p ops ih =>
    simp only [foldl_cons]
    exact ih _ (stepL_safe_consistent hF p.2 h (hops p (by simp))) (fun o ho => hops o (mem_cons_of_mem _ ho))

/-- **The property under listing faults.**  With a complete-or-error listing, a snapshot object that is still stored after a
command that ran under ANY listing fault restores exactly with its owner's key, whatever the command's outcome. -/
theorem stored_snapshot_restores_after_listing_fault (F : ListFlags) (hF : F.safe = true) (enc : Bool) (s : Store) (op : Op)
    (flt : Option ScanFault) (u : User) (f : Fam) (sid : Nat) (b : Body) (fre : Nat → Bool)
    (h : Consistent enc s) (hop : OpOk enc op) (hu : UserOk enc u)
    (hg : get (stepL F enc flt s op) (.snap f sid) = some (.snap f sid b))
    (hv : visible enc u f = true) (hr : (!enc || b.owner == u.key) = true) :
    restore enc u (fun x => x == sid) fre (stepL F enc flt s op) = .ok (b.files.filter (fun fr => fre fr.path)) :=
  restore_listed_exact enc u _ f sid b fre (stepL_safe_consistent hF flt h hop) hu hg hv hr

/-- **The source tree as extracted on this run**: a directory below the top directory of an area that cannot be scanned
(`os.scandir` raises EACCES / EIO / ESTALE / ENOENT), an iteration that fails part-way, or a backend whose listing raises, makes
`delete_snapshots` / `clean` fail before the first deletion — the walk of `Local.list_files` (`iterative_scandir`), `list_files`
itself and `Repository._aiter` / `_load_snapshots` / `clean` let the error through (the three extracted flags are discharged by
`decide`; a handler that swallows the error anywhere on that path breaks this proof).
`_partial`: the hypothesis `hk` excludes a fault at the TOP directory of the area.  With a handler that swallows any `OSError` there
(`top_directory_swallow_damages`, fourth flag `true`) the statement fails; in the extracted source the fourth flag is `false` and
`consistent_under_listing_faults ListFlags.gen` covers that fault too. -/
theorem local_listing_fault_safe_partial (enc : Bool) (s : Store) (op : Op) (flt : Option ScanFault)
    (hk : ∀ f, flt = some f → f.kind.isTop = false) (h : Consistent enc s) (hop : OpOk enc op) :
    Consistent enc (stepL ListFlags.gen enc flt s op) := by
  rw [stepL_notTop enc flt hk]
  exact stepL_safe_consistent (by decide) flt h hop

/-- `delete_snapshots` is safe under EVERY listing fault of the extracted source tree, the top directory included: an emptied
snapshot listing makes it refuse ("not available") or leaves it nothing to do. -/
theorem local_delete_any_listing_fault_safe (enc : Bool) (s : Store) (u : User) (sids : List Nat) (flt : Option ScanFault)
    (h : Consistent enc s) (hu : UserOk enc u) :
    Consistent enc (stepL ListFlags.gen enc flt s (.delete u sids)) := by
  cases flt with
  | none => exact local_listing_fault_safe_partial enc s (.delete u sids) none (fun f hf => by cases hf) h hu
  | some f =>
    obtain ⟨fa, fk⟩ := f
    cases fk with
    | top =>
      rcases delete_top_fault ListFlags.gen enc u sids fa s with e | e <;> rw [e]
      · exact h
      · exact step_consistent h hu
    | _ => exact local_listing_fault_safe_partial enc s (.delete u sids) _ (fun f hf => by cases hf; rfl) h hu

/-- **A sub-listing is not enough (delete).**  Negation witness for a walk that skips a directory it cannot scan
(`walkOpen = false`): owner ⟨1,1⟩ and shared-key user ⟨2,1⟩ hold snapshots 100 and 101 that share chunk 11; the directory of
snapshot 100 cannot be scanned while ⟨2,1⟩ deletes 101: the keep-set misses 100, chunk 11 is deleted, snapshot 100 is still
stored and no longer restores.  With the error let through the same command changes nothing. -/
theorem sublisting_delete_damages :
    let s := run true initStore [.snapshot ⟨1, 1⟩ [10, 11] [⟨1, 1, [10, 11]⟩] 1 100, .snapshot ⟨2, 1⟩ [11, 12] [⟨1, 2, [11]⟩, ⟨2, 3, [12]⟩] 2 101]
    let flt : ScanFault := ⟨.snaps, .walkOpen (fun n => n == .snap 1 100)⟩
    let s' := stepL ⟨false, true, true, false⟩ true (some flt) s (.delete ⟨2, 1⟩ [101])
    Consistent true s ∧
    (restore true ⟨1, 1⟩ (fun x => x == 100) (fun _ => true) s).toOption = some [⟨1, 1, [10, 11]⟩] ∧
    get s' (.snap 1 100) = get s (.snap 1 100) ∧ (get s' (.snap 1 100)).isSome = true ∧ get s' (.chunk 1 11) = none ∧
    (restore true ⟨1, 1⟩ (fun x => x == 100) (fun _ => true) s').toOption = none ∧
    stepL ⟨true, true, true, false⟩ true (some flt) s (.delete ⟨2, 1⟩ [101]) = s := by
  exact ⟨consistent_reachable true _ _ (consistent_init true) (by decide), by decide +kernel⟩

/-- **A sub-listing is not enough (clean).**  Same repository; ⟨2,1⟩ runs `clean` while the directory of snapshot 100 cannot be
scanned and is skipped: chunk 10 (referenced by snapshot 100 only) is removed as an orphan. -/
theorem sublisting_clean_damages :
    let s := run true initStore [.snapshot ⟨1, 1⟩ [10, 11] [⟨1, 1, [10, 11]⟩] 1 100, .snapshot ⟨2, 1⟩ [11, 12] [⟨1, 2, [11]⟩, ⟨2, 3, [12]⟩] 2 101]
    let flt : ScanFault := ⟨.snaps, .walkOpen (fun n => n == .snap 1 100)⟩
    let s' := stepL ⟨false, true, true, false⟩ true (some flt) s (.clean ⟨2, 1⟩)
    (get s' (.snap 1 100)).isSome = true ∧ get s' (.chunk 1 10) = none ∧ get s' (.chunk 1 11) = some (.chunk 1 11) ∧
    (restore true ⟨1, 1⟩ (fun x => x == 100) (fun _ => true) s').toOption = none ∧
    stepL ⟨true, true, true, false⟩ true (some flt) s (.clean ⟨2, 1⟩) = s := by
  decide +kernel

/-- **The top directory (finding D20).**  A `Local.list_files` that answers ANY `OSError` of the top-level
`os.scandir(<repository>/snapshots)` with an empty listing (`topSwallow = true`; a handler meant for a repository that has no
such directory yet): when that scan fails with EACCES / EIO / ESTALE, `clean` sees no snapshot at all and removes every chunk of
its family while all snapshot objects stay stored.  With a handler for the missing directory only (`topSwallow = false`) nothing
happens.  Which of the two the source tree has is extracted on every run (`Gen.localListTopSwallowsAnyOSError`, the fourth flag
of `ListFlags.gen`). -/
theorem top_directory_swallow_damages :
    let s := run true initStore [.snapshot ⟨1, 1⟩ [10, 11] [⟨1, 1, [10, 11]⟩] 1 100]
    let flt : ScanFault := ⟨.snaps, .top⟩
    let s' := stepL ⟨true, true, true, true⟩ true (some flt) s (.clean ⟨1, 1⟩)
    (get s' (.snap 1 100)).isSome = true ∧ get s' (.chunk 1 10) = none ∧ get s' (.chunk 1 11) = none ∧
    (restore true ⟨1, 1⟩ (fun x => x == 100) (fun _ => true) s').toOption = none ∧
    stepL ⟨true, true, true, false⟩ true (some flt) s (.clean ⟨1, 1⟩) = s := by
  decide +kernel

/-- a concrete encrypted history: owner ⟨1,1⟩, shared-key user ⟨2,1⟩ and independent user ⟨3,2⟩ snapshot overlapping data; the
shared user's delete of the owner's snapshot is refused, the owner deletes it, the independent user cleans; the shared user's
snapshot (which shares chunk 11 with the deleted one) still restores exactly. -/
example :
    let ops : List Op := [
      .snapshot ⟨1, 1⟩ [10, 11, 10] [⟨1, 1, [10, 11]⟩] 1 100,
      .snapshot ⟨2, 1⟩ [11, 12] [⟨1, 2, [11]⟩, ⟨2, 3, [12]⟩] 2 101,
      .snapshot ⟨3, 2⟩ [10, 11] [⟨1, 1, [10, 11]⟩] 3 102,
      .delete ⟨2, 1⟩ [100],
      .delete ⟨1, 1⟩ [100],
      .clean ⟨3, 2⟩]
    (∀ op ∈ ops, OpOk true op) ∧
    get (run true initStore ops) (.chunk 1 10) = none ∧
    get (run true initStore ops) (.chunk 2 10) = some (.chunk 2 10) ∧
    (restore true ⟨2, 1⟩ (fun x => x == 101) (fun _ => true) (run true initStore ops)).toOption = some [⟨1, 2, [11]⟩, ⟨2, 3, [12]⟩] := by
  decide +kernel

/-- a concurrent execution of two snapshot commands of one key family whose data share chunk 11 (two workers each): BOTH
commands see 11 absent and both upload it, a restore is issued in between; the trace is accepted, ends complete and in the
object map of either sequential order; putting a snapshot object before one of its uploads is rejected -/
example :
    let cmds : List SnapCmd := [⟨⟨1, 1⟩, [10, 11], [⟨1, 1, [10, 11]⟩], 1, 100, 2⟩, ⟨⟨2, 1⟩, [11, 12], [⟨1, 2, [11]⟩], 2, 101, 2⟩]
    let tr : List Ev := [.exists 0 10 false, .exists 1 11 false, .exists 0 11 false, .upload 1 (.chunk 1 11) (.chunk 1 11),
      .upload 0 (.chunk 1 10) (.chunk 1 10), .read (.restore ⟨1, 1⟩ none none), .upload 0 (.chunk 1 11) (.chunk 1 11),
      .exists 1 12 false, .commit 0, .read (.restore ⟨1, 1⟩ (some [100]) none), .upload 1 (.chunk 1 12) (.chunk 1 12), .commit 1]
    (∀ cmd ∈ cmds, OpOk true cmd.op) ∧ NamesOk cmds ∧
    (crun cmds (CState.init initStore cmds) tr).map (·.complete) = some true ∧
    (crun cmds (CState.init initStore cmds) tr).map (fun st => get st.store (.chunk 1 11)) = some (some (.chunk 1 11)) ∧
    (crun cmds (CState.init initStore cmds) tr).map (fun (st : CState) =>
        [Name.chunk 1 10, .chunk 1 11, .chunk 1 12, .snap 1 100, .snap 1 101, .config].map (Repo.get st.store)) =
      some ([Name.chunk 1 10, .chunk 1 11, .chunk 1 12, .snap 1 100, .snap 1 101, .config].map
        (Repo.get (run true initStore (cmds.reverse.map SnapCmd.op)))) ∧
    -- the restore issued right after `commit 0`, while command 1 is still uploading, returns snapshot 100's files
    (crun cmds (CState.init initStore cmds) (tr.take 9)).map (fun st =>
        (restore true ⟨1, 1⟩ (fun x => x == 100) (fun _ => true) st.store).toOption) = some (some [⟨1, 1, [10, 11]⟩]) ∧
    (crun cmds (CState.init initStore cmds) (tr.take 8 ++ [.commit 1])).isNone = true := by
  decide +kernel

/-- a prefix that puts the snapshot object before one of its chunks is NOT accepted (the ordering constraint is real), while
any order of the chunk uploads is -/
example :
    let plan := planOf true initStore (.snapshot ⟨1, 1⟩ [10, 11] [] 1 100)
    acceptsPrefix plan [.put (.chunk 1 11) (.chunk 1 11), .put (.chunk 1 10) (.chunk 1 10)] = true ∧
    acceptsPrefix plan [.put (.chunk 1 10) (.chunk 1 10), .put (.snap 1 100) (.snap 1 100 ⟨1, 1, [10, 11], []⟩)] = false := by
  decide +kernel

/-- why the convention `UserOk` is part of the statements: in the MODEL, `clean` on an unencrypted repository (no tag check)
would remove the chunks of a second "family" — an unencrypted repository has no families, all names are plain digests. -/
example :
    get (step false [(.snap 1 5, .snap 1 5 ⟨0, 1, [7], []⟩), (.chunk 1 7, .chunk 1 7)] (.clean ⟨0, 0⟩)) (.chunk 1 7) = none := by
  decide +kernel

end Replicat.C02
