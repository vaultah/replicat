import ReplicatProofs.Lemmas.SymBackend
/-!
# C05 — an encrypted repository reveals no plaintext at rest

Property theorems only.  Object: `written a ops` of `ReplicatModel/Sym.lean` — every `(name, content)` pair emitted by `init`,
`add-key` (shared or independent), `snapshot` and `delete`/`clean` (`Op.remove`: they upload nothing) over ANY history, for any
chunk plaintexts, paths, metadata, notes and passwords; the emitted key files are included (an observer may see them).

The observer is the full Dolev–Yao closure `DY`: projections, decryption with any key he can derive, and every constructor
(pairing, hashing, MAC, KDF, encryption) applied to what he already has.  Assumption: ideal cryptography (free term algebra),
fresh `os.urandom` values (the supply counter); lengths and access patterns are not modelled (the property does not ask for
them).  Well-formedness of the inputs (`InitArgs.wf`, `Op.wf`): algorithm settings are public constants, passwords are secrets.

Clients.  `run` lets every command act under the repository's own `encrypted` flag.  The code takes that flag from whatever
bytes the client parsed as the config, so `faithful_views_run`, `client_history_public` and `stale_view_leaks` speak about
`runView`: every command carries the view its client really had.  `client_history_public` — secrecy for every history of
client commands whose views are faithful, whatever client-side state (shared cache directory, other repositories, earlier
incarnations of the location) surrounds them;
`stale_view_leaks` — the hypothesis is necessary (false of the model AND of any code that lets client state decide the view);
the harness checks the hypothesis on the real code by running several repositories through one client state and feeding the
views the real clients had to the model.

Backends.  `run` / `runView` decide per chunk by a lookup in the model's own store: the backend is a faithful map and nobody else
touches it during a snapshot.  The last four theorems drop that: in `runB` (ReplicatModel/SymBackend.lean) a snapshot is a list of
events — the next chunk with WHATEVER `exists` answered for it, or a removal of arbitrary objects by somebody else (another
client's clean / delete, an eventually-consistent store).  `adversarial_backend_public` — secrecy and nonce freshness for every
such history (it consumes the extracted shapes `Gen.chunkQueuedIsCiphertext` — the producer queues ciphertext for EVERY chunk of an
encrypted repository — and `Gen.chunkUploadIsQueuedContents` — the worker uploads the queued object); `honest_backend_is_snapshot` / `backend_history_refines` — with truthful answers and no interference this
is `step` / `runView`; `plaintext_queue_leaks` — the shape is necessary: a producer that may queue a plain chunk (because it
"knows" the chunk is stored) leaks it as soon as one answer is `False`.
-/
namespace Replicat.C05
open Replicat Replicat.Sym
open Term (pub sec nonce key nil pair mac kdf enc)

/-- Dolev–Yao closure of a set `W` of observed terms -/
inductive DY (W : Term → Prop) : Term → Prop
  | init {t} : W t → DY W t
  | pub (n) : DY W (pub n)
  | nonce (n) : DY W (nonce n)
  | nil : DY W nil
  | fst {a b} : DY W (pair a b) → DY W a
  | snd {a b} : DY W (pair a b) → DY W b
  | dec {k n t} : DY W (enc k n t) → DY W k → DY W t
  | pair {a b} : DY W a → DY W b → DY W (pair a b)
  | hash {t} : DY W t → DY W (Term.hash t)
  | mac {k t} : DY W k → DY W t → DY W (mac k t)
  | kdf {k s c} : DY W k → DY W s → DY W c → DY W (kdf k s c)
  | enc {k n t} : DY W k → DY W n → DY W t → DY W (enc k n t)

/-- what the observer of a history has: every name and every content ever emitted -/
def Seen (a : InitArgs) (ops : List Op) (t : Term) : Prop := ∃ e ∈ written a ops, t = e.1 ∨ t = e.2

/-- **`Public` is closed under everything the observer can do.** -/
theorem analz_public (W : Term → Prop) (hW : ∀ t, W t → Public t = true) (t : Term) (h : DY W t) : Public t = true := by
  induction h with
  | init h => exact hW _ h
  | pub n => rfl
  | nonce n => rfl
  | nil => rfl
  | fst _ ih => simp [Public] at ih; exact ih.1
  | snd _ ih => simp [Public] at ih; exact ih.2
  | dec _ _ ih1 ih2 =>
    simp only [Public, Bool.and_eq_true, Bool.or_eq_true, Bool.not_eq_true'] at ih1
    rcases ih1.2 with h | h
    · rw [ih2] at h; cases h
    · exact h
  | pair _ _ ih1 ih2 => simp [Public, ih1, ih2]
  | hash _ ih => simpa [Public] using ih
  | mac _ _ ih1 ih2 => simp [Public, ih2]
  | kdf _ _ _ ih1 ih2 ih3 => simp [Public, ih1, ih2, ih3]
  | enc _ _ _ ih1 ih2 ih3 => simp [Public, ih2, ih3]

/-- **Everything written is public**, by induction over the history: every object name and every object / key file emitted by
init, add-key, snapshot, delete and clean of an encrypted repository. -/
theorem written_public (a : InitArgs) (ha : a.wf) (he : a.encrypted = true) (ops : List Op) (hops : ∀ op ∈ ops, op.wf) :
    ∀ e ∈ written a ops, Public e.1 = true ∧ Public e.2 = true := by
  intro e hmem
  have := (inv_run a ha he ops hops).log e hmem
  exact ⟨this.1, this.2.1⟩

/-- **No plaintext, digest or key at rest.**  From everything ever written the observer derives no secret atom (file bytes,
path, metadata, note, password), no content digest of a secret, no generated secret (shared key, MAC key, chunker key,
shared-KDF salt), no key derived from a password, and no derived chunk / chunk-table key. -/
theorem no_plain_secret (a : InitArgs) (ha : a.wf) (he : a.encrypted = true) (ops : List Op) (hops : ∀ op ∈ ops, op.wf) :
    (∀ s, ¬ DY (Seen a ops) (sec s)) ∧ (∀ s, ¬ DY (Seen a ops) (Term.hash (sec s))) ∧ (∀ k, ¬ DY (Seen a ops) (key k)) ∧
    (∀ u ∈ (run a ops).users, ¬ DY (Seen a ops) (userKeyOf u.pw u.salt) ∧ ∀ ctx, ¬ DY (Seen a ops) (subKey (u.props true) ctx)) := by
  have hW : ∀ t, Seen a ops t → Public t = true := by
    rintro t ⟨e, hmem, h | h⟩
    · rw [h]; exact (written_public a ha he ops hops e hmem).1
    · rw [h]; exact (written_public a ha he ops hops e hmem).2
  have key : ∀ t, Public t = false → ¬ DY (Seen a ops) t := by
    intro t ht h
    have := analz_public _ hW t h
    rw [ht] at this; cases this
  refine ⟨fun s => key _ rfl, fun s => key _ rfl, fun k => key _ rfl, ?_⟩
  intro u hu
  have huo := (inv_run a ha he ops hops).users u hu
  have hk := keysOK_of_user huo
  exact ⟨key _ hk.2.1, fun ctx => key _ (public_subKey hk ctx)⟩

/-- **Names are keyed MACs.**  Every emitted name is `config`, a key-file label, `data/<mac>/<mac>` or
`snapshots/<mac>/<hash of the stored ciphertext>` — never the plain hash of a content. -/
theorem names_are_macs (a : InitArgs) (ha : a.wf) (he : a.encrypted = true) (ops : List Op) (hops : ∀ op ∈ ops, op.wf) :
    ∀ e ∈ written a ops, nameKeyed e.1 = true :=
  fun e hmem => ((inv_run a ha he ops hops).log e hmem).2.2.1

/-- **Only the algorithm settings are readable without a key.**  Whatever is written under `config` is the caller's settings
term itself (nothing generated and no password flows into it), and it is written. -/
theorem config_public_only (a : InitArgs) (ha : a.wf) (he : a.encrypted = true) (ops : List Op) (hops : ∀ op ∈ ops, op.wf) :
    (∀ e ∈ written a ops, e.1 = configLoc → e.2 = a.cfg) ∧ Public a.cfg = true :=
  ⟨fun e hmem => ((inv_run a ha he ops hops).log e hmem).2.2.2, ha.1⟩

/-- **No nonce is used twice.**  Over the whole history the nonces of all AEAD encryptions (private sections, chunks —
uploaded or not —, chunk tables, snapshot data) are pairwise distinct; in particular no two ciphertexts under one key share a
nonce. -/
theorem nonces_fresh (a : InitArgs) (ha : a.wf) (he : a.encrypted = true) (ops : List Op) (hops : ∀ op ∈ ops, op.wf) :
    ((run a ops).uses.map (·.2)).Nodup ∧ (run a ops).uses.Nodup := by
  have h := (inv_run a ha he ops hops).usesNodup
  refine ⟨h, ?_⟩
  unfold List.Nodup at h ⊢
  exact (List.pairwise_map.mp h).imp (fun hne heq => hne (by rw [heq]))

/-- **delete / clean upload nothing.** -/
theorem remove_writes_nothing (a : InitArgs) (ops : List Op) (locs : List Term) :
    written a (ops ++ [.remove locs]) = written a ops := by
  simp [written, run, List.foldl_append, step]

/-- **Faithful clients write what `run` writes.**  If every command is issued under the repository's own flag, the history of
client commands is the history of `run` — no other component of a client's state enters the model. -/
theorem faithful_views_run (a : InitArgs) (ops : List (Bool × Op)) (hv : ∀ vo ∈ ops, vo.1 = a.encrypted) :
    runView a ops = run a (ops.map (·.2)) := by
  unfold runView run
  apply foldl_view_faithful
  intro vo hvo
  rw [initSt_encrypted]
  exact hv vo hvo

/-- **Secrecy for every history of client commands with faithful views**: all that is emitted is public, every name is keyed,
and the observer derives no secret atom, no digest of one and no generated key. -/
theorem client_history_public (a : InitArgs) (ha : a.wf) (he : a.encrypted = true) (ops : List (Bool × Op))
    (hops : ∀ vo ∈ ops, vo.2.wf) (hv : ∀ vo ∈ ops, vo.1 = true) :
    (∀ e ∈ writtenView a ops, Public e.1 = true ∧ Public e.2 = true ∧ nameKeyed e.1 = true) ∧
    (∀ s, ¬ DY (fun t => ∃ e ∈ writtenView a ops, t = e.1 ∨ t = e.2) (sec s)) ∧
    (∀ s, ¬ DY (fun t => ∃ e ∈ writtenView a ops, t = e.1 ∨ t = e.2) (Term.hash (sec s))) ∧
    (∀ k, ¬ DY (fun t => ∃ e ∈ writtenView a ops, t = e.1 ∨ t = e.2) (key k)) := by
  have hrun : writtenView a ops = written a (ops.map (·.2)) := by
    unfold writtenView written
    rw [faithful_views_run a ops (fun vo hvo => by rw [hv vo hvo, he])]
  have hw : ∀ op ∈ ops.map (·.2), op.wf := by
    intro op hop
    obtain ⟨vo, hvo, rfl⟩ := List.mem_map.mp hop
    exact hops vo hvo
  rw [hrun]
  obtain ⟨h1, h2, h3, _⟩ := no_plain_secret a ha he _ hw
  refine ⟨fun e hmem => ?_, h1, h2, h3⟩
  exact ⟨(written_public a ha he _ hw e hmem).1, (written_public a ha he _ hw e hmem).2, names_are_macs a ha he _ hw e hmem⟩

/-- **The hypothesis on the views is necessary** (negation witness of the statement without it): ONE snapshot issued by a client
that believes an encrypted repository to be unencrypted stores the chunk in the clear, under a name that is the plain digest of
its content, and the snapshot body (path, metadata, note, digests) unencrypted. -/
theorem stale_view_leaks :
    ∃ (a : InitArgs) (ops : List (Bool × Op)), a.wf ∧ a.encrypted = true ∧ (∀ vo ∈ ops, vo.2.wf) ∧
      (∃ e ∈ writtenView a ops, Public e.2 = false ∧ nameKeyed e.1 = false) ∧
      (∃ s, DY (fun t => ∃ e ∈ writtenView a ops, t = e.1 ∨ t = e.2) (sec s)) := by
  refine ⟨⟨true, pub 10, pub 11, pub 12, sec 100⟩,
    [(false, .snapshot 0 [sec 1] ⟨1, [⟨sec 50, [⟨0, 1, 0, 4⟩], Term.hash (sec 60), sec 70⟩], sec 80⟩)], ?_, rfl, ?_, ?_, ?_⟩
  · exact ⟨rfl, rfl, rfl, rfl⟩
  · intro vo hvo
    simp only [List.mem_singleton] at hvo
    subst hvo
    trivial
  · exact ⟨(pair prefixChunk (pair (digest (sec 1)) (digest (sec 1))), sec 1), by decide +kernel, rfl, by decide +kernel⟩
  · exact ⟨1, DY.init ⟨(pair prefixChunk (pair (digest (sec 1)) (digest (sec 1))), sec 1), by decide +kernel, Or.inr rfl⟩⟩

/-- **Secrecy whatever the backend answers.**  Every history of client commands (faithful views) in which snapshots run against
an ARBITRARY backend — each `exists` may answer anything, objects may vanish between any two calls (another client's clean /
delete, eventual consistency), for any stream (any number of repeats of a chunk): all that is emitted is public, every name is
keyed, the observer derives no secret atom, no digest of one and no generated key, and no nonce is used twice. -/
theorem adversarial_backend_public (a : InitArgs) (ha : a.wf) (he : a.encrypted = true) (ops : List (Bool × BOp))
    (hops : ∀ vo ∈ ops, vo.2.wf) (hv : ∀ vo ∈ ops, vo.1 = true) :
    (∀ e ∈ writtenB a ops, Public e.1 = true ∧ Public e.2 = true ∧ nameKeyed e.1 = true) ∧
    (∀ s, ¬ DY (fun t => ∃ e ∈ writtenB a ops, t = e.1 ∨ t = e.2) (sec s)) ∧
    (∀ s, ¬ DY (fun t => ∃ e ∈ writtenB a ops, t = e.1 ∨ t = e.2) (Term.hash (sec s))) ∧
    (∀ k, ¬ DY (fun t => ∃ e ∈ writtenB a ops, t = e.1 ∨ t = e.2) (key k)) ∧
    ((runB a ops).uses.map (·.2)).Nodup := by
  have hq : writerShape = true := by decide
  have hi : Inv a.cfg (runB a ops) := by
    unfold runB
    rw [hq]
    exact inv_runB a ha he ops hops hv
  have hpub : ∀ e ∈ writtenB a ops, Public e.1 = true ∧ Public e.2 = true ∧ nameKeyed e.1 = true := by
    intro e hmem
    have := hi.log e hmem
    exact ⟨this.1, this.2.1, this.2.2.1⟩
  have hW : ∀ t, (∃ e ∈ writtenB a ops, t = e.1 ∨ t = e.2) → Public t = true := by
    rintro t ⟨e, hmem, h | h⟩
    · rw [h]; exact (hpub e hmem).1
    · rw [h]; exact (hpub e hmem).2.1
  have hno : ∀ t, Public t = false → ¬ DY (fun t => ∃ e ∈ writtenB a ops, t = e.1 ∨ t = e.2) t := by
    intro t ht h
    have := analz_public _ hW t h
    rw [ht] at this; cases this
  exact ⟨hpub, fun s => hno _ rfl, fun s => hno _ rfl, fun k => hno _ rfl, hi.usesNodup⟩

/-- **An honest backend is the backend of `step`.**  With truthful answers and no interference the event snapshot is the
snapshot command of `run` (so the theorems above it speak about the same writer). -/
theorem honest_backend_is_snapshot (s : St) (user : Nat) (chunks : List Term) (data : Data) :
    stepB s (.snapshotEv user (honestEvs chunks) data) = step s (.snapshot user chunks data) := by
  have hq : writerShape = true := by decide
  unfold stepB
  rw [hq]
  exact snapshotEv_honest s user chunks data

/-- a history without event snapshots is the history of `runView` -/
theorem backend_history_refines (a : InitArgs) (ops : List (Bool × Op)) :
    runB a (ops.map (fun vo => (vo.1, BOp.plain vo.2))) = runView a ops :=
  runB_plain _ a ops

/-- **The shape of the producer is necessary** (negation witness).  The same two-event snapshot — one chunk twice, the backend
answers `False` for the repeat — by a producer that queues the plain chunk (`runBWith false`): the chunk's plaintext is stored
under the chunk's MAC name and the observer has it; by a producer that queues ciphertext (`runBWith true`) everything is public. -/
theorem plaintext_queue_leaks :
    ∃ (a : InitArgs) (ops : List (Bool × BOp)), a.wf ∧ a.encrypted = true ∧ (∀ vo ∈ ops, vo.2.wf) ∧ (∀ vo ∈ ops, vo.1 = true) ∧
      (∃ e ∈ (runBWith false a ops).log, Public e.2 = false ∧ nameKeyed e.1 = true) ∧
      (∃ s, DY (fun t => ∃ e ∈ (runBWith false a ops).log, t = e.1 ∨ t = e.2) (sec s)) ∧
      (∀ e ∈ (runBWith true a ops).log, Public e.2 = true) := by
  refine ⟨⟨true, pub 10, pub 11, pub 12, sec 100⟩,
    [(true, .snapshotEv 0 [.chunk (sec 1) none, .chunk (sec 1) (some false)] ⟨1, [], nil⟩)], ?_, rfl, ?_, ?_, ?_⟩
  · exact ⟨rfl, rfl, rfl, rfl⟩
  · intro vo hvo
    simp only [List.mem_singleton] at hvo
    subst hvo
    trivial
  · intro vo hvo
    simp only [List.mem_singleton] at hvo
    subst hvo
    rfl
  · -- one evaluation of the plaintext-queue history finds an entry that is the plain chunk under a keyed name
    have h : ((runBWith false ⟨true, pub 10, pub 11, pub 12, sec 100⟩
        [(true, .snapshotEv 0 [.chunk (sec 1) none, .chunk (sec 1) (some false)] ⟨1, [], nil⟩)]).log.any
          (fun e => decide (e.2 = sec 1) && nameKeyed e.1)) = true := by decide +kernel
    have h' : ((runBWith true ⟨true, pub 10, pub 11, pub 12, sec 100⟩
        [(true, .snapshotEv 0 [.chunk (sec 1) none, .chunk (sec 1) (some false)] ⟨1, [], nil⟩)]).log.all
          (fun e => Public e.2)) = true := by decide +kernel
    obtain ⟨e, hmem, hp⟩ := List.any_eq_true.mp h
    rw [Bool.and_eq_true, decide_eq_true_eq] at hp
    exact ⟨⟨e, hmem, by rw [hp.1]; rfl, hp.2⟩, ⟨1, DY.init ⟨e, hmem, Or.inr hp.1.symm⟩⟩, fun e hmem => List.all_eq_true.mp h' e hmem⟩

/-- the secrecy statement is about ENCRYPTED repositories only: an unencrypted repository stores the chunk in the clear, and
`Public` notices (so the theorems above are not vacuous) -/
example :
    let a : InitArgs := ⟨false, pub 10, nil, nil, nil⟩
    (chunkLoc ((default : User).props false) (digest (sec 1)), sec 1) ∈ written a [.snapshot 0 [sec 1] ⟨1, [], nil⟩] ∧
    Public (sec 1) = false ∧ Public (digest (sec 1)) = false := by
  decide +kernel

/-- a two-user encrypted history (init, shared key, two snapshots with a repeated chunk, clean) — all emitted pairs public -/
example :
    let a : InitArgs := ⟨true, pub 10, pub 11, pub 12, sec 100⟩
    let ops : List Op := [.addKey 0 true (pub 11) (pub 12) (sec 101), .snapshot 0 [sec 1, sec 2, sec 1] ⟨1, [⟨sec 50, [⟨0, 1, 0, 4⟩], Term.hash (sec 60), sec 70⟩], sec 80⟩,
      .remove [], .snapshot 1 [sec 2, sec 3] ⟨2, [], nil⟩]
    (written a ops).length = 8 ∧ (written a ops).all (fun e => Public e.1 && Public e.2 && nameKeyed e.1) = true
      ∧ (run a ops).uses.length = 11 := by
  decide +kernel

/-- non-vacuity of the client theorems: two faithful clients (shared key, snapshots) — everything emitted is public and keyed;
and the SAME second snapshot issued under the stale view `false` is not -/
example :
    let a : InitArgs := ⟨true, pub 10, pub 11, pub 12, sec 100⟩
    let k : Op := .addKey 0 true (pub 11) (pub 12) (sec 101)
    let s1 : Op := .snapshot 0 [sec 1, sec 2] ⟨1, [⟨sec 50, [⟨0, 1, 0, 4⟩], Term.hash (sec 60), sec 70⟩], sec 80⟩
    let s2 : Op := .snapshot 1 [sec 2, sec 3] ⟨2, [], sec 81⟩
    (writtenView a [(true, k), (true, s1), (true, s2)]).length = 8 ∧
    (writtenView a [(true, k), (true, s1), (true, s2)]).all (fun e => Public e.1 && Public e.2 && nameKeyed e.1) = true ∧
    (writtenView a [(true, k), (true, s1), (false, s2)]).all (fun e => Public e.1 && Public e.2 && nameKeyed e.1) = false ∧
    (runView a [(true, k), (true, s1), (false, s2)]).encrypted = true := by
  decide +kernel

/-- non-vacuity of the backend theorems: a stream in which one chunk occurs five times; the backend answers
truthfully for the first two occurrences, says "absent" for the third and fifth and "present" for the fourth; the removal event with
an empty list in between changes nothing — five encryptions of the chunk, three uploads of it (each
a fresh ciphertext under its MAC name), everything emitted public and keyed; the honest schedule uploads it once -/
example :
    let a : InitArgs := ⟨true, pub 10, pub 11, pub 12, sec 100⟩
    let d : Data := ⟨1, [⟨sec 50, [⟨0, 1, 0, 4⟩], Term.hash (sec 60), sec 70⟩], sec 80⟩
    let evs : List Ev := [.chunk (sec 1) none, .chunk (sec 1) none, .chunk (sec 1) (some false), .vanish [], .chunk (sec 1) (some true),
      .chunk (sec 1) (some false)]
    (writtenB a [(true, .snapshotEv 0 evs d)]).length = 6 ∧
    (writtenB a [(true, .snapshotEv 0 evs d)]).all (fun e => Public e.1 && Public e.2 && nameKeyed e.1) = true ∧
    (runB a [(true, .snapshotEv 0 evs d)]).uses.length = 8 ∧
    (writtenB a [(true, .snapshotEv 0 (honestEvs [sec 1, sec 1, sec 1, sec 1, sec 1]) d)]).length = 4 := by
  decide +kernel

end Replicat.C05
