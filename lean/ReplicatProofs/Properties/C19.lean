import ReplicatProofs.Lemmas.Options
import ReplicatProofs.Lemmas.OptionsCustom
import ReplicatProofs.Lemmas.OptionsClass
/-!
# C19 — option precedence: command line > environment > profile > default section > built-in

Property theorems only (helper lemmas: `Lemmas/Options.lean`, `Lemmas/OptionsCustom.lean`,
`Lemmas/OptionsClass.lean`; model: `ReplicatModel/Options.lean`).

`pipeline` follows `replicat.__main__.main` in the order `Gen.optSteps` (extracted from the AST) for one row of
`Gen.optRows` (the option table extracted from the real argparse parsers: sub-commands, common options, the backend
options of local / s3 / s3c / b2 and of the custom backends `vfy` and `vfa`).  `spec` = the first source that sets the option, in
the documented order, through the option's type function once.  Every theorem quantifies over ALL leaf semantics
`sem` (what `parse_repository`, `guess_type`, `Path`, … compute), all raw values and all rows / sub-commands of the
generated tables; `Simple` inputs = at most one way of setting the option per source, hence all 2⁴ subsets of
{command line, environment, profile, default section} (the built-in default is always there).

Full statement / what is proved:
* `precedence` — full for every option that is not backend-specific and has at most one file key.
* `precedence_two_keys_partial` — options with two file keys (`password`/`password-file`, `key`/`key-file`,
  `cache-directory`/`no-cache`): only when profile and default section use the SAME key and `no-cache` is true; the
  excluded region contains genuine failures (`profile_cache_directory_loses_to_default_no_cache`,
  `key_file_in_profile_rejected_because_of_default_key`).
* `precedence_backend_partial` — backend-specific options: typed TOML values only if the validator keeps them (D14:
  a `guess_type` that raises on a non-string does not), and only where `guess_type` is idempotent on the effective value (D15); witnesses `backend_typed_toml_value_crashes`, `backend_value_coerced_twice`,
  `backend_string_default_coerced`.
* `precedence_any_backend_partial`, `coercion_uniform_any_backend_partial` — the same two statements for EVERY backend
  class, i.e. for custom backends found through the `replicat.backends` namespace package whatever their constructor
  signature is (annotated `str` / `int` / `bool` / `float` / `Optional[…]` / string annotations or not, required or
  with a default): rows of the schema `customBackendRow`, whose three type functions are extracted
  (`Gen.optBackendCliTy` from the live parsers of all probed backends incl. the annotated probe `vfa`;
  `Gen.optBackendFileTy` / `Gen.optBackendEnvTy` from the AST).  `backend_rows_follow_schema` — every backend row of the
  generated table is an instance of that schema.
* `env_name_never_inherited`, `env_name_documented`, `precedence_class_backend_partial`, `shipped_backend_env_names` —
  CLASS HIERARCHIES of backends (a backend class that derives from another concrete backend: the shipped `S3`, custom
  backends derived from `Local` / `S3Compatible` / `B2` / another custom backend, two or more levels, with or without the
  class keyword `short_name=`, with a plain `short_name` class attribute): the environment variable of every option is
  computed from the class's OWN declaration (`Options.backendEnvVar` interpreting `Gen.optShortNameRule`, the fallback of
  `Backend.__init_subclass__` read from the AST) and never from a base class; the row of such an option is an instance of the
  schema, so precedence holds for it as for any backend; the variables in the generated table (live parsers) are the ones the
  model computes from the shipped class declarations (ASTs).
-/
namespace Replicat.C19
open Replicat Replicat.Gen Replicat.Options

variable {V : Type}

/-- **Precedence (full).** For every sub-command, every option that is not backend-specific and has at most one
configuration-file key (all command options, `-r`, `--profile`, `--config`, `-v`, `-q`, `-c`, `log-level`), every
subset of the sources and all accepted raw values: the handler receives the value of the first source in the order
command line, environment, profile, default section, built-in — coerced once. -/
theorem precedence (sem : Sem V) (hsem : SemOK sem) (cmd : OptCommand) (hcmd : cmd ∈ optCommands)
    (row : OptRow) (hrow : row ∈ optRows) (hscope : row.scope ≠ 2) (hone : row.file.length ≤ 1)
    (s : Simple V) (hb : sem.isStr s.builtin = false) (hv : valid sem row s = true) :
    pipelineFinal sem cmd row s.toInputs = spec sem row s := by
  exact (precedence_main sem hsem cmd (cmds_ok cmd hcmd).1 row (rows_wf row hrow).1 (rows_wfMain row hrow hscope) s hb hv
    (sameKey_of_short sem row s hone hv)
    (flagsTruthy_of_allPlain sem row s (rows_short_plain row hrow hscope hone))).1

/-- **Precedence, options with two file keys (partial).**  Extra hypotheses: when both the profile and the default
section set the option they use the same key (`sameKey`), and a `no-cache` key is `true` (`flagsTruthy`).
Missing: `cache-directory` in the profile against `no-cache = true` in the default section (the default section wins
— witness below), `key` against `key-file` across the two sections (rejected — witness below), `no-cache = false`. -/
theorem precedence_two_keys_partial (sem : Sem V) (hsem : SemOK sem) (cmd : OptCommand) (hcmd : cmd ∈ optCommands)
    (row : OptRow) (hrow : row ∈ optRows) (hscope : row.scope ≠ 2)
    (s : Simple V) (hb : sem.isStr s.builtin = false) (hv : valid sem row s = true)
    (hsame : sameKey s = true) (htr : flagsTruthy sem row s = true) :
    pipelineFinal sem cmd row s.toInputs = spec sem row s := by
  exact (precedence_main sem hsem cmd (cmds_ok cmd hcmd).1 row (rows_wf row hrow).1 (rows_wfMain row hrow hscope) s hb hv
    hsame htr).1

/-- The backend is selected by the same precedence: when `load_backend(*cfg.repository)` runs, the config field
holds the value the specification names (`-r`, else `REPLICAT_REPOSITORY`, else profile, else default section, else
the current directory). -/
theorem backend_selected_by_precedence (sem : Sem V) (hsem : SemOK sem) (cmd : OptCommand) (hcmd : cmd ∈ optCommands)
    (row : OptRow) (hrow : row ∈ optRows) (hearly : row.early = true)
    (s : Simple V) (hb : sem.isStr s.builtin = false) (hv : valid sem row s = true) (hsame : sameKey s = true)
    (htr : flagsTruthy sem row s = true) :
    pipelineAtLoad sem cmd row s.toInputs = spec sem row s := by
  obtain ⟨⟨-, -, -, he⟩, -⟩ := rows_wf row hrow
  have hscope : row.scope ≠ 2 := by
    have := (he hearly).1
    omega
  exact (precedence_main sem hsem cmd (cmds_ok cmd hcmd).1 row (rows_wf row hrow).1 (rows_wfMain row hrow hscope) s hb hv
    hsame htr).2 hearly

/-- The only option that is overridden before the backend is chosen is `repository`, and it exists. -/
theorem early_option_is_repository : (optRows.filter (·.early)).map (·.dest) = ["repository"] := by decide +kernel

/-- **No silent fallback.** If the winning source holds a value its type function does not accept, the run ends
with an error — the next source is not used instead.  (Options whose file keys are all plain; `no-cache` is left to
the correspondence runs.) -/
theorem invalid_winner_rejected (sem : Sem V) (cmd : OptCommand) (hcmd : cmd ∈ optCommands)
    (row : OptRow) (hrow : row ∈ optRows) (hplain : allPlain row = true)
    (s : Simple V) (e : Err) (hspec : spec sem row s = .error e) (hne : e ≠ .model) :
    ∃ e', pipelineFinal sem cmd row s.toInputs = .error e' := by
  exact invalid_winner_rejected_row sem cmd (cmds_ok cmd hcmd).1 row (rows_wf row hrow).1 hplain s e hspec hne

/-- **Command line.** Two different flags that set the same option (`-p`/`-P`, `--no-cache`/`--cache-directory`,
`--config`/`--ignore-config`, `-n`/`-N`) never reach the handler, whatever else is configured. -/
theorem mutually_exclusive_rejected (sem : Sem V) (cmd : OptCommand) (row : OptRow) (hrow : row ∈ optRows)
    (inp : Inputs V) (i j : Nat) (a b : OptCliVar) (ra rb : V)
    (ha : row.cli[i]? = some a) (hb : row.cli[j]? = some b) (hne : a.flag ≠ b.flag)
    (hcli : inp.cli = [(i, ra), (j, rb)]) : ∃ e, pipelineFinal sem cmd row inp = .error e := by
  have hconf := conflicts_of_oneGroup (rows_wf row hrow).2.1 (List.mem_of_getElem? hb) (List.mem_of_getElem? ha) (Ne.symm hne)
  obtain ⟨e, he⟩ := parseCli_conflict sem row i j a b ra rb ha hb hconf
  exact pipeline_error_of_parse sem cmd row inp e (hcli ▸ he)

/-- The flags documented as exclusive although they set different options (`--shared` / `--clone`) are in one
argparse group in every sub-command that has them. -/
theorem documented_exclusive_flags_rejected : ∀ cmd ∈ optCommands, ∀ a ∈ flagsOf cmd, ∀ b ∈ flagsOf cmd,
    (a.flag, b.flag) ∈ documentedExclusive → twoFlags a b = .error .argparse := by
  intro cmd hcmd a ha b hb hab
  have h : ∀ cmd ∈ optCommands, ∀ ab ∈ flagPairs documentedExclusive (flagsOf cmd), conflicts ab.1 ab.2 = true := by
    decide +kernel
  simp only [twoFlags, h cmd hcmd (a, b) (mem_flagPairs.mpr ⟨ha, hb, hab⟩), if_true]

/-- **Configuration file.** For the options all of whose file keys are plain — these are the pairs the README declares
exclusive, `password`/`password-file` and `key`/`key-file` — two different keys of one option in the mapping that
`read_config` returns end the run with an error.  (`no-cache` with `cache-directory` is not declared exclusive in the
file and is accepted: `no_cache_with_cache_directory_not_rejected`.) -/
theorem mutually_exclusive_file_keys_rejected (sem : Sem V) (cmd : OptCommand) (hcmd : cmd ∈ optCommands)
    (row : OptRow) (hrow : row ∈ optRows) (hs : (row.scope == 0 || row.scope == 1) = true) (hplain : allPlain row = true)
    (inp : Inputs V) (i j : Nat) (hij : i ≠ j) (hi : i < row.file.length) (hj : j < row.file.length)
    (hli : (lookup (overlay inp.dflt inp.prof) i).isSome = true) (hlj : (lookup (overlay inp.dflt inp.prof) j).isSome = true) :
    ∃ e, pipelineFinal sem cmd row inp = .error e := by
  have hm := fileMutex_of_two row _ (rows_file_mutex row hrow hs hplain) i j hij hi hj hli hlj
  exact pipeline_error_of_cfg sem cmd (cmds_ok cmd hcmd).1 row (rows_wf row hrow).1 inp
    ⟨.invalidConfig, by simp only [cfgStage, hs, hm, Bool.and_self, if_true]⟩

/-- In the generated table every command-line flag that takes a value has a file key whose validator is the
documented counterpart of the flag's `type` (same function, or `_natural_number`/`_check_natural_number`,
`os.fsencode`/`str.encode`, the two `_read_bytes`), and the environment variable's reader is the counterpart of some
flag's `type`. -/
theorem coercion_table_uniform : ∀ row ∈ optRows,
    (row.file ≠ [] → ∀ cv ∈ row.cli, cv.kind = .typed → ∃ fv ∈ row.file, fv.kind = .plain ∧ equivTy cv.ty fv.ty = true) ∧
    (row.env.all (fun ne => row.cli.any (fun cv => cv.kind == .typed && equivTy cv.ty ne.2)) = true) := by
  decide +kernel

/-- **Uniform coercion.** For an option that is not backend-specific: if the flag's `type` and the key's validator
agree on the raw value `r` (which is what `coercion_table_uniform` pairs up), then `r` yields the same effective value
`x` from the command line, from the profile, from the default section and from the environment. -/
theorem coercion_uniform (sem : Sem V) (hsem : SemOK sem) (cmd : OptCommand) (hcmd : cmd ∈ optCommands)
    (row : OptRow) (hrow : row ∈ optRows) (hscope : row.scope ≠ 2)
    (i j : Nat) (cv : OptCliVar) (fv : OptFileVar) (hcv : row.cli[i]? = some cv) (hck : cv.kind = .typed)
    (hfv : row.file[j]? = some fv) (hfk : fv.kind = .plain)
    (r x b : V) (hb : sem.isStr b = false) (hx : sem.co cv.ty r = some x) (heq : sem.co fv.ty r = sem.co cv.ty r) :
    pipelineFinal sem cmd row (Simple.toInputs { cli := some (i, r), env := none, prof := none, dflt := none, builtin := b }) = .ok x ∧
    pipelineFinal sem cmd row (Simple.toInputs { cli := none, env := none, prof := some (j, r), dflt := none, builtin := b }) = .ok x ∧
    pipelineFinal sem cmd row (Simple.toInputs { cli := none, env := none, prof := none, dflt := some (j, r), builtin := b }) = .ok x ∧
    (∀ n ety, row.env = some (n, ety) → sem.co ety r = sem.co cv.ty r →
      pipelineFinal sem cmd row (Simple.toInputs { cli := none, env := some r, prof := none, dflt := none, builtin := b }) = .ok x) := by
  obtain ⟨-, -, hfile, -⟩ := rows_wfMain row hrow hscope
  -- the validator of a main option never returns a `str`, so `x` survives as a default of the second parse
  have hns : sem.isStr x = false := hsem.nonStr fv.ty r x (hfile fv (List.mem_of_getElem? hfv)).2 (heq.trans hx)
  exact coercion_uniform_row sem cmd (cmds_ok cmd hcmd).1 row (rows_wf row hrow).1 i j cv fv hcv hck hfv hfk r x b hx heq
    (by simp [rawStrOk, isBackend, hscope]) (defaultValue_nonStr sem row x hns)

/-! ## any backend: the schema of backend-specific options -/

/-- Every backend-specific row of the generated table (local / s3 / s3c / b2, the custom backend `vfy` and the
annotated custom backend `vfa`, whose options are declared `str`, `'str'`, `Optional[str]`, `int`, `'int'`, `bool`,
`float`, `Union[int, str]`, `'Optional[int]'`, `'str | None'`, `Any`) is an instance of the schema
`customBackendRow`: one flag, one environment variable, one file key, read through the three extracted type functions —
whatever the parameter's annotation or default. -/
theorem backend_rows_follow_schema : ∀ row ∈ optRows, row.scope = 2 → isCustomInstance row = true :=
  rows_custom

/-- **Precedence, options of ANY backend (partial)** — in particular of a custom backend discovered through the
`replicat.backends` namespace package, with any constructor signature.  Same statement and same two extra hypotheses
(D14, D15) as `precedence_backend_partial`, for every instance of the schema; discharged from the extracted
`Gen.optBackendCliTy = Gen.optBackendEnvTy = Gen.optBackendFileTy = guess_type` (`backend_schema_uniform`): a flag type
that depends on the parameter's annotation makes this stop compiling. -/
theorem precedence_any_backend_partial (sem : Sem V) (cmd : OptCommand) (hcmd : cmd ∈ optCommands)
    (owner dest flag envVar key : String) (bk : Nat)
    (s : Simple V) (hv : valid sem (customBackendRow owner dest flag envVar key bk) s = true)
    (hstr : TypedValuesKept sem (customBackendRow owner dest flag envVar key bk) s)
    (hidem : s.cli = none → ∀ c, specBelowCli sem (customBackendRow owner dest flag envVar key bk) s = .ok c →
      sem.isStr c = true → sem.co .guessType c = some c) :
    pipelineFinal sem cmd (customBackendRow owner dest flag envVar key bk) s.toInputs =
      spec sem (customBackendRow owner dest flag envVar key bk) s := by
  exact (precedence_row sem cmd (cmds_ok cmd hcmd).1 _ wfRow_custom s hv (sameKey_of_short sem _ s (Nat.le_refl _) hv)
    (flagsTruthy_of_allPlain sem _ s rfl) hstr
    (fun hcl c hcv => defaultValue_custom sem owner dest flag envVar key bk c (hidem hcl c hcv))).1

/-- **Uniform coercion, options of ANY backend (partial).**  The same raw text `r` gives the backend constructor the
same value `x = guess_type(r)` whether it came from the command line, the environment, the profile or the default
section — for every instance of the schema, hence independent of how the constructor declares the option.  Extra
hypothesis as in `coercion_uniform_backend_partial` (D15). -/
theorem coercion_uniform_any_backend_partial (sem : Sem V) (cmd : OptCommand) (hcmd : cmd ∈ optCommands)
    (owner dest flag envVar key : String) (bk : Nat)
    (r x b : V) (hr : sem.isStr r = true) (hx : sem.co .guessType r = some x)
    (hidem : sem.isStr x = true → sem.co .guessType x = some x) :
    pipelineFinal sem cmd (customBackendRow owner dest flag envVar key bk)
      (Simple.toInputs { cli := some (0, r), env := none, prof := none, dflt := none, builtin := b }) = .ok x ∧
    pipelineFinal sem cmd (customBackendRow owner dest flag envVar key bk)
      (Simple.toInputs { cli := none, env := some r, prof := none, dflt := none, builtin := b }) = .ok x ∧
    pipelineFinal sem cmd (customBackendRow owner dest flag envVar key bk)
      (Simple.toInputs { cli := none, env := none, prof := some (0, r), dflt := none, builtin := b }) = .ok x ∧
    pipelineFinal sem cmd (customBackendRow owner dest flag envVar key bk)
      (Simple.toInputs { cli := none, env := none, prof := none, dflt := some (0, r), builtin := b }) = .ok x := by
  obtain ⟨h1, h2, h3⟩ := backend_schema_uniform
  obtain ⟨hcli, hprof, hdflt, henv⟩ := coercion_uniform_row sem cmd (cmds_ok cmd hcmd).1
    (customBackendRow owner dest flag envVar key bk) wfRow_custom 0 0 _ _ rfl rfl rfl rfl r x b (by simpa only [h1] using hx) (by rw [h3, h1])
    (by simp [rawStrOk, hr]) (defaultValue_custom sem owner dest flag envVar key bk x hidem)
  exact ⟨hcli, henv envVar _ rfl (by rw [h2, h1]), hprof, hdflt⟩

/-- **Precedence, backend-specific options (partial)** — built-in backends and the custom backend `vfy`.
Extra hypotheses: a typed (non-string) TOML value written in the file is left unchanged by the validator
(`TypedValuesKept`: false of a `guess_type` that raises on a non-string, D14; it holds trivially when the file
holds strings only, `typedValuesKept_of_str`), and when the option is not on the command line `guess_type` maps the
effective value to itself if it is a string (argparse sends a string default through `type` a second time — D15). -/
theorem precedence_backend_partial (sem : Sem V) (cmd : OptCommand) (hcmd : cmd ∈ optCommands)
    (row : OptRow) (hrow : row ∈ optRows) (hscope : row.scope = 2)
    (s : Simple V) (hv : valid sem row s = true) (hstr : TypedValuesKept sem row s)
    (hidem : s.cli = none → ∀ c, specBelowCli sem row s = .ok c → sem.isStr c = true → sem.co .guessType c = some c) :
    pipelineFinal sem cmd row s.toInputs = spec sem row s := by
  obtain ⟨owner, dest, flag, envVar, key, bk, rfl⟩ := custom_of_instance (rows_custom row hrow hscope)
  exact precedence_any_backend_partial sem cmd hcmd owner dest flag envVar key bk s hv hstr hidem

/-- **Uniform coercion, backend-specific options (partial).**  Extra hypothesis: `guess_type` maps the value `x` it
produced to itself when `x` is a string (otherwise the file / environment give `guess_type(guess_type(r))` and the
command line `guess_type(r)` — witness `backend_value_coerced_twice`). -/
theorem coercion_uniform_backend_partial (sem : Sem V) (cmd : OptCommand) (hcmd : cmd ∈ optCommands)
    (row : OptRow) (hrow : row ∈ optRows) (hscope : row.scope = 2)
    (r x b : V) (hr : sem.isStr r = true) (hx : sem.co .guessType r = some x)
    (hidem : sem.isStr x = true → sem.co .guessType x = some x) :
    pipelineFinal sem cmd row (Simple.toInputs { cli := some (0, r), env := none, prof := none, dflt := none, builtin := b }) = .ok x ∧
    pipelineFinal sem cmd row (Simple.toInputs { cli := none, env := some r, prof := none, dflt := none, builtin := b }) = .ok x ∧
    pipelineFinal sem cmd row (Simple.toInputs { cli := none, env := none, prof := some (0, r), dflt := none, builtin := b }) = .ok x ∧
    pipelineFinal sem cmd row (Simple.toInputs { cli := none, env := none, prof := none, dflt := some (0, r), builtin := b }) = .ok x := by
  obtain ⟨owner, dest, flag, envVar, key, bk, rfl⟩ := custom_of_instance (rows_custom row hrow hscope)
  exact coercion_uniform_any_backend_partial sem cmd hcmd owner dest flag envVar key bk r x b hr hx hidem

/-! ## class hierarchies of backends: the environment variable of an option belongs to the class the user names -/

/-- **Own name, never inherited.**  For every backend class `c`, whatever classes it derives from (`ps`, `ps'`: `Local`,
`S3Compatible`, another custom backend, any depth, however THEY are declared) and every option: the environment variable
`config.backend_env_option` computes is the same, and it is `<N>_<OPTION>` upper-cased for a name `N` that `c` declares itself
(class keyword, plain class attribute or class name).  Discharged from the extracted `Gen.optShortNameRule`: a fallback that
can see the `short_name` stored on a base class (`getattr(cls, 'short_name', …)`) or an unrecognised one makes this stop
compiling. -/
theorem env_name_never_inherited (c : BackendClass) (ps ps' : List BackendClass) (opt : String) :
    backendEnvVar optShortNameRule (c :: ps) opt = backendEnvVar optShortNameRule (c :: ps') opt ∧
    ∃ s ∈ ownNames c, backendEnvVar optShortNameRule (c :: ps) opt = some (backendEnvName s opt) := by
  obtain ⟨hown, hjoin⟩ := shortNameRule_own
  obtain ⟨s, hs, h⟩ := shortNameOf_mem_own _ hown c
  exact ⟨by simp [backendEnvVar, h], s, hs, by simp [backendEnvVar, hjoin, h]⟩

/-- **The documented name.**  README ("Custom backends"): `<SHORT NAME>_<OPTION>` in upper case, where the short name is the
class keyword `short_name=` when the class has one and the CLASS NAME otherwise (`PROUDCLOUD_ACCOUNT_ID`) — for a class at
any depth of a hierarchy.  (A class that also sets a plain `short_name` attribute in its body is covered by
`env_name_never_inherited` only.) -/
theorem env_name_documented (c : BackendClass) (ha : c.attrShort = none) (ps : List BackendClass) (opt : String) :
    backendEnvVar optShortNameRule (c :: ps) opt = some (backendEnvName (documentedShortName c) opt) := by
  obtain ⟨hown, hjoin⟩ := shortNameRule_own
  simp [backendEnvVar, hjoin, shortNameOf_documented _ hown c ha ps]

/-- **Precedence for the options of a class in a hierarchy (partial).**  The row of option `dest` of backend class `c` — flag
and file key from the parameter name, environment variable from the class — exists, is the same whatever `c` derives from,
carries an environment variable of `c`'s own, and satisfies the precedence statement of `precedence_any_backend_partial`
(same two hypotheses: D14, D15). -/
theorem precedence_class_backend_partial (sem : Sem V) (cmd : OptCommand) (hcmd : cmd ∈ optCommands)
    (c : BackendClass) (ps : List BackendClass) (owner dest : String) (bk : Nat) :
    ∃ row, classBackendRow optShortNameRule (c :: ps) owner dest bk = some row ∧
      (∀ ps', classBackendRow optShortNameRule (c :: ps') owner dest bk = some row) ∧
      (∃ s ∈ ownNames c, row.env = some (backendEnvName s dest, optBackendEnvTy)) ∧
      ∀ s : Simple V, valid sem row s = true → TypedValuesKept sem row s →
        (s.cli = none → ∀ v, specBelowCli sem row s = .ok v → sem.isStr v = true → sem.co .guessType v = some v) →
        pipelineFinal sem cmd row s.toInputs = spec sem row s := by
  obtain ⟨hsame, n, hn, henv⟩ := env_name_never_inherited c ps ps dest
  refine ⟨customBackendRow owner dest ("--" ++ hyphenated dest) (backendEnvName n dest) (hyphenated dest) bk, ?_, ?_, ?_, ?_⟩
  · simp [classBackendRow, henv]
  · intro ps'
    have h := (env_name_never_inherited c ps' ps dest).1
    simp [classBackendRow, h, henv]
  · exact ⟨n, hn, rfl⟩
  · intro s hv hstr hidem
    exact precedence_any_backend_partial sem cmd hcmd owner dest _ _ _ bk s hv hstr hidem

/-- **The shipped hierarchy.**  Every backend-specific row of the generated table (environment variable taken from the LIVE
parsers) that belongs to a shipped backend — `S3`, which derives from `S3Compatible`, included — carries the variable the
model computes from that backend's class declarations (`Gen.optShippedBackendClasses`, read from the ASTs of
`replicat/backends/*.py`). -/
theorem shipped_backend_env_names : shippedEnvNamesAgree optShortNameRule = true := by
  decide +kernel

/-! ## negation witnesses: the full statement is false of the model (and, replayed by the harness, of the code) -/

/-- **D14.** `port = 9877` (a TOML integer) in the profile of the custom backend: the specification says 9877, the
pipeline ends in the validator's exception (`guess_type(9877)` → AttributeError) — under `toySem`, whose `guess_type` raises
on a non-string; the source's `guess_type` returns 9877. -/
theorem backend_typed_toml_value_crashes :
    cmd0 ∈ optCommands ∧ vfyPort ∈ optRows ∧ vfyPort.scope = 2 ∧
    (let s : Simple TV := { cli := none, env := none, prof := some (0, .int 9877), dflt := none, builtin := .int 9876 }
     spec toySem vfyPort s = .ok (.int 9877) ∧ pipelineFinal toySem cmd0 vfyPort s.toInputs = .error .configValue) := by
  decide +kernel

/-- **D15.** The same text `'1'` (with the quotes) for `key-id` of s3c: from the command line the backend receives the
string `1`, from the environment the integer 1 (`guess_type` applied twice). -/
theorem backend_value_coerced_twice :
    cmd0 ∈ optCommands ∧ s3cKeyId ∈ optRows ∧
    (let viaCli : Simple TV := { cli := some (0, .str "'1'"), env := none, prof := none, dflt := none, builtin := .missing }
     let viaEnv : Simple TV := { cli := none, env := some (.str "'1'"), prof := none, dflt := none, builtin := .missing }
     pipelineFinal toySem cmd0 s3cKeyId viaCli.toInputs = .ok (.str "1") ∧
     spec toySem s3cKeyId viaEnv = .ok (.str "1") ∧
     pipelineFinal toySem cmd0 s3cKeyId viaEnv.toInputs = .ok (.int 1)) := by
  decide +kernel

/-- **D15, built-in default.** A constructor default that is a string which `guess_type` changes (`numeric_label='7'`
of the custom backend) does not reach the backend as written: with no source at all it receives the integer 7. -/
theorem backend_string_default_coerced :
    vfyNumericLabel ∈ optRows ∧
    (let s : Simple TV := { cli := none, env := none, prof := none, dflt := none, builtin := .str "7" }
     spec toySem vfyNumericLabel s = .ok (.str "7") ∧ pipelineFinal toySem cmd0 vfyNumericLabel s.toInputs = .ok (.int 7)) := by
  decide +kernel

/-- **Profile loses to the default section.** `cache-directory = "/c/prof"` in the selected profile and
`no-cache = true` in the default section (all values valid): the specification says `/c/prof`, the handler gets `None`. -/
theorem profile_cache_directory_loses_to_default_no_cache :
    cacheDirectory ∈ optRows ∧
    (let s : Simple TV := { cli := none, env := none, prof := some (0, .str "/c/prof"), dflt := some (1, .tru), builtin := .path "~/.cache" }
     valid toySem cacheDirectory s = true ∧ spec toySem cacheDirectory s = .ok (.path "/c/prof") ∧
     pipelineFinal toySem cmd0 cacheDirectory s.toInputs = .ok .none) := by
  decide +kernel

/-- **Not rejected (remark, not counted as a defect).** `no-cache = true` and `cache-directory` in ONE section of the file
(on the command line the two flags are a mutual-exclusion group; the README does not declare the file keys exclusive):
the run goes on, `no-cache` wins. -/
theorem no_cache_with_cache_directory_not_rejected :
    (let inp : Inputs TV := { cli := [], env := none, prof := [(0, .str "/c/prof"), (1, .tru)], dflt := [], builtin := .path "~/.cache" }
     pipelineFinal toySem cmd0 cacheDirectory inp = .ok .none) := by
  decide +kernel

/-- **Rejected instead of overridden.** `key = "{}"` in the default section and `key-file = "k.json"` in the selected
profile: the specification says the profile wins, the run ends with `InvalidConfig` (the exclusivity check runs on the
merged mapping). -/
theorem key_file_in_profile_rejected_because_of_default_key :
    keyRow ∈ optRows ∧
    (let s : Simple TV := { cli := none, env := none, prof := some (1, .str "k.json"), dflt := some (0, .str "{}"), builtin := .none }
     valid toySem keyRow s = true ∧ spec toySem keyRow s = .ok (.bytes "contents of k.json") ∧
     pipelineFinal toySem cmd0 keyRow s.toInputs = .error .invalidConfig) := by
  decide +kernel

/-! ## non-vacuity -/

example : SemOK toySem := by
  refine ⟨?_, rfl⟩
  intro ty v w h1 h2
  cases ty <;> cases h1
  all_goals cases v <;> cases h2
  all_goals rfl

/-- `precedence` applies to real rows, with inputs in which several sources are set -/
example : ∃ row ∈ optRows, row.dest = "concurrent" ∧ row.scope ≠ 2 ∧ row.file.length ≤ 1 := by decide +kernel

example :
    (let s : Simple TV := { cli := none, env := none, prof := some (0, .str "/c/prof"), dflt := some (0, .str "/c/dflt"), builtin := .path "~/.cache" }
     valid toySem cacheDirectory s = true ∧ sameKey s = true ∧ flagsTruthy toySem cacheDirectory s = true ∧
     pipelineFinal toySem cmd0 cacheDirectory s.toInputs = .ok (.path "/c/prof")) := by
  decide +kernel

/-- the hypotheses of `precedence_backend_partial` are satisfiable (environment beats profile beats default section) -/
example :
    (let s : Simple TV := { cli := none, env := some (.str "from-env"), prof := some (0, .str "from-profile"), dflt := some (0, .str "x"), builtin := .missing }
     valid toySem s3cKeyId s = true ∧ fileRawsStr toySem s3cKeyId s = true ∧
     pipelineFinal toySem cmd0 s3cKeyId s.toInputs = .ok (.str "from-env")) := by
  decide +kernel

/-- the documented exclusive pair exists in some sub-command, and some option has two flags -/
example : (∃ cmd ∈ optCommands, ∃ a ∈ flagsOf cmd, ∃ b ∈ flagsOf cmd, (a.flag, b.flag) ∈ documentedExclusive) ∧
    (∃ row ∈ optRows, ∃ a ∈ row.cli, ∃ b ∈ row.cli, a.flag ≠ b.flag) ∧
    (∃ row ∈ optRows, (row.scope == 0 || row.scope == 1) = true ∧ allPlain row = true ∧ row.file.length = 2) := by
  have h : ∃ cmd ∈ optCommands, ∃ ab ∈ flagPairs documentedExclusive (flagsOf cmd), True := by
    decide +kernel
  obtain ⟨cmd, hcmd, ⟨a, b⟩, hab, -⟩ := h
  obtain ⟨ha, hb, hp⟩ := mem_flagPairs.mp hab
  exact ⟨⟨cmd, hcmd, a, ha, b, hb, hp⟩, by decide +kernel, by decide +kernel⟩

/-- the schema theorems apply to the README's custom backend: the text `9877` for `--account-id` /
`PROUDCLOUD_ACCOUNT_ID` / `account-id` reaches the constructor as the integer 9877 from each of the four sources, and
the table does contain annotated probe options -/
example :
    (let viaCli : Simple TV := { cli := some (0, .str "9877"), env := none, prof := none, dflt := none, builtin := .missing }
     let viaEnv : Simple TV := { cli := none, env := some (.str "9877"), prof := none, dflt := none, builtin := .missing }
     let viaProf : Simple TV := { cli := none, env := none, prof := some (0, .str "9877"), dflt := none, builtin := .missing }
     let viaDflt : Simple TV := { cli := none, env := none, prof := none, dflt := some (0, .str "9877"), builtin := .missing }
     pipelineFinal toySem cmd0 pcAccountId viaCli.toInputs = .ok (.int 9877) ∧
     pipelineFinal toySem cmd0 pcAccountId viaEnv.toInputs = .ok (.int 9877) ∧
     pipelineFinal toySem cmd0 pcAccountId viaProf.toInputs = .ok (.int 9877) ∧
     pipelineFinal toySem cmd0 pcAccountId viaDflt.toInputs = .ok (.int 9877)) ∧
    optBackendAnnotatedProbes ≥ 10 ∧ (optRows.filter (fun r => r.owner == "vfa")).length ≥ 10 := by
  decide +kernel

/-- class hierarchies: the shipped table has a two-level chain with differing names (`S3` < `S3Compatible` [`S3C`]) and rows
for it; the README's `ProudCloud` derived from `Local` reads `PROUDCLOUD_ACCOUNT_ID`; and the model IS sensitive to the rule —
under a fallback that sees the parent's stored attribute the same class would read `LOCAL_ACCOUNT_ID`, a keyword-less class
derived from `S3Compatible` would read `S3C_…` -/
example :
    (∃ mc ∈ optShippedBackendClasses, mc.2.length ≥ 2 ∧ ∃ row ∈ optRows, row.scope = 2 ∧ row.owner = mc.1 ∧
      backendEnvVar optShortNameRule (mc.2.map classOfDecl) row.dest ≠
        backendEnvVar optShortNameRule ((mc.2.map classOfDecl).drop 1) row.dest) ∧
    backendEnvVar optShortNameRule [⟨"ProudCloud", none, none⟩, ⟨"Local", none, none⟩] "account_id" = some "PROUDCLOUD_ACCOUNT_ID" ∧
    backendEnvVar .inheritedAttr [⟨"ProudCloud", none, none⟩, ⟨"Local", none, none⟩] "account_id" = some "LOCAL_ACCOUNT_ID" ∧
    backendEnvVar .inheritedAttr [⟨"Cold", none, none⟩, ⟨"Mid", none, none⟩, ⟨"S3Compatible", some "S3C", none⟩] "key_id" = some "S3C_KEY_ID" ∧
    backendEnvVar .inheritedAttr [⟨"Cold", some "cs", none⟩, ⟨"S3Compatible", some "S3C", none⟩] "key_id" = some "CS_KEY_ID" ∧
    (classBackendRow optShortNameRule [⟨"Cold", none, none⟩, ⟨"B2", none, some "bb"⟩] "cold" "max_conn" 4).map (fun r => (r.cli.map (·.flag), r.env.map (·.1), r.file.map (·.key)))
      = some (["--max-conn"], some "COLD_MAX_CONN", ["max-conn"]) := by
  decide +kernel

/-- every sub-command and at least 50 option rows are covered -/
example : optCommands.length ≥ 13 ∧ optRows.length ≥ 50 ∧ (optRows.filter (·.scope == 2)).length ≥ 15 := by decide +kernel

end Replicat.C19
