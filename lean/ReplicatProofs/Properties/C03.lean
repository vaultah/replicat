import ReplicatProofs.Lemmas.RepoCrashPlans
import ReplicatProofs.Lemmas.SnapshotPlan
import ReplicatProofs.Lemmas.LocalUpload
import ReplicatProofs.Lemmas.LocalDuel
/-!
# C03 — interrupted commands leave a consistent, usable repository   (PARTIAL: see the end of this comment)

Objects: the mutation plans of `Repo.lean` (`planOf`: stages of backend mutations; inside a stage any completion order —
`asyncio.gather` —, a stage starts only when the previous one is complete), `acceptsPrefix` (the traces a killed process can
have produced: every prefix of every linearisation), `applyMuts` (the object map left behind); and `LocalUpload.lean` (the local
backend's upload as file-system steps).

`Consistent s` = WF ∧ every listed snapshot has every chunk of its table (∧ its files need only chunks of that table).
`OpOK` = side conditions of the command (a snapshot's files need chunks of its own stream; an unencrypted repository has one family).

PARTIAL: what is proved is about process death between (and, for the local backend, inside) backend calls and about one permanent
failure of a call.  Power loss below `rename` / missing `fsync` (torn or lost directory entries, data not yet durable) and the
server-side atomicity of S3 / B2 `PUT` are OS / service behaviour the model does not exhibit.
-/
namespace Replicat.C03
open Replicat Replicat.Repo Replicat.Crash Replicat.P18 List

/-- the regenerated order constraints the plans encode, and the shape of the local upload -/
theorem plan_shape_holds :
    Gen.snapshotAfterWorkers = true ∧ Gen.crashAbortOnWorkerFailure = true ∧ Gen.deleteSnapshotsFirst = true ∧
    Gen.cleanSingleStage = true ∧ Gen.crashLocalTempSuffix = Gen.localListExcludes ∧ Gen.localTempSameDir = true ∧
    Gen.localUploadShape = true ∧ Gen.crashSectionOk = true := by decide

/-- **Crash consistency.**  Kill the process at any instant of snapshot / delete / clean — after any prefix `tr` of any
linearisation of the command's mutations —: the repository left behind is consistent; in particular every VISIBLE snapshot is
complete. -/
theorem crash_consistent (enc : Bool) (s : Store) (op : Op) (tr : List Mut) (hs : Consistent s) (hop : OpOK enc s op)
    (hacc : acceptsPrefix (planOf enc s op) tr = true) : Consistent (applyMuts s tr) := by
  cases op with
  | snapshot u stream files ts sid => exact snapshot_crash u stream files ts sid s tr hs hop.2 hacc
  | delete u sids => exact delete_crash enc u sids s tr hs hacc
  | clean u => exact clean_crash enc u s tr hs hop.1.snapFam hacc

/-- an unencrypted repository still has one family after a crash -/
theorem famOK_after_crash (enc : Bool) (s : Store) (op : Op) (tr : List Mut) (hf : FamOK enc (userOf op).fam s)
    (hacc : acceptsPrefix (planOf enc s op) tr = true) : FamOK enc (userOf op).fam (applyMuts s tr) :=
  famOK_applyMuts hf (accepts_forall hacc fun _ hst _ hm => mem_planOf hst hm)

/-- **Clean after a crash.**  From the state an interrupted command left, `clean` by a member of the family succeeds, removes
every chunk the interrupted command left unreferenced and nothing else of the family: the chunk objects of the caller's family are
EXACTLY the chunks referenced by its visible snapshots; the repository stays consistent. -/
theorem clean_after_crash (enc : Bool) (s : Store) (op : Op) (tr : List Mut) (v : User) (hs : Consistent s) (hop : OpOK enc s op)
    (hacc : acceptsPrefix (planOf enc s op) tr = true) (hv : enc = false → v.fam = (userOf op).fam) :
    ∃ s', clean enc v (applyMuts s tr) = .ok s' ∧ Exact v.fam s' ∧ Consistent s' := by
  apply clean_exact enc v _ (crash_consistent enc s op tr hs hop hacc)
  intro he
  rw [hv he]
  exact famOK_after_crash enc s op tr hop.1 hacc he

/-- **Usable after a crash.**  On the state an interrupted command left, loading / `list-snapshots` / `list-files` / `restore`
(any filters) / `clean` do not fail, and `restore` delivers every selected file (all needed chunks are present); a new `snapshot`
is defined on every state. -/
theorem usable_after_crash (enc : Bool) (s : Store) (op : Op) (tr : List Mut) (v : User) (sre fre : Nat → Bool)
    (hs : Consistent s) (hop : OpOK enc s op) (hacc : acceptsPrefix (planOf enc s op) tr = true)
    (hv : enc = false → v.fam = (userOf op).fam) :
    let s' := applyMuts s tr
    loadSnapshots enc v sre s' = .ok (loadedPure enc v sre s') ∧
    (∃ rows, listSnapshots enc v sre s' = .ok rows) ∧
    (∃ rows, listFiles enc v sre fre s' = .ok rows) ∧
    restore enc v sre fre s' = .ok (selectFiles fre (readableNewestFirst (loadedPure enc v sre s'))) ∧
    (∃ s'', clean enc v s' = .ok s'') := by
  have hc := crash_consistent enc s op tr hs hop hacc
  have hf : FamOK enc v.fam (applyMuts s tr) := by
    intro he; rw [hv he]; exact famOK_after_crash enc s op tr hop.1 hacc he
  have hl := loadSnapshots_wf enc v sre _ hc.1
  refine ⟨hl, ?_, ?_, restore_ok enc v sre fre _ hc hf.snapFam, ?_⟩
  · unfold listSnapshots; rw [hl]; exact ⟨_, rfl⟩
  · unfold listFiles; rw [hl]; exact ⟨_, rfl⟩
  · obtain ⟨s'', h, _⟩ := clean_exact enc v _ hc hf
    exact ⟨s'', h⟩

/-- **One permanent failure.**  A backend call `m` of the command fails for good: calls already in flight in the same stage may
still complete in any order, later stages never start.  The repository is consistent; nothing of a later stage happened (for
delete: no chunk is removed while a snapshot delete failed); and a snapshot whose chunk upload failed stays invisible. -/
theorem fail_stop_consistent (enc : Bool) (s : Store) (op : Op) (tr : List Mut) (m : Mut) (hs : Consistent s) (hop : OpOK enc s op)
    (hacc : acceptsPrefix (planOf enc s op) tr = true) (hfail : m ∉ tr) :
    Consistent (applyMuts s tr) ∧
    (∀ stage rest, planOf enc s op = stage :: rest → m ∈ stage → ∀ x ∈ tr, x ∈ stage) ∧
    (∀ u stream files ts sid, op = .snapshot u stream files ts sid → m ∈ chunkStage u stream s →
      get (applyMuts s tr) (.snap u.fam sid) = get s (.snap u.fam sid)) := by
  refine ⟨crash_consistent enc s op tr hs hop hacc, ?_, ?_⟩
  · intro stage rest hpl hm
    rw [hpl] at hacc
    exact stuck_in_stage stage rest tr m hm hfail hacc
  · intro u stream files ts sid hop' hm
    subst hop'
    simp only [planOf, snapshotPlan_eq] at hacc
    have hin := stuck_in_stage _ _ tr m hm hfail hacc
    rw [get_applyMuts_puts s tr (snapPayload u stream files ts sid) (fun x hx => (mem_chunkStage (hin x hx)).elim fun _ hc => ⟨_, hc⟩)]
    exact if_neg (fun hput => snapPut_not_chunkStage u stream files ts sid s (hin _ hput))

/-- the plans of the destructive commands ARE the commands: running all stages in order is `delete_snapshots` / `clean` -/
theorem destructive_plan_runs_command (enc : Bool) (s : Store) (u : User) (sids : List Nat) :
    applyMuts s (planOf enc s (.delete u sids)).flatten = step enc s (.delete u sids) ∧
    applyMuts s (planOf enc s (.clean u)).flatten = step enc s (.clean u) := by
  constructor
  · simp only [planOf, deleteMutPlan, step, deleteSnapshots]
    cases deletePlan enc u sids s with
    | error e => rfl
    | ok p => simp only [flatten_cons, flatten_nil, append_nil, applyMuts_append, applyMuts_dels]
  · simp only [planOf, cleanMutPlan, step, clean]
    cases cleanPlan enc u s with
    | error e => rfl
    | ok ns => simp only [flatten_cons, flatten_nil, append_nil, applyMuts_dels]

/-- the plan of `snapshot` IS the command as well: running the chunk stage and then the snapshot stage is `snapshot`
(so every theorem above about prefixes of the plan is a theorem about interrupted executions of the modelled command) -/
theorem snapshot_plan_runs_command (enc : Bool) (s : Store) (u : User) (stream : List Content) (files : List FileRec) (ts sid : Nat) :
    applyMuts s (planOf enc s (.snapshot u stream files ts sid)).flatten = step enc s (.snapshot u stream files ts sid) := by
  simp only [planOf, step]
  exact snapshotPlan_runs u stream files ts sid s

/-! ## the local backend: upload = mkdir -p; mktemp *.tmp; write…; rename -/
open Replicat.LocalUpload in
/-- **Local uploads are atomic for every observer.**  After ANY prefix of the file-system steps of an upload (the payload
written in arbitrary pieces) what `list_files` / `exists` / `download` show for names that are not temporaries is the old map or
the new map — never a partial object; the new map appears exactly with the rename. -/
theorem upload_atomic (fs : FS) (dir name tmp : Path) (pieces : List Bytes) (htmp : isTmp tmp = true) (hname : isTmp name = false)
    (k : Nat) :
    (∀ n, vget (run fs ((uploadSteps dir name tmp pieces).take k)) n = vget fs n) ∨
    (∀ n, vget (run fs ((uploadSteps dir name tmp pieces).take k)) n = vget (putObj fs name pieces.flatten) n) := by
  unfold uploadSteps
  by_cases hk : k ≤ (prepSteps dir tmp pieces).length
  · left
    intro n
    rw [take_append_of_le_length hk]
    exact vget_run_tmpOnly fs tmp htmp _ (fun st hst => prepSteps_tmpOnly dir tmp pieces st (mem_of_mem_take hst)) n
  · right
    intro n
    rw [take_of_length_le (by simp only [length_append, length_cons, length_nil]; omega), run_append]
    simp only [LocalUpload.run, foldl_cons, foldl_nil]
    have hl := lookup_prep fs dir tmp pieces
    simp only [LocalUpload.run] at hl
    rw [vget_rename _ tmp name pieces.flatten htmp hname hl n]
    exact vget_putObj_congr fs _ name _ (fun n' => vget_run_tmpOnly fs tmp htmp _ (prepSteps_tmpOnly dir tmp pieces) n') n

open Replicat.LocalUpload in
/-- a failed attempt (any prefix of the preparation, then the cleanup `unlink`) is invisible, and temporaries are never listed;
`exists` / `download` / `list_files` of non-temporary names are functions of the visible map -/
theorem failed_attempt_invisible (fs : FS) (dir tmp : Path) (pieces : List Bytes) (htmp : isTmp tmp = true) (k : Nat) :
    (∀ n, vget (run fs (failedAttempt dir tmp pieces k)) n = vget fs n) ∧
    (∀ (fs' : FS) (pre : String) (n : Path), n ∈ listFiles fs' pre ↔ (n.startsWith pre = true ∧ (vget fs' n).isSome = true)) ∧
    (∀ (fs' : FS) (n : Path), isTmp n = false → existsFile fs' n = (vget fs' n).isSome ∧ download fs' n = vget fs' n) := by
  refine ⟨?_, ?_, ?_⟩
  · intro n
    apply vget_run_tmpOnly fs tmp htmp
    intro st hst
    unfold failedAttempt at hst
    rcases mem_append.mp hst with h | h
    · exact prepSteps_tmpOnly dir tmp pieces st (mem_of_mem_take h)
    · simp only [mem_singleton] at h; subst h; rfl
  · intro fs' pre n
    unfold LocalUpload.listFiles vget
    rw [mem_filter, ← lookup_isSome_iff]
    by_cases hn : isTmp n = true
    · simp [hn]
    · simp only [hn, Bool.and_eq_true, Bool.not_eq_true', Bool.false_eq_true, if_false]
      constructor
      · rintro ⟨h1, h2, _⟩; exact ⟨h2, h1⟩
      · rintro ⟨h1, h2⟩; exact ⟨h2, h1, trivial⟩
  · intro fs' n hn
    unfold existsFile download vget
    simp [hn]

/-! ## two uploads of ONE object in flight at the same time (a chunk that repeats in the stream, concurrency > 1) -/
open Replicat.LocalUpload in
/-- **Concurrent uploads of one object are atomic for every observer — when their temporaries differ.**  Two attempts for the
same name, their file-system steps interleaved by ANY schedule, the process killed after ANY of them (every prefix of a schedule is
a schedule): what `list_files` / `exists` / `download` show is the old map, or the old map with the complete payload of worker 0,
or with the complete payload of worker 1 — never a partial object, never a mixture. -/
theorem concurrent_uploads_atomic (fs : FS) (c0 c1 : UpCfg) (hname : c1.name = c0.name) (hnt : isTmp c0.name = false)
    (ht0 : isTmp c0.tmp = true) (ht1 : isTmp c1.tmp = true) (hne : c0.tmp ≠ c1.tmp) (sched : List Bool) :
    (∀ n, vget (duelRun c0 c1 fs sched).fs n = vget fs n) ∨
    (∀ n, vget (duelRun c0 c1 fs sched).fs n = vget (putObj fs c0.name c0.pieces.flatten) n) ∨
    (∀ n, vget (duelRun c0 c1 fs sched).fs n = vget (putObj fs c0.name c1.pieces.flatten) n) := by
  obtain ⟨hv, _, _⟩ := duelRun_inv fs c0.name c0 c1 rfl hname hnt ht0 ht1 hne sched
  rcases hv with hv | ⟨d, hd, hv⟩
  · exact Or.inl hv
  · simp only [mem_cons, not_mem_nil, or_false] at hd
    rcases hd with rfl | rfl
    · exact Or.inr (Or.inl hv)
    · exact Or.inr (Or.inr hv)

open Replicat.LocalUpload in
/-- **… and the code's temporaries do differ.**  `_destination_temp` as it stands (regenerated: `Gen.localTempPrivate`,
`Gen.localTempPerCall`) takes the temporary of every call from a unique-name generator; two uploads in flight got two different
paths `tok0 ≠ tok1` from it (the generator's contract), both with the suffix the listing skips: the conclusion of
`concurrent_uploads_atomic` holds for the code's choice of temporaries.  With a temporary computed from the destination alone this
theorem does not compile (and `shared_temporary_breaks_atomicity` is what happens). -/
theorem code_uploads_atomic (fs : FS) (dir name tok0 tok1 : Path) (p0 p1 : List Bytes) (hnt : isTmp name = false)
    (ht0 : isTmp tok0 = true) (ht1 : isTmp tok1 = true) (hne : tok0 ≠ tok1) (sched : List Bool) :
    Gen.localTempPerCall = true ∧
    let c0 : UpCfg := ⟨dir, name, codeTemp name tok0, p0⟩
    let c1 : UpCfg := ⟨dir, name, codeTemp name tok1, p1⟩
    ((∀ n, vget (duelRun c0 c1 fs sched).fs n = vget fs n) ∨
     (∀ n, vget (duelRun c0 c1 fs sched).fs n = vget (putObj fs name p0.flatten) n) ∨
     (∀ n, vget (duelRun c0 c1 fs sched).fs n = vget (putObj fs name p1.flatten) n)) := by
  have hpriv : Gen.localTempPrivate = true := by decide
  have hc : ∀ tok, codeTemp name tok = tok := by intro tok; simp [codeTemp, tempFor, hpriv]
  refine ⟨by decide, ?_⟩
  simp only [hc]
  exact concurrent_uploads_atomic fs ⟨dir, name, tok0, p0⟩ ⟨dir, name, tok1, p1⟩ rfl hnt ht0 ht1 hne sched

open Replicat.LocalUpload in
/-- **A shared temporary breaks it.**  With the temporary computed from the destination alone (`tempFor false`) both uploads write
through one file: worker 0 has written its payload, worker 1 opens (truncates) the same temporary, worker 0 renames it — the
object every observer now sees under the final name is empty: neither the old state (absent) nor either payload. -/
theorem shared_temporary_breaks_atomicity :
    ∃ (fs : FS) (c0 c1 : UpCfg) (sched : List Bool),
      c1.name = c0.name ∧ isTmp c0.name = false ∧ c0.tmp = tempFor false c0.name "t0" ∧ c1.tmp = tempFor false c1.name "t1" ∧
      isTmp c0.tmp = true ∧
      vget (duelRun c0 c1 fs sched).fs c0.name ≠ vget fs c0.name ∧
      vget (duelRun c0 c1 fs sched).fs c0.name ≠ vget (putObj fs c0.name c0.pieces.flatten) c0.name ∧
      vget (duelRun c0 c1 fs sched).fs c0.name ≠ vget (putObj fs c0.name c1.pieces.flatten) c0.name :=
  ⟨⟨[], []⟩, ⟨"data", "data/ab", "data/ab.tmp", [[1, 2]]⟩, ⟨"data", "data/ab", "data/ab.tmp", [[1, 2]]⟩,
    [false, false, false, true, true, false], by decide +kernel⟩

open Replicat.LocalUpload in
/-- the two-worker machine runs the SAME steps as `upload_atomic`'s step list: worker 0 scheduled alone for `k` steps leaves
exactly the file system after the first `k` steps of `uploadSteps` -/
theorem duel_solo_is_upload (fs : FS) (c0 c1 : UpCfg) (k : Nat) :
    (duelRun c0 c1 fs (replicate k false)).fs = run fs ((uploadSteps c0.dir c0.name c0.tmp c0.pieces).take k) := by
  unfold duelRun
  rw [solo_rest c0 c1 .init k .init fs, rest_init]

/-- a consistent repository, a snapshot command, and an accepted crash trace (one chunk uploaded, the process dies) -/
example :
    let s : Store := [(.config, .config)]
    acceptsPrefix (planOf true s (.snapshot ⟨1, 1⟩ [3, 4] [⟨1, 1, [3, 4]⟩] 5 7)) [.put (.chunk 1 4) (.chunk 1 4)] = true := by decide

/-- the order constraint is needed: with the snapshot object first (a trace the plan REJECTS) a visible snapshot lacks its chunk -/
example :
    let s : Store := [(.config, .config)]
    let snapPut := Mut.put (.snap 1 7) (.snap 1 7 ⟨1, 5, [3, 4], [⟨1, 1, [3, 4]⟩]⟩)
    acceptsPrefix (planOf true s (.snapshot ⟨1, 1⟩ [3, 4] [⟨1, 1, [3, 4]⟩] 5 7)) [snapPut] = false ∧
    get (applyMuts s [snapPut]) (.chunk 1 3) = none := by decide

/-- delete: chunk before snapshot is rejected, and would leave a visible snapshot without its chunk -/
example :
    let s : Store := [(.snap 1 7, .snap 1 7 ⟨1, 5, [3], []⟩), (.chunk 1 3, .chunk 1 3)]
    acceptsPrefix (planOf true s (.delete ⟨1, 1⟩ [7])) [.del (.chunk 1 3)] = false ∧
    acceptsPrefix (planOf true s (.delete ⟨1, 1⟩ [7])) [.del (.snap 1 7), .del (.chunk 1 3)] = true := by decide

open Replicat.LocalUpload in
/-- local upload: after the temporary is fully written but not renamed the old object is still what a reader gets -/
example :
    let fs : FS := ⟨[("data/ab", [1])], []⟩
    vget (LocalUpload.run fs ((uploadSteps "data" "data/ab" "data/ab_x.tmp" [[2], [3]]).take 4)) "data/ab" = some [1] ∧
    vget (LocalUpload.run fs (uploadSteps "data" "data/ab" "data/ab_x.tmp" [[2], [3]])) "data/ab" = some [2, 3] ∧
    LocalUpload.listFiles (LocalUpload.run fs ((uploadSteps "data" "data/ab" "data/ab_x.tmp" [[2], [3]]).take 4)) "data/" = ["data/ab"] := by
  decide +kernel

open Replicat.LocalUpload in
/-- two uploads with private temporaries, interleaved, killed after worker 1 truncated ITS temporary and worker 0 renamed: the
complete payload of worker 0 is what a reader gets (the hypotheses of `concurrent_uploads_atomic` are satisfiable) -/
example :
    let c0 : UpCfg := ⟨"data", "data/ab", "data/ab_x0.tmp", [[1, 2]]⟩
    let c1 : UpCfg := ⟨"data", "data/ab", "data/ab_x1.tmp", [[1, 2]]⟩
    isTmp c0.tmp = true ∧ isTmp c1.tmp = true ∧ isTmp c0.name = false ∧ c0.tmp ≠ c1.tmp ∧
    vget (duelRun c0 c1 ⟨[], []⟩ [false, false, false, true, true, false]).fs "data/ab" = some [1, 2] := by
  decide +kernel

end Replicat.C03
