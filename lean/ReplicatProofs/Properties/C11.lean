import ReplicatModel.Clmul
import ReplicatProofs.Properties.C10
/-!
# C11 — chunk boundaries are content-defined and re-synchronise after edits

Every statement holds for every hash function `h` (hence every 16-byte key), every valid parameter pair and every
segmentation of the streams into pieces.

`greedyFull p h S` is the segmentation-independent chunking of `S` by main-rule cuts while at least `2·max` bytes
remain; `chunkAll p h pieces` is the real adapter loop.  "Tail zone" = the last `2·max` bytes of a stream, where the
adapter's result depends on how the stream was split into pieces (C10) and nothing is claimed.

What is **not** proved here, because it is not a universally true statement (see the witnesses at the end):
* "boundaries re-synchronise within a bounded distance" — proved is the conditional part (once one boundary
  coincides all later ones do, `suffix_sync`; everything far enough before an edit is untouched,
  `edit_prefix_stable`); the existence of a first common boundary within `D = c·max` is a probabilistic statement
  about high-entropy data and is checked statistically on the implementation (`harness/props/c11.py`);
* "different keys lead to different boundaries" — proved is that the key acts only through the hash of 8-byte
  windows (`key_only_through_hash`) and that the hash does matter (`hash_matters_witness`); that random distinct keys
  cut random data differently is checked statistically on the implementation.
-/
namespace Replicat.C11
open Replicat Replicat.Sync

/-- **cut_local.** A main-rule cut is a function of the first `ceil4 max` bytes of the buffer only: truncating the
buffer to any `n ≥ ceil4 max` bytes does not change it (also not whether a window load leaves the buffer). -/
theorem cut_local (p : CParams) (h : Hash) (s : Bytes) (n : Nat) (hn : n ≤ s.length) (hl : ceil4 p.max ≤ n) :
    mainCut p h (s.take n) = mainCut p h s :=
  mainCut_take h s hl

/-- Two buffers that agree on their first `ceil4 max` bytes are cut at the same position, whatever follows. -/
theorem cut_local_congr (p : CParams) (h : Hash) (s t : Bytes)
    (hs : ceil4 p.max ≤ s.length) (ht : ceil4 p.max ≤ t.length)
    (he : s.take (ceil4 p.max) = t.take (ceil4 p.max)) : mainCut p h s = mainCut p h t := by
  rw [← mainCut_take h s (Nat.le_refl _), ← mainCut_take h t (Nat.le_refl _), he]

/-- `greedyFull` is total for valid parameters, is a prefix of the stream, stops only inside the tail zone, and all
its chunks are within bounds and aligned. -/
theorem greedy_defined (p : CParams) (hv : p.valid) (h : Hash) (s : Bytes) :
    ∃ g, greedyFull p h s = some g ∧ g.flatten ++ s.drop g.flatten.length = s ∧
      s.length < g.flatten.length + 2 * p.max ∧ ∀ c ∈ g, C10.Good p c := by
  obtain ⟨g, hg⟩ := Option.isSome_iff_exists.mp (greedy_isSome hv h _ s)
  obtain ⟨e1, e3⟩ := greedyFull_lossless hv hg
  exact ⟨g, hg, e1, e3, greedyFull_good hv hg⟩

/-- **chunk_split_indep.** For every segmentation of a stream the adapter's result starts with the greedy chunking of
the stream, and that prefix covers every chunk that starts at least `2·max` before the end. -/
theorem chunk_split_indep (p : CParams) (hv : p.valid) (h : Hash) (pieces : List Bytes) (cs : List Bytes)
    (hc : chunkAll p h pieces = some cs) :
    ∃ g tail, greedyFull p h pieces.flatten = some g ∧ cs = g ++ tail ∧
      pieces.flatten.length < g.flatten.length + 2 * p.max :=
  C10.chunk_split_indep p hv h pieces cs hc

/-- Two segmentations of one stream produce the same chunks up to the tail zone. -/
theorem chunk_split_indep_pair (p : CParams) (hv : p.valid) (h : Hash) (pieces pieces' : List Bytes)
    (cs cs' : List Bytes) (hs : pieces.flatten = pieces'.flatten)
    (hc : chunkAll p h pieces = some cs) (hc' : chunkAll p h pieces' = some cs') :
    ∃ g tail tail', cs = g ++ tail ∧ cs' = g ++ tail' ∧ pieces.flatten.length < g.flatten.length + 2 * p.max :=
  (chunkAll_greedy hv hc).pair hv (hs ▸ chunkAll_greedy hv hc')

/-- **adapter_takes_blocks_whole.** The code's loop appends every input block to its buffer whole, exactly like the model's
`feed`: the extractor finds no integer constant that `gclmulchunker.__call__` (or anything it hands its blocks to) compares
with, slices by or steps over a value derived from the input blocks (`Gen.adapterBlockThresholds = []`), so what reaches the
buffer (`adapterPieces`) are the caller's blocks.  An edit that makes the loop treat blocks by size (a threshold constant)
makes this stop compiling; the harness then searches with blocks below / at / above / several times every size constant. -/
theorem adapter_takes_blocks_whole (blocks : List Bytes) : adapterPieces blocks = blocks := rfl

/-- Every block threshold the extractor recognises is one of the size constants (`Gen.sizeConstants`: all integer constants of
adapters.py, repository.py, adapters.cpp) from which the harness derives the block sizes of its generated streams. -/
theorem block_thresholds_are_generated : ∀ t ∈ Gen.adapterBlockThresholds, t ∈ Gen.sizeConstants := by decide

/-- **block_resplit_indep.** Blocks of any size: cutting every block longer than `t` into pieces of `t` bytes (for any `t`, and
again for any list of thresholds) before the loop — with finality decided per *piece* by the look-ahead, as `feed` does —
changes nothing up to the tail zone.  In particular a stream handed over as ONE block is cut like the same stream in small
blocks. -/
theorem block_resplit_indep (p : CParams) (hv : p.valid) (h : Hash) (blocks : List Bytes) (ts : List Nat) (cs cs' : List Bytes)
    (hc : chunkAll p h blocks = some cs) (hc' : chunkAll p h (ts.foldl (fun ps t => resplit t ps) blocks) = some cs') :
    ∃ g tail tail', cs = g ++ tail ∧ cs' = g ++ tail' ∧ blocks.flatten.length < g.flatten.length + 2 * p.max :=
  chunk_split_indep_pair p hv h blocks _ cs cs' (foldl_resplit_flatten ts blocks).symm hc hc'

/-- Why the finality flag must belong to the *piece*: feeding the single 56-byte block below in pieces of 22 bytes while passing
the block's finality ("no further block") to `next_cut` after every piece (`feedBlockFinal`) applies the end-of-stream rule at
the piece border: the third chunk (start 8, far outside the tail zone) differs from the adapter's, and a boundary is forced at
the block-relative offset 22 — not a multiple of the alignment, contradicting `boundaries_aligned`.  Correct piecewise feeding
(`resplit`) gives the adapter's result. -/
theorem block_final_per_piece_witness :
    let p : CParams := ⟨4, 8⟩
    let hh : Hash := fun w => (w.headD 0).toNat
    let X : Bytes := [7, 1, 2, 3, 4, 5, 6, 7, 8, 9, 10, 11, 12, 13, 14, 15, 16, 17, 18, 19, 20, 21, 22, 23, 24, 3, 9, 4, 1, 5, 9, 2, 6, 5, 3, 5,
      8, 9, 7, 9, 3, 2, 3, 8, 4, 6, 2, 6, 4, 3, 3, 8, 3, 2, 7, 9]
    p.valid ∧
    (chunkAll p hh [X]).map (·.map List.length) = some [4, 4, 4, 4, 4, 4, 4, 4, 4, 4, 4, 8, 4] ∧
    (chunkAll p hh (resplit 22 [X])).map (·.map List.length) = some [4, 4, 4, 4, 4, 4, 4, 4, 4, 4, 4, 8, 4] ∧
    (feedBlockFinal p hh 22 [] [X]).map (·.map List.length) = some [4, 4, 8, 6, 4, 4, 8, 6, 8, 4] := by
  decide +kernel

/-- **restart_at_boundary.** The chunks the adapter produces after any of its boundaries `b` are a chunking of
`S.drop b` that starts with the greedy chunking of `S.drop b` (which depends on nothing before `b`) and leaves
only the tail zone. -/
theorem restart_at_boundary (p : CParams) (hv : p.valid) (h : Hash) (pieces : List Bytes) (pre post : List Bytes)
    (hc : chunkAll p h pieces = some (pre ++ post)) :
    ∃ g tail, greedyFull p h (pieces.flatten.drop pre.flatten.length) = some g ∧ post = g ++ tail ∧
      post.flatten = pieces.flatten.drop pre.flatten.length ∧
      pieces.flatten.length - pre.flatten.length < g.flatten.length + 2 * p.max := by
  obtain ⟨g, tail, hg, hpost, hcov⟩ := ((chunkAll_greedy hv hc).restart hv).cover hv
  refine ⟨g, tail, hg, hpost, ?_, List.length_drop ▸ hcov⟩
  rw [← C10.chunk_lossless p hv h pieces _ hc, List.flatten_append, List.drop_left]

/-- The same for the segmentation-independent chunking itself: the chunks after a boundary are exactly the greedy
chunking of the rest of the stream. -/
theorem greedy_restart_at_boundary (p : CParams) (hv : p.valid) (h : Hash) (s : Bytes) (pre post : List Bytes)
    (hg : greedyFull p h s = some (pre ++ post)) : greedyFull p h (s.drop pre.flatten.length) = some post :=
  greedyFull_restart hv hg

/-- **suffix_sync.** Streams `P₁ ++ X` and `P₂ ++ X`, in any segmentation: if both results have a boundary at the same
offset `o` of `X`, then from there on both consist of the same chunks `g` (the greedy chunking of `X.drop o`, which
covers everything up to the tail zone), followed by tails that carry the same bytes. -/
theorem suffix_sync (p : CParams) (hv : p.valid) (h : Hash) (piecesA piecesB : List Bytes) (P1 P2 X : Bytes)
    (hA : piecesA.flatten = P1 ++ X) (hB : piecesB.flatten = P2 ++ X)
    (preA postA preB postB : List Bytes)
    (ha : chunkAll p h piecesA = some (preA ++ postA)) (hb : chunkAll p h piecesB = some (preB ++ postB))
    (o : Nat) (hoa : preA.flatten.length = P1.length + o) (hob : preB.flatten.length = P2.length + o) :
    ∃ g tailA tailB, greedyFull p h (X.drop o) = some g ∧ postA = g ++ tailA ∧ postB = g ++ tailB ∧
      tailA.flatten = tailB.flatten ∧ X.length - o < g.flatten.length + 2 * p.max := by
  obtain ⟨gA, tA, hgA, rfl, hfA, hcA⟩ := restart_at_boundary p hv h piecesA preA postA ha
  obtain ⟨gB, tB, hgB, rfl, hfB, _⟩ := restart_at_boundary p hv h piecesB preB postB hb
  -- both rests are `X.drop o`
  rw [hA, hoa, drop_append_length_add] at hgA hfA
  rw [hB, hob, drop_append_length_add, hgA] at hgB
  rw [hB, hob, drop_append_length_add, ← hfA, List.flatten_append, List.flatten_append] at hfB
  cases hgB
  refine ⟨gA, tA, tB, hgA, rfl, rfl, (List.append_cancel_left hfB).symm, ?_⟩
  rwa [hA, hoa, List.length_append, Nat.add_sub_add_left] at hcA

/-- **edit_prefix_stable.** Streams `U ++ Y` and `U ++ Y'` (an edit after `U`): the two results share a common prefix
of chunks lying inside `U` that extends until less than `ceil4 max` bytes of `U` are left — i.e. every chunk with
`start + ceil4 max ≤ |U|` is identical — unless one of the streams already ends there (its tail zone). -/
theorem edit_prefix_stable (p : CParams) (hv : p.valid) (h : Hash) (piecesA piecesB : List Bytes) (U Y Y' : Bytes)
    (hA : piecesA.flatten = U ++ Y) (hB : piecesB.flatten = U ++ Y') (ca cb : List Bytes)
    (ha : chunkAll p h piecesA = some ca) (hb : chunkAll p h piecesB = some cb) :
    ∃ common ra rb, ca = common ++ ra ∧ cb = common ++ rb ∧ common.flatten.length ≤ U.length ∧
      (U.length < common.flatten.length + ceil4 p.max ∨
       (U ++ Y).length < common.flatten.length + 2 * p.max ∨
       (U ++ Y').length < common.flatten.length + 2 * p.max) :=
  (hA ▸ chunkAll_greedy hv ha).common_prefix hv (hB ▸ chunkAll_greedy hv hb)

/-- **edit_suffix_stable.** A local edit `U ++ M ++ X` ↦ `U ++ M' ++ X` (insert / delete / overwrite of any lengths): once
both results have a boundary at the same offset of `X`, all later chunks are identical up to the tail zone. -/
theorem edit_suffix_stable (p : CParams) (hv : p.valid) (h : Hash) (piecesA piecesB : List Bytes) (U M M' X : Bytes)
    (hA : piecesA.flatten = U ++ M ++ X) (hB : piecesB.flatten = U ++ M' ++ X)
    (preA postA preB postB : List Bytes)
    (ha : chunkAll p h piecesA = some (preA ++ postA)) (hb : chunkAll p h piecesB = some (preB ++ postB))
    (o : Nat) (hoa : preA.flatten.length = U.length + M.length + o) (hob : preB.flatten.length = U.length + M'.length + o) :
    ∃ g tailA tailB, postA = g ++ tailA ∧ postB = g ++ tailB ∧ tailA.flatten = tailB.flatten ∧
      X.length - o < g.flatten.length + 2 * p.max := by
  obtain ⟨g, tA, tB, _, h1, h2, h3, h4⟩ := suffix_sync p hv h piecesA piecesB (U ++ M) (U ++ M') X hA hB preA postA preB postB ha hb o
    (by rwa [List.length_append]) (by rwa [List.length_append])
  exact ⟨g, tA, tB, h1, h2, h3, h4⟩

/-- **edit_window_partial** — the property's main sentence, *conditional* on re-synchronisation.
Hypothesis spelled out: both results have a boundary at the same offset `o` of the unchanged rest `X` (`hoa`, `hob`).  Then the
two chunk lists are `common ++ midA ++ g ++ tailA` and `common ++ midB ++ g ++ tailB`: identical chunks `common` up to less
than `ceil4 max` before the edit, identical chunks `g` from the common boundary to the tail zone; the differing chunks
`midA` / `midB` cover only the byte window `[|common|, |U| + |M| + o)` resp. `[|common|, |U| + |M'| + o)` around the edit.
MISSING (not a theorem, see `resync_not_universal_witness`): that such an `o` exists within a bounded distance of the edit —
checked statistically on the implementation for high-entropy data (`c11:resync-distance-exceeded(statistical)`). -/
theorem edit_window_partial (p : CParams) (hv : p.valid) (h : Hash) (piecesA piecesB : List Bytes) (U M M' X : Bytes)
    (hA : piecesA.flatten = U ++ M ++ X) (hB : piecesB.flatten = U ++ M' ++ X)
    (preA postA preB postB : List Bytes)
    (ha : chunkAll p h piecesA = some (preA ++ postA)) (hb : chunkAll p h piecesB = some (preB ++ postB))
    (o : Nat) (hoa : preA.flatten.length = U.length + M.length + o) (hob : preB.flatten.length = U.length + M'.length + o) :
    ∃ common midA midB g tailA tailB,
      preA ++ postA = common ++ midA ++ g ++ tailA ∧ preB ++ postB = common ++ midB ++ g ++ tailB ∧
      common.flatten.length ≤ U.length ∧
      (U.length < common.flatten.length + ceil4 p.max ∨
       (U ++ M ++ X).length < common.flatten.length + 2 * p.max ∨
       (U ++ M' ++ X).length < common.flatten.length + 2 * p.max) ∧
      (common ++ midA).flatten.length = U.length + M.length + o ∧
      (common ++ midB).flatten.length = U.length + M'.length + o ∧
      tailA.flatten = tailB.flatten ∧ X.length - o < g.flatten.length + 2 * p.max := by
  obtain ⟨common, ra, rb, hca, hcb, hle, hor⟩ :=
    edit_prefix_stable p hv h piecesA piecesB U (M ++ X) (M' ++ X) (by rw [hA, List.append_assoc]) (by rw [hB, List.append_assoc]) _ _ ha hb
  -- `common` ends inside `U`, before the common boundary, so it is a prefix of `preA` and of `preB`
  obtain ⟨midA, hmA⟩ := prefix_of_flatten_le hca.symm (hca ▸ C10.chunk_nonempty p hv.2.1 h piecesA _ ha)
    (hoa ▸ Nat.le_trans hle (Nat.le_add_right_of_le (Nat.le_add_right _ _)))
  obtain ⟨midB, hmB⟩ := prefix_of_flatten_le hcb.symm (hcb ▸ C10.chunk_nonempty p hv.2.1 h piecesB _ hb)
    (hob ▸ Nat.le_trans hle (Nat.le_add_right_of_le (Nat.le_add_right _ _)))
  obtain ⟨g, tA, tB, hpA, hpB, ht, hcov⟩ :=
    edit_suffix_stable p hv h piecesA piecesB U M M' X hA hB preA postA preB postB ha hb o hoa hob
  refine ⟨common, midA, midB, g, tA, tB, ?_, ?_, hle, ?_, hmA ▸ hoa, hmB ▸ hob, ht, hcov⟩
  · rw [hmA, hpA, List.append_assoc, List.append_assoc, List.append_assoc]
  · rw [hmB, hpB, List.append_assoc, List.append_assoc, List.append_assoc]
  · rwa [List.append_assoc, List.append_assoc]

/-- **shared_segment_sync.** The same byte string `F` embedded in two different streams (`P₁ ++ F ++ Q₁`, `P₂ ++ F ++ Q₂` —
e.g. one file in two snapshot streams): if both results have a boundary at the same offset `o` of `F`, the chunks
after it coincide until less than `ceil4 max` bytes of `F` are left (or a stream reaches its tail zone). -/
theorem shared_segment_sync (p : CParams) (hv : p.valid) (h : Hash) (piecesA piecesB : List Bytes) (P1 Q1 P2 Q2 F : Bytes)
    (hA : piecesA.flatten = P1 ++ F ++ Q1) (hB : piecesB.flatten = P2 ++ F ++ Q2)
    (preA postA preB postB : List Bytes)
    (ha : chunkAll p h piecesA = some (preA ++ postA)) (hb : chunkAll p h piecesB = some (preB ++ postB))
    (o : Nat) (ho : o ≤ F.length) (hoa : preA.flatten.length = P1.length + o) (hob : preB.flatten.length = P2.length + o) :
    ∃ common ra rb, postA = common ++ ra ∧ postB = common ++ rb ∧ common.flatten.length ≤ F.length - o ∧
      (F.length - o < common.flatten.length + ceil4 p.max ∨
       F.length - o + Q1.length < common.flatten.length + 2 * p.max ∨
       F.length - o + Q2.length < common.flatten.length + 2 * p.max) := by
  -- the rests after the boundaries are `F.drop o ++ Q₁` and `F.drop o ++ Q₂`
  have hpa := (chunkAll_greedy hv ha).restart hv
  have hpb := (chunkAll_greedy hv hb).restart hv
  rw [hA, hoa, List.append_assoc, drop_append_length_add, List.drop_append_of_le_length ho] at hpa
  rw [hB, hob, List.append_assoc, drop_append_length_add, List.drop_append_of_le_length ho] at hpb
  have := hpa.common_prefix hv hpb
  rwa [List.length_append, List.length_append, List.length_drop] at this

/-- **adapter_cuts_native_only.** The code's loop takes every cut position from `next_cut` on the current buffer: the extractor
finds no value that reaches a slice bound of the reassembly buffer other than `<chunker>.next_cut(<that buffer>, …)`
(`Gen.adapterCutsNotFromNextCut = []`, `Gen.adapterNextCutOnCurrentBuffer`), so the loop with "whatever rule the Python code
evaluates before `next_cut`" (`chunkAllH … (adapterRule unknown)`, for EVERY `unknown`) is the model's `chunkAll`, and every
theorem of this file speaks about it.  An edit that computes a cut in Python (a remembered length, "the run of identical data
goes on", a counter) makes this stop compiling; the harness then searches on low-entropy streams (runs of one byte and periodic
data of every length class around `max + min` and `2·max`, followed by ordinary data) by re-chunking every stream from its own
boundaries. -/
theorem adapter_cuts_native_only (unknown : PyRule) (p : CParams) (h : Hash) (pieces : List Bytes) :
    chunkAllH p h (adapterRule unknown) pieces = chunkAll p h pieces := by
  rw [adapterRule_eq unknown]
  exact chunkAllH_agrees (noPyRule_agrees p h) pieces

/-- What a fast path may do: a rule evaluated in the loop — whatever it remembers about earlier chunks — is harmless iff each of
its answers is what `next_cut` answers on the same buffer and finality (for instance a correct memo of `next_cut`). -/
theorem agreeing_rule_harmless (p : CParams) (h : Hash) (rule : PyRule)
    (hr : ∀ (prev : Option Bytes) (buf : Bytes) (final : Bool) (pos : Nat), rule prev buf final = some pos → nextCut p h buf final = some pos)
    (pieces : List Bytes) : chunkAllH p h rule pieces = chunkAll p h pieces :=
  chunkAllH_agrees hr pieces

/-- **rechunk_from_boundary** — the direct oracle's statement.  Re-chunking a stream from any of its own boundaries `b` (the rest
of the stream handed over again, in any segmentation, to the loop as the code runs it) reproduces the chunks after `b` up to the
tail zone: cuts after a boundary are a function of the content after that boundary, never of the chunks before it. -/
theorem rechunk_from_boundary (unknown : PyRule) (p : CParams) (hv : p.valid) (h : Hash) (pieces pieces' : List Bytes)
    (pre post cs' : List Bytes)
    (hc : chunkAllH p h (adapterRule unknown) pieces = some (pre ++ post))
    (hs : pieces'.flatten = pieces.flatten.drop pre.flatten.length)
    (hc' : chunkAllH p h (adapterRule unknown) pieces' = some cs') :
    ∃ g tail tail', post = g ++ tail ∧ cs' = g ++ tail' ∧ pieces'.flatten.length < g.flatten.length + 2 * p.max := by
  rw [adapter_cuts_native_only] at hc hc'
  exact (hs ▸ (chunkAll_greedy hv hc).restart hv).pair hv (chunkAll_greedy hv hc')

/-- The same for a WINDOW of the rest (what the harness does on multi-megabyte streams): re-chunking only the `K` bytes after the
boundary reproduces the chunks after it until less than `2·max` bytes of the window (or of the stream) are left. -/
theorem rechunk_window_from_boundary (unknown : PyRule) (p : CParams) (hv : p.valid) (h : Hash) (pieces pieces' : List Bytes)
    (pre post cs' : List Bytes) (K : Nat)
    (hc : chunkAllH p h (adapterRule unknown) pieces = some (pre ++ post))
    (hs : pieces'.flatten = (pieces.flatten.drop pre.flatten.length).take K)
    (hc' : chunkAllH p h (adapterRule unknown) pieces' = some cs') :
    ∃ common ra rb, post = common ++ ra ∧ cs' = common ++ rb ∧
      (pieces'.flatten.length < common.flatten.length + 2 * p.max ∨
       pieces.flatten.length - pre.flatten.length < common.flatten.length + 2 * p.max) := by
  rw [adapter_cuts_native_only] at hc hc'
  have hpa := (chunkAll_greedy hv hc).restart hv
  have hpb := chunkAll_greedy hv hc'
  -- the window is a prefix of the rest of the stream: `rest = window ++ rest.drop K`, `window = window ++ []`
  rw [← List.take_append_drop K (pieces.flatten.drop pre.flatten.length), ← hs] at hpa
  rw [← List.append_nil pieces'.flatten] at hpb
  obtain ⟨common, ra, rb, h1, h2, _, hor⟩ := hpa.common_prefix hv hpb
  refine ⟨common, ra, rb, h1, h2, ?_⟩
  rcases hor with hor | hor | hor
  · exact Or.inl (Nat.lt_of_lt_of_le hor (Nat.add_le_add_left (valid_ceil_le hv) _))
  · right
    rwa [hs, List.take_append_drop, List.length_drop] at hor
  · left
    rwa [List.append_nil] at hor

/-- Why the cut must come from `next_cut` on the current buffer: the "run of identical data" fast path (`repeatForced`: after a
forced cut, if the buffer starts with the same bytes again, cut at the forced length again) equals the native rule while the
whole scan window is uniform, but at the END of a run it keeps cutting `ceil4 min` pieces where the native rule picks the hash
maximum in the data that follows.  Stream: 24 zero bytes, then 56 ordinary bytes; `16` is a boundary of both loops.  The
fast-path loop cuts `4, 4, 8, …` after it, but re-chunking the same loop from that boundary gives `12, 12, 8, …` (first chunk after
the boundary, 64 bytes before the end; tail zone = last 32) — its cuts depend on the chunks before the boundary.  The adapter's
loop gives `12, 12, 8, …` both times. -/
theorem history_rule_breaks_restart_witness :
    let p : CParams := ⟨4, 16⟩
    let hh : Hash := fun w => (w.headD 0).toNat
    let S : Bytes := List.replicate 24 0 ++ [3, 1, 4, 1, 5, 9, 2, 6, 5, 3, 5, 8, 9, 7, 9, 3, 2, 3, 8, 4, 6, 2, 6, 4, 3, 3, 8, 3, 2, 7, 9, 5,
      1, 2, 3, 4, 5, 6, 7, 8, 9, 10, 11, 12, 13, 14, 15, 16, 17, 18, 19, 20, 21, 22, 23, 24]
    p.valid ∧
    (chunkAll p hh [S]).map (·.map List.length) = some [4, 4, 4, 4, 12, 12, 8, 4, 16, 12] ∧
    (chunkAll p hh [S.drop 16]).map (·.map List.length) = some [12, 12, 8, 4, 16, 12] ∧
    (chunkAllH p hh (repeatForced p) [S]).map (·.map List.length) = some [4, 4, 4, 4, 4, 4, 8, 8, 8, 4, 16, 12] ∧
    (chunkAllH p hh (repeatForced p) [S.drop 16]).map (·.map List.length) = some [12, 12, 8, 4, 16, 12] := by
  decide +kernel

/-- Every boundary outside the tail zone is a multiple of the alignment. -/
theorem boundaries_aligned (p : CParams) (hv : p.valid) (h : Hash) (pieces : List Bytes) (pre post : List Bytes)
    (hc : chunkAll p h pieces = some (pre ++ post)) (hz : pre.flatten.length + 2 * p.max ≤ pieces.flatten.length) :
    Gen.align ∣ pre.flatten.length :=
  (chunkAll_greedy hv hc).aligned hv hz

/-- Consequently two streams `P₁ ++ X`, `P₂ ++ X` whose prefix lengths differ modulo the alignment have **no** common
boundary outside their tail zones — they never re-synchronise.  This is why the snapshot stream pads files. -/
theorem misaligned_never_sync (p : CParams) (hv : p.valid) (h : Hash) (piecesA piecesB : List Bytes) (P1 P2 X : Bytes)
    (hA : piecesA.flatten = P1 ++ X) (hB : piecesB.flatten = P2 ++ X)
    (hmis : P1.length % Gen.align ≠ P2.length % Gen.align)
    (preA postA preB postB : List Bytes)
    (ha : chunkAll p h piecesA = some (preA ++ postA)) (hb : chunkAll p h piecesB = some (preB ++ postB))
    (o : Nat) (hoa : preA.flatten.length = P1.length + o) (hob : preB.flatten.length = P2.length + o) :
    X.length < o + 2 * p.max := by
  refine Decidable.by_contra fun hz => hmis ?_
  -- the boundary at offset `o` of `X` would lie outside the tail zone of either stream
  have hz' : ∀ P : Bytes, P.length + o + 2 * p.max ≤ (P ++ X).length := fun P => by
    rw [List.length_append, Nat.add_assoc]
    exact Nat.add_le_add_left (Nat.le_of_not_lt hz) _
  have h1 := boundaries_aligned p hv h piecesA preA postA ha (hA ▸ hoa ▸ hz' P1)
  have h2 := boundaries_aligned p hv h piecesB preB postB hb (hB ▸ hob ▸ hz' P2)
  rw [hoa] at h1
  rw [hob] at h2
  exact mod_eq_of_dvd_add h1 h2

/-- **padded_starts_aligned.** In the snapshot stream (`_stream_files`: every file but the last is followed by
`-(len) % alignment` zero bytes) every file starts at a multiple of the alignment, whatever precedes it; hence equal
files in two snapshots sit at equal offsets modulo the alignment and `shared_segment_sync` applies to them. -/
theorem padded_starts_aligned (pre : List Bytes) (f : Bytes) (post : List Bytes) :
    ∃ Q, padStream (pre ++ f :: post) = padPrefix pre ++ f ++ Q ∧ Gen.align ∣ (padPrefix pre).length := by
  obtain ⟨Q, hQ⟩ := padStream_head f post
  exact ⟨Q, by rw [padStream_split, hQ, List.append_assoc], padPrefix_aligned pre⟩

/-- The pieces `_stream_files` yields concatenate to the padded stream (so every theorem above applies to the
adapter run on them), and the padding never exceeds `alignment - 1` bytes per file. -/
theorem padded_stream_pieces (files : List Bytes) (len : Nat) :
    (padPieces files).flatten = padStream files ∧ (padOf len).length < Gen.align ∧ Gen.align ∣ len + (padOf len).length := by
  refine ⟨padPieces_flatten files, ?_, ?_⟩
  · rw [padOf_length]
    exact padding_lt len
  · rw [padOf_length]
    exact padding_dvd len

/-- **key_only_through_hash.** The result depends on the key only through the values of the keyed hash on 8-byte
windows: two hash functions that agree on all 8-byte strings give identical results on every input. -/
theorem key_only_through_hash (p : CParams) (h h' : Hash) (hh : ∀ w : Bytes, w.length = 8 → h w = h' w)
    (pieces : List Bytes) (s : Bytes) :
    chunkAll p h pieces = chunkAll p h' pieces ∧ greedyFull p h s = greedyFull p h' s :=
  ⟨feed_congr p hh pieces [], greedy_congr p hh _ s⟩

/-- The hash does matter: two hash functions cutting one stream differently (model-level counterpart of the
implementation's `test_personalization`; for concrete keys see the statistical check in the harness). -/
theorem hash_matters_witness :
    (⟨4, 12⟩ : CParams).valid ∧
    chunkAll ⟨4, 12⟩ (fun w => (w.headD 0).toNat) [[0, 0, 0, 0, 1, 0, 0, 0, 9, 0, 0, 0, 0, 0, 0, 0, 0, 0, 0, 0, 0, 0, 0, 0, 0, 0, 0, 0]] ≠
    chunkAll ⟨4, 12⟩ (fun w => 255 - (w.headD 0).toNat) [[0, 0, 0, 0, 1, 0, 0, 0, 9, 0, 0, 0, 0, 0, 0, 0, 0, 0, 0, 0, 0, 0, 0, 0, 0, 0, 0, 0]] := by
  decide +kernel

/-- Two concrete 16-byte keys (k0 = 1 resp. 3, k1 = 0) under the executable CLMUL model of `gclmulchunker::key` cut
the 28-byte stream 1, 2, …, 28 differently (lengths 8,12,8 vs 4,8,12,4).  The harness replays exactly this case on the
rebuilt C++ (corpus), so the witness is tied to the implementation. -/
theorem keys_differ_witness :
    let S : Bytes := [1, 2, 3, 4, 5, 6, 7, 8, 9, 10, 11, 12, 13, 14, 15, 16, 17, 18, 19, 20, 21, 22, 23, 24, 25, 26, 27, 28]
    let K1 : Bytes := [1, 0, 0, 0, 0, 0, 0, 0, 0, 0, 0, 0, 0, 0, 0, 0]
    let K2 : Bytes := [3, 0, 0, 0, 0, 0, 0, 0, 0, 0, 0, 0, 0, 0, 0, 0]
    (chunkAll ⟨4, 12⟩ (clmulHash K1) [S]).map (·.map List.length) = some [8, 12, 8] ∧
    (chunkAll ⟨4, 12⟩ (clmulHash K2) [S]).map (·.map List.length) = some [4, 8, 12, 4] := by
  decide +kernel

/-! ## why "within a bounded distance" cannot be a theorem -/

/-- An adversarial (zero-entropy) suffix never re-synchronises although the prefixes are aligned: on constant data
every cut is forced to `ceil4 min = 8`, so after prefixes of 0 and 4 bytes the boundaries outside the tail zones are
`{0, 8, …, 32}` in both streams, i.e. `{0, 8, …}` and `{4, 12, …}` as offsets of `X` — no common boundary.
The real chunker behaves the same on all-zero data (window 0 hashes to the constant `k1`). -/
theorem resync_not_universal_witness :
    let p : CParams := ⟨8, 16⟩
    let X : Bytes := List.replicate 64 0
    let hz : Hash := fun _ => 7
    p.valid ∧
    (chunkAll p hz [X]).map (fun cs => boundaries (cs.map List.length)) = some [0, 8, 16, 24, 32, 40, 56, 64] ∧
    (chunkAll p hz [List.replicate 4 0 ++ X]).map (fun cs => boundaries (cs.map List.length)) = some [0, 8, 16, 24, 32, 40, 56, 68] ∧
    firstCommon 0 4 [0, 8, 16, 24, 32] [0, 8, 16, 24, 32] = none := by
  decide +kernel

/-- a concrete instance of the hypotheses of `suffix_sync` (common boundary at offset 4 of `X`, prefixes 4 and 8 bytes) -/
example :
    let p : CParams := ⟨4, 8⟩
    let hh : Hash := fun w => (w.headD 0).toNat
    let X : Bytes := [9, 9, 9, 9, 1, 2, 3, 4, 5, 6, 7, 8, 9, 10, 11, 12, 13, 14, 15, 16, 17, 18, 19, 20, 21, 22, 23, 24]
    p.valid ∧
    chunkAll p hh [[0, 0, 0, 0] ++ X] = some ([[0, 0, 0, 0], [9, 9, 9, 9]] ++ [[1, 2, 3, 4], [5, 6, 7, 8], [9, 10, 11, 12], [13, 14, 15, 16, 17, 18, 19, 20], [21, 22, 23, 24]]) ∧
    chunkAll p hh [[0, 0, 0, 0, 0, 0], [0, 0] ++ X] = some ([[0, 0, 0, 0], [0, 0, 0, 0], [9, 9, 9, 9]] ++ [[1, 2, 3, 4], [5, 6, 7, 8], [9, 10, 11, 12], [13, 14, 15, 16, 17, 18, 19, 20], [21, 22, 23, 24]]) := by
  decide +kernel

end Replicat.C11
