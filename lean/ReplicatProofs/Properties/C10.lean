import ReplicatProofs.Lemmas.ChunkerLocal
/-!
# C10 — the chunker is a lossless, bounded, deterministic function of the stream

All statements hold for every hash function `h` (hence every 16-byte key), every piece list (including empty and
one-byte pieces).
`chunkAll … = some cs` means: the run completed without any 8-byte window load leaving the buffer.
-/
namespace Replicat.C10
open Replicat

/-- bounds + alignment of one chunk -/
def Good (p : CParams) (c : Bytes) : Prop := p.min ≤ c.length ∧ c.length ≤ p.max ∧ Gen.align ∣ c.length

theorem feed_lossless (p : CParams) (hv : p.valid) (h : Hash) (buf : Bytes) (ps : List Bytes) (cs : List Bytes)
    (hne : ps ≠ []) (hf : feed p h buf ps = some cs) : cs.flatten = buf ++ ps.flatten := by
  revert hne
  refine feed_induct ?_ ?_ ?_ buf ps cs hf
  · intro _ hne
    exact absurd rfl hne
  · intro buf pc cs rest hd _
    have hl := drain_lossless p h true _ _ _ _ hd
    -- the final drain leaves nothing: it stops at a cut of 0, which a final buffer gets only when it is empty
    have hs := drain_stops hv.2.1 (Nat.lt_succ_self _) hd
    rw [nextCut_final_zero hv hs, List.append_nil] at hl
    rw [hl, List.flatten_cons, List.flatten_nil, List.append_nil]
  · intro buf pc q ps cs rest cs' hd ih _
    rw [List.flatten_append, ih (List.cons_ne_nil _ _), ← List.append_assoc, drain_lossless p h false _ _ _ _ hd,
      List.append_assoc]
    rfl

/-- **Lossless.** For valid parameters the concatenation of the produced chunks is the input. -/
theorem chunk_lossless (p : CParams) (hv : p.valid) (h : Hash) (pieces : List Bytes) (cs : List Bytes)
    (hc : chunkAll p h pieces = some cs) : cs.flatten = pieces.flatten := by
  cases pieces with
  | nil =>
    cases hc
    rfl
  | cons pc ps => exact feed_lossless p hv h [] (pc :: ps) cs (List.cons_ne_nil _ _) hc

/-- Without any assumption on the parameters nothing is ever duplicated or reordered:
the chunks always form a prefix of the input (slicing follows Python). -/
theorem chunk_prefix_unconditional (p : CParams) (h : Hash) (pieces : List Bytes) (cs : List Bytes)
    (hc : chunkAll p h pieces = some cs) : ∃ rest, cs.flatten ++ rest = pieces.flatten := by
  refine feed_induct (motive := fun buf ps cs => ∃ rest, cs.flatten ++ rest = buf ++ ps.flatten) ?_ ?_ ?_ [] pieces cs hc
  · intro buf
    exact ⟨buf, (List.append_nil buf).symm⟩
  · intro buf pc cs rest hd
    exact ⟨rest, by rw [drain_lossless p h true _ _ _ _ hd, List.flatten_cons, List.flatten_nil, List.append_nil]⟩
  · intro buf pc q ps cs rest cs' hd ⟨r, hr⟩
    refine ⟨r, ?_⟩
    rw [List.flatten_append, List.append_assoc, hr, ← List.append_assoc, drain_lossless p h false _ _ _ _ hd, List.append_assoc]
    rfl

theorem feed_nonempty (p : CParams) (hmm : p.min ≤ p.max) (h : Hash) (buf : Bytes) (ps : List Bytes)
    (cs : List Bytes) (hf : feed p h buf ps = some cs) : ∀ c ∈ cs, c ≠ [] := by
  refine feed_induct ?_ ?_ ?_ buf ps cs hf
  · intro _ c hc
    cases hc
  · intro buf pc cs rest hd
    exact drain_nonempty' hmm hd
  · intro buf pc q ps cs rest cs' hd ih c hc
    rcases List.mem_append.mp hc with hc | hc
    · exact drain_nonempty' hmm hd c hc
    · exact ih c hc

/-- **No chunk is empty.** (Needs only `min ≤ max`, which the constructor enforces.) -/
theorem chunk_nonempty (p : CParams) (hmm : p.min ≤ p.max) (h : Hash) (pieces : List Bytes) (cs : List Bytes)
    (hc : chunkAll p h pieces = some cs) : ∀ c ∈ cs, c ≠ [] :=
  feed_nonempty p hmm h [] pieces cs hc

/-! ## termination: the adapter's inner loop stops because the cut is 0, never because the model's fuel ran out -/
theorem chunk_loop_stops_by_zero_cut (p : CParams) (hmm : p.min ≤ p.max) (h : Hash) (final : Bool) (buf : Bytes)
    (cs : List Bytes) (rest : Bytes) (hd : drain p h final (drainFuel buf) buf = some (cs, rest)) :
    nextCut p h rest final = some 0 :=
  drain_stops hmm (Nat.lt_succ_self _) hd

theorem drain_bounds (p : CParams) (hv : p.valid) (h : Hash) (final : Bool) (fuel : Nat) (buf : Bytes)
    (cs : List Bytes) (rest : Bytes) (hd : drain p h final fuel buf = some (cs, rest))
    (pre : List Bytes) (c : Bytes) (post : List Bytes) (hcs : cs = pre ++ c :: post)
    (hz : final = true → pre.flatten.length + 2 * p.max ≤ buf.length) : Good p c := by
  revert pre
  refine drain_induct ?_ ?_ fuel buf cs rest hd
  · intro _ _ _ pre hcs
    cases pre <;> cases hcs
  · intro _ buf pos cs rest hpos hne ih pre hcs hz
    obtain ⟨hm, hlen⟩ := nextCut_main hv hpos hne fun hf =>
      Nat.le_trans (Nat.le_add_left _ _) (hz hf)
    have hb := mainCut_bounds p hv h buf pos hm
    have hx : (buf.take pos).length = pos :=
      List.length_take_of_le (Nat.le_trans hb.2.1 (Nat.le_trans (le_ceil4 p.max) hlen))
    cases pre with
    | nil =>
      cases hcs
      unfold Good
      rw [hx, Gen.align_eq]
      exact hb
    | cons x pre' =>
      cases hcs
      refine ih pre' rfl fun hf => ?_
      have := hz hf
      rw [List.flatten_cons, List.length_append, hx, Nat.add_assoc] at this
      rw [List.length_drop]
      exact Nat.le_sub_of_add_le' this

theorem feed_bounds (p : CParams) (hv : p.valid) (h : Hash) (buf : Bytes) (ps : List Bytes) (cs : List Bytes)
    (hf : feed p h buf ps = some cs)
    (pre : List Bytes) (c : Bytes) (post : List Bytes) (hcs : cs = pre ++ c :: post)
    (hz : pre.flatten.length + 2 * p.max ≤ (buf ++ ps.flatten).length) : Good p c := by
  cases ps with
  | nil =>
    cases hf
    cases pre <;> cases hcs
  | cons pc ps =>
    -- the chunk starts before the tail zone, so it is one of the greedy chunks, and those are main-rule cuts
    have hp := feed_greedy hv (List.cons_ne_nil _ _) hf
    rw [hcs] at hp
    rcases hp.boundary_cases hv with ⟨m, tail, hg, hm⟩ | hlt
    · cases m with
      | nil => exact absurd hz (Nat.not_le.mpr (List.append_nil pre ▸ (greedyFull_lossless hv hg).2))
      | cons x m' =>
        cases hm
        exact greedyFull_good hv hg c (List.mem_append_right pre List.mem_cons_self)
    · exact absurd hz (Nat.not_le.mpr hlt)

/-- **Bounds.** Every chunk that begins at least two maximum lengths before the end of the stream has a
length within `[min, max]` that is a multiple of the alignment. -/
theorem chunk_bounds (p : CParams) (hv : p.valid) (h : Hash) (pieces : List Bytes) (cs : List Bytes)
    (hc : chunkAll p h pieces = some cs)
    (pre : List Bytes) (c : Bytes) (post : List Bytes) (hcs : cs = pre ++ c :: post)
    (hz : pre.flatten.length + 2 * p.max ≤ pieces.flatten.length) : Good p c :=
  feed_bounds p hv h [] pieces cs hc pre c post hcs hz

/-- **No out-of-bounds read.** For valid parameters no 8-byte window load ever leaves the buffer
("never by memory outside the data"), for every hash, stream and segmentation. -/
theorem chunk_no_oob (p : CParams) (hv : p.valid) (h : Hash) (pieces : List Bytes) :
    (chunkAll p h pieces).isSome :=
  feed_isSome h [] pieces (valid_ceil_le hv)

/-- With the wait guard `size < ceil4 max` the 10-byte non-final buffer for parameters (1, 10) is not scanned (a guard
`size < max` would scan it: D5). -/
theorem oob_regression_witness :
    (⟨1, 10⟩ : CParams).valid ∧
    nextCut ⟨1, 10⟩ (fun _ => 0) (List.replicate 10 0) false = some 0 := by
  constructor
  · decide
  · decide

/-- The parameter side condition is not vacuous and not over-strong: (5,7) has no aligned length in range;
the forced cut 8 exceeds max. -/
theorem invalid_params_witness :
    ¬ (⟨5, 7⟩ : CParams).valid ∧
    nextCut ⟨5, 7⟩ (fun _ => 0) (List.replicate 8 0) false = some 8 := by
  constructor
  · decide
  · decide

/-- **Split independence.** For valid parameters the result is the segmentation-independent greedy chunking of the stream
(`greedyFull`, a function of the bytes, the parameters and the hash only) followed by chunks that all start within the last
two maximum lengths of the stream — for every way of handing the stream over in pieces. -/
theorem chunk_split_indep (p : CParams) (hv : p.valid) (h : Hash) (pieces : List Bytes) (cs : List Bytes)
    (hc : chunkAll p h pieces = some cs) :
    ∃ g tail, greedyFull p h pieces.flatten = some g ∧ cs = g ++ tail ∧
      pieces.flatten.length < g.flatten.length + 2 * p.max :=
  (chunkAll_greedy hv hc).cover hv

/-- **Determinism.** The model of the adapter is a function: two runs on equal pieces, parameters and hash give equal
chunks (there is no hidden state between calls; the tie runs one chunker object over interleaved streams). Together with
`chunk_no_oob` (no byte outside the data is ever read) the result depends on nothing but the bytes and the parameters. -/
theorem chunk_deterministic (p : CParams) (h h' : Hash) (pieces : List Bytes)
    (hh : ∀ w : Bytes, w.length = 8 → h w = h' w) :
    chunkAll p h pieces = chunkAll p h' pieces :=
  feed_congr p hh pieces []

/-! ## independence from HOW the pieces are handed over (producers that reuse their buffers)

`Handed.later` — what a buffer reads as once the producer was asked for the following piece — is universally quantified:
a `readinto()` loop refilling one scratch buffer, a ring of buffers, a producer that wipes what it yielded before, … -/

/-- **Handover independence.** The adapter (with the read / request order extracted from the source) produces, over a
producer that rewrites every buffer it handed over as soon as it is asked for the next piece, exactly the chunks it produces
for the same pieces handed over as immutable values.  Discharges `Gen.adapterCopiesBeforePull` (regenerated from
`gclmulchunker.__call__` on every run): an adapter that requests piece N+1 before it has copied piece N breaks this proof. -/
theorem chunk_handover_indep (p : CParams) (h : Hash) (hs : List Handed) :
    chunkAllHanded p h hs = chunkAll p h (hs.map (·.now)) := by
  have hflag : Gen.adapterCopiesBeforePull = true := by decide
  unfold chunkAllHanded seenPieces
  rw [hflag]
  rfl

/-- **Lossless over reused buffers.** The concatenation of the chunks is the concatenation of what was in each buffer at the
moment it was yielded — whatever the producer writes into those buffers afterwards. -/
theorem chunk_lossless_handed (p : CParams) (hv : p.valid) (h : Hash) (hs : List Handed) (cs : List Bytes)
    (hc : chunkAllHanded p h hs = some cs) : cs.flatten = (hs.map (·.now)).flatten := by
  rw [chunk_handover_indep] at hc
  exact chunk_lossless p hv h _ cs hc

/-- The extracted order is what the two theorems above rest on (not vacuous, not over-strong): an adapter that asks for the
following piece first consumes the rewritten buffers — here the one-scratch-buffer producer of the stream `1 … 8` in two
4-byte pieces, whose first buffer reads `5 6 7 8` by the time it is copied. -/
theorem pull_before_copy_witness :
    let hs : List Handed := [⟨[1, 2, 3, 4], [5, 6, 7, 8]⟩, ⟨[5, 6, 7, 8], [5, 6, 7, 8]⟩]
    (chunkAll ⟨4, 8⟩ (fun _ => 0) (seenPieces false hs)).map List.flatten = some [5, 6, 7, 8, 5, 6, 7, 8] ∧
    (chunkAll ⟨4, 8⟩ (fun _ => 0) (seenPieces true hs)).map List.flatten = some [1, 2, 3, 4, 5, 6, 7, 8] := by
  decide +kernel

/-- non-vacuity: a concrete run satisfying the hypotheses of the theorems above -/
example : (⟨4, 8⟩ : CParams).valid ∧
    chunkAll ⟨4, 8⟩ (fun w => (w.headD 0).toNat) [[1, 2, 3, 4, 5], [], [6], [7, 8, 9, 10, 11, 12, 13, 14, 15, 16, 17, 18, 19, 20]]
      = some [[1, 2, 3, 4], [5, 6, 7, 8], [9, 10, 11, 12, 13, 14, 15, 16], [17, 18, 19, 20]] := by
  decide +kernel

end Replicat.C10
